/-
  Executable mirrors of the algorithmic core of sqlglot's Python executor (sqlglot/executor/env.py, python.py,
  context.py).  Each definition names the Python it mirrors.  No proofs here (Proofs/Exec*.lean, Properties/C11.lean).

  What is data (ENV wrapper kinds, the FIRST/LAST/NULL_PLACEHOLDER constants, the start/end index constants of
  aggregate()'s loop, the side sets of _append_unmatched_join_rows) is a parameter (`Cfg`), re-extracted from the
  source into Generated/C11.lean on every run.

  Modelled: sql_and / sql_or / sql_not / sql_in, null_if_any (all-arguments form) over comparison and arithmetic
  lambdas, filter_nulls + SUM/COUNT/MIN/MAX, ordered / reverse_key and tuple comparison, Context.sort's key,
  _join_matches, nested_loop_join, hash_join (ordered dict of buckets), _append_unmatched_join_rows,
  aggregate()'s run loop with its index arithmetic and its limit break, set_operation's Counter logic, the
  limit/offset slices.  Python values are None / bool / int / str in type-homogeneous columns; `==` is structural
  (Python's True == 1 coincidence is outside the fragment).  Thunks of sql_and/sql_or are pure here, so their
  laziness is unobservable.  NOT modelled: planner.Step.from_expression, PythonGenerator, Context readers,
  optimize() -- covered end-to-end by the search oracle only.
-/
import SqlglotModel.Sem.Rel

namespace SqlglotModel.Exec
open SqlglotModel.Sem

/-! ## env.py -/

inductive ArithOp where
  | add | sub | mul
deriving DecidableEq, Repr

structure Cfg where
  /-- env.FIRST, env.LAST, env.NULL_PLACEHOLDER -/
  first : Nat
  last : Nat
  placeholder : Nat
  /-- aggregate(): `start = 0`, `end = 1`, `set_range(start, end - 2)`, `start = end - 2`, `set_range(start, end - 1)` -/
  aggStart : Nat
  aggEnd : Nat
  aggEmitOff : Nat
  aggStartOff : Nat
  aggLastOff : Nat
  /-- _append_unmatched_join_rows: `side in (…)` tuples -/
  leftSides : List String
  rightSides : List String
  /-- ENV aggregates: filter_nulls(func, empty_null) -/
  countEmptyNull : Bool
  sumEmptyNull : Bool
  minEmptyNull : Bool
  maxEmptyNull : Bool
  /-- ENV binary entries of the form null_if_any(lambda x, y: x OP y) (all arguments required) -/
  cmpOps : List (String × CmpOp)
  arithOps : List (String × ArithOp)
deriving Repr, DecidableEq

/-- the configuration the unchanged source has; Properties/C11.lean checks `Generated.C11.cfg = stdCfg` (`generated_cfg_ok`) -/
def stdCfg : Cfg where
  first := 0
  last := 1
  placeholder := 0
  aggStart := 0
  aggEnd := 1
  aggEmitOff := 2
  aggStartOff := 2
  aggLastOff := 1
  leftSides := ["LEFT", "FULL"]
  rightSides := ["RIGHT", "FULL"]
  countEmptyNull := false
  sumEmptyNull := true
  minEmptyNull := true
  maxEmptyNull := true
  cmpOps := [("EQ", .eq), ("GT", .gt), ("GTE", .ge), ("LT", .lt), ("LTE", .le), ("NEQ", .ne)]
  arithOps := [("ADD", .add), ("MUL", .mul), ("SUB", .sub)]

-- Python `bool(v)` is `Sem.truthy`.

/-- `None if v is None else bool(v)` -/
def norm : Val → Val
  | .null => .null
  | v => .bool (truthy v)

/-- env.sql_not -/
def sqlNot : Val → Val
  | .null => .null
  | v => .bool (!truthy v)

/-- env.sql_and (left(), right() already evaluated: pure) -/
def sqlAnd (l r : Val) : Val :=
  if norm l = .bool false then .bool false
  else if norm r = .bool false then .bool false
  else if norm l = .null ∨ norm r = .null then .null
  else .bool true

/-- env.sql_or -/
def sqlOr (l r : Val) : Val :=
  if norm l = .bool true then .bool true
  else if norm r = .bool true then .bool true
  else if norm l = .null ∨ norm r = .null then .null
  else .bool false

/-- the candidate loop of env.sql_in -/
def sqlInLoop (v : Val) : List Val → Bool → Val
  | [], hasNull => if hasNull then .null else .bool false
  | c :: cs, hasNull =>
    if c = .null then sqlInLoop v cs true
    else if v = c then .bool true
    else sqlInLoop v cs hasNull

/-- env.sql_in -/
def sqlIn (v : Val) (cs : List Val) : Val :=
  if v = .null then .null else sqlInLoop v cs false

/-- env.null_if_any (no `required` names: every argument), binary -/
def nullIfAny2 (f : Val → Val → Val) (a b : Val) : Val :=
  if a = .null ∨ b = .null then .null else f a b

/-- Python comparison operators on values of one type -/
def pyCmp (op : CmpOp) (a b : Val) : Val := .bool (op.test (Val.cmp a b))

def pyArith (op : ArithOp) (a b : Val) : Val :=
  match op with
  | .add => .int (a.toInt + b.toInt)
  | .sub => .int (a.toInt - b.toInt)
  | .mul => .int (a.toInt * b.toInt)

def lookup {β} (k : String) : List (String × β) → Option β
  | [] => none
  | (k', v) :: rest => if k' = k then some v else lookup k rest

/-- ENV[name](a, b) for the binary entries the model knows; `none` = KeyError / not modelled -/
def envBin (c : Cfg) (name : String) (a b : Val) : Option Val :=
  match lookup name c.cmpOps with
  | some op => some (nullIfAny2 (pyCmp op) a b)
  | none =>
    match lookup name c.arithOps with
    | some op => some (nullIfAny2 (pyArith op) a b)
    | none => none

/-- `exp.<Class>.key.upper()`, the name PythonGenerator's `_rename` emits -/
def cmpName : CmpOp → String
  | .eq => "EQ" | .ne => "NEQ" | .lt => "LT" | .le => "LTE" | .gt => "GT" | .ge => "GTE"

/-- value of the Python source PythonGenerator emits for an expression, on a row (`none` = ENV lookup fails).
    `x IS [NOT] NULL` is `x is [not] None`; AND / OR get thunks (pure here). -/
def eval (c : Cfg) (row : Row) : Expr → Option Val
  | .col i => some (Sem.getCol row i)
  | .lit v => some v
  | .cmp op a b =>
    match eval c row a, eval c row b with
    | some x, some y => envBin c (cmpName op) x y
    | _, _ => none
  | .and a b =>
    match eval c row a, eval c row b with
    | some x, some y => some (sqlAnd x y)
    | _, _ => none
  | .or a b =>
    match eval c row a, eval c row b with
    | some x, some y => some (sqlOr x y)
    | _, _ => none
  | .not a => (eval c row a).map sqlNot
  | .isNull a negate => (eval c row a).map fun x => .bool (x.isNull != negate)
  | .inList a vs => (eval c row a).map fun x => sqlIn x vs

/-- the row loop of PythonExecutor._subquery_comparison over the subquery's first column:
    `result = compare(value, row[0])`; None sets saw_null; `bool(result) is is_any` returns early -/
def subqLoop (compare : Val → Val → Val) (isAny : Bool) (v : Val) : List Val → Bool → Val
  | [], sawNull => if sawNull then .null else .bool (!isAny)
  | x :: xs, sawNull =>
    if compare v x = .null then subqLoop compare isAny v xs true
    else if truthy (compare v x) = isAny then .bool isAny
    else subqLoop compare isAny v xs sawNull

/-- PythonExecutor._subquery_comparison(value, …, op, quantifier): `compare = self.env[op]`, `is_any = quantifier == "ANY"` -/
def subqueryComparison (c : Cfg) (op quantifier : String) (v : Val) (xs : List Val) : Option Val :=
  match lookup op c.cmpOps with
  | some o => some (subqLoop (nullIfAny2 (pyCmp o)) (quantifier == "ANY") v xs false)
  | none => none

/-- the ENV entry SUBQUERY_COMPARISON as PythonExecutor.__init__ registers it: the bound method itself, or (`wrapped`)
    `null_if_any("value")(self._subquery_comparison)`, which answers None for a None probe without looking at the rows -/
def subqueryComparisonEnv (wrapped : Bool) (c : Cfg) (op quantifier : String) (v : Val) (xs : List Val) : Option Val :=
  if wrapped && v.isNull then some .null else subqueryComparison c op quantifier v xs

/-- `x NOT IN (subquery)`: PythonGenerator's `NOT(SUBQUERY_COMPARISON(x, …, 'EQ', 'ANY'))` -/
def notInSubquery (wrapped : Bool) (c : Cfg) (v : Val) (xs : List Val) : Option Val :=
  (subqueryComparisonEnv wrapped c "EQ" "ANY" v xs).map sqlNot

/-! ### _subquery_table: the per-subquery memo keyed by the outer-column values -/

def assocGet {κ β} [DecidableEq κ] (k : κ) : List (κ × β) → Option β
  | [] => none
  | (k', b) :: rest => if k' = k then some b else assocGet k rest

/-- `try: return cache[args]  except KeyError: table = self.execute(plan, scope); cache[args] = table` -/
def memoStep {α κ β} [DecidableEq κ] (key : α → κ) (f : α → β) (cache : List (κ × β)) (a : α) : List (κ × β) × β :=
  match assocGet (key a) cache with
  | some b => (cache, b)
  | none => ((key a, f a) :: cache, f a)

/-- a correlated subquery evaluated once per outer row through the memo -/
def memoRun {α κ β} [DecidableEq κ] (key : α → κ) (f : α → β) : List α → List (κ × β) → List β
  | [], _ => []
  | a :: as, cache => (memoStep key f cache a).2 :: memoRun key f as (memoStep key f cache a).1

/-- how _compile_subquery turns `scope.external_columns` into the SUBQUERY_* argument list = the memo key
    (pinned from the source by the translator) -/
inductive SubqueryArgs where
  /-- `list(scope.external_columns)`: every outer column the subquery reads, table-qualified -/
  | allExternal
  /-- anything else (e.g. de-duplicated by bare column name) -/
  | other
deriving DecidableEq, Repr

/-- env.filter_nulls(func, empty_null) -/
def filterNulls (f : List Val → Val) (emptyNull : Bool) (vs : List Val) : Val :=
  let filtered := vs.filter (!·.isNull)
  if filtered = [] ∧ emptyNull then .null else f filtered

/-- Python `sum` of ints (start 0) -/
def pySum (vs : List Val) : Val := .int (vs.foldl (fun acc v => acc + v.toInt) 0)
/-- `lambda acc: sum(1 for _ in acc)` -/
def pyCount (vs : List Val) : Val := .int (vs.foldl (fun acc _ => acc + 1) 0)
/-- Python `min` / `max` on a non-empty sequence: the first extremal element (`dir` = .lt for min, .gt for max);
    on the empty sequence Python raises ValueError: `.null` stands for it and is unreachable behind filter_nulls(…, True) -/
def pyExtremum (dir : Ordering) : List Val → Val
  | [] => .null
  | v :: vs => vs.foldl (fun m x => if Val.cmp x m = dir then x else m) v

def envCount (c : Cfg) : List Val → Val := filterNulls pyCount c.countEmptyNull
def envSum (c : Cfg) : List Val → Val := filterNulls pySum c.sumEmptyNull
def envMin (c : Cfg) : List Val → Val := filterNulls (pyExtremum .lt) c.minEmptyNull
def envMax (c : Cfg) : List Val → Val := filterNulls (pyExtremum .gt) c.maxEmptyNull

/-! ### ordered() and the sort key -/
/-- second component of the tuple returned by env.ordered -/
inductive OVal where
  | plain (v : Val)
  | rev (v : Val)      -- reverse_key(v)
  | ph (n : Nat)       -- NULL_PLACEHOLDER
deriving DecidableEq, Repr

/-- env.ordered -/
def ordered (c : Cfg) (v : Val) (desc nullsFirst : Bool) : Nat × OVal :=
  if v = .null then (if nullsFirst then c.first else c.last, .ph c.placeholder)
  else (if nullsFirst then c.last else c.first, if desc then .rev v else .plain v)

/-- `a == b` on second components (reverse_key.__eq__: other.obj == self.obj); `none` = Python raises -/
def OVal.eq? : OVal → OVal → Option Bool
  | .plain a, .plain b => some (a = b)
  | .rev a, .rev b => some (b = a)
  | .ph a, .ph b => some (a = b)
  | _, _ => none

/-- `a < b` (reverse_key.__lt__: other.obj < self.obj) -/
def OVal.lt? : OVal → OVal → Option Bool
  | .plain a, .plain b => some (Val.cmp a b = .lt)
  | .rev a, .rev b => some (Val.cmp b a = .lt)
  | .ph a, .ph b => some (a < b)
  | _, _ => none

/-- Python comparison of two 2-tuples, as a three-way result: first differing position decides -/
def tupleCmp (a b : Nat × OVal) : Option Ordering :=
  if a.1 ≠ b.1 then some (if a.1 < b.1 then .lt else .gt)
  else match OVal.eq? a.2 b.2 with
    | none => none
    | some true => some .eq
    | some false =>
      match OVal.lt? a.2 b.2 with
      | none => none
      | some true => some .lt
      | some false => some .gt

/-- one ORDER BY item as the Sort step sees it -/
structure OrdItem where
  col : Nat
  desc : Bool
  nullsFirst : Bool
deriving Repr, DecidableEq

/-- Context.sort's key for a row under Sort.key: `tuple((t is None, t) for t in (ORDERED(col, desc, nf), …))`;
    `t` is a tuple, never None, so only the ordered tuples matter.  Lexicographic; errors (`none`) compare as equal
    (unreachable, see `ordered_key_spec`). -/
def sortKeyCmp (c : Cfg) : List OrdItem → Row → Row → Ordering
  | [], _, _ => .eq
  | it :: its, a, b =>
    match tupleCmp (ordered c (getCol a it.col) it.desc it.nullsFirst) (ordered c (getCol b it.col) it.desc it.nullsFirst) with
    | some .eq | none => sortKeyCmp c its a b
    | some o => o

/-- list.sort(key=…): a stable sort (`Sem.stableSort`) -/
def sortRows (c : Cfg) (items : List OrdItem) (rows : List Row) : List Row :=
  stableSort (fun a b => sortKeyCmp c items a b != .gt) rows

/-- PythonExecutor.sort's slice `rows[0 : offset + limit]` followed by _execute's `rows[offset:]` -/
def sliceLimitOffset (limit : Option Nat) (offset : Nat) (rows : List Row) : List Row :=
  match limit with
  | none => rows.drop offset
  | some n => (rows.take (offset + n)).drop offset

def sortStep (c : Cfg) (items : List OrdItem) (limit : Option Nat) (offset : Nat) (rows : List Row) : List Row :=
  sliceLimitOffset limit offset (sortRows c items rows)

/-- aggregate()'s `context.sort(group_by)`: key `tuple((t is None, t) for t in group key)`: NULLs last, ascending -/
def groupKeyCmp : Key → Key → Ordering
  | [], [] => .eq
  | [], _ :: _ => .lt
  | _ :: _, [] => .gt
  | a :: as, b :: bs =>
    match compare a.isNull b.isNull with
    | .eq => (match Val.cmp a b with
      | .eq => groupKeyCmp as bs
      | o => o)
    | o => o

def sortByGroupKey (keyOf : Row → Key) (rows : List Row) : List Row :=
  stableSort (fun a b => groupKeyCmp (keyOf a) (keyOf b) != .gt) rows

/-! ## python.py: joins -/

/-- enumerate(rows, start=n) -/
def enumFrom {α} (n : Nat) : List α → List (Nat × α)
  | [] => []
  | a :: as => (n, a) :: enumFrom (n + 1) as

/-- PythonExecutor._join_matches: no condition, or `condition(row) is True` -/
def joinMatches (cond : Option (Row → Val)) (row : Row) : Bool :=
  match cond with
  | none => true
  | some f => f row = .bool true

/-- _append_unmatched_join_rows.  `width` = len(table.columns); matched index sets as lists (`index not in set`). -/
def appendUnmatched (c : Cfg) (side : String) (width : Nat) (srcRows jnRows : List Row)
    (matchedSrc matchedJn : List Nat) : List Row :=
  (if c.leftSides.contains side then
    let joinNulls := nulls (match srcRows with | [] => 0 | r :: _ => width - r.length)
    ((enumFrom 0 srcRows).filter fun e => !matchedSrc.contains e.1).map fun e => e.2 ++ joinNulls
   else [])
  ++
  (if c.rightSides.contains side then
    let sourceNulls := nulls (width - (match jnRows with | [] => 0 | r :: _ => r.length))
    ((enumFrom 0 jnRows).filter fun e => !matchedJn.contains e.1).map fun e => sourceNulls ++ e.2
   else [])

/-- `join["side"]` as the planner stores it (`exp.Join.side`: upper-cased text, "" for an inner join) -/
def sideStr : Side → String
  | .inner => ""
  | .left => "LEFT"
  | .right => "RIGHT"
  | .full => "FULL"

abbrev Hit := (Nat × Row) × (Nat × Row)

/-- the double loop of nested_loop_join: all (source, join) pairs in loop order that satisfy `m` -/
def nestedHits (m : Row → Row → Bool) (srcRows jnRows : List Row) : List Hit :=
  (enumFrom 0 srcRows).flatMap fun s => ((enumFrom 0 jnRows).filter fun j => m s.2 j.2).map fun j => (s, j)

def finishJoin (c : Cfg) (side : String) (width : Nat) (srcRows jnRows : List Row) (hits : List Hit) : List Row :=
  hits.map (fun h => h.1.2 ++ h.2.2)
    ++ appendUnmatched c side width srcRows jnRows (hits.map (·.1.1)) (hits.map (·.2.1))

/-- PythonExecutor.nested_loop_join with the pair test `m s j` (= _join_matches(s + j, condition, …)) -/
def nestedLoopJoin (c : Cfg) (side : String) (width : Nat) (m : Row → Row → Bool) (srcRows jnRows : List Row) : List Row :=
  finishJoin c side width srcRows jnRows (nestedHits m srcRows jnRows)

/-- `results = defaultdict(lambda: ([], []))`: insertion-ordered keys + total lookup -/
structure Buckets where
  keys : List Key
  get : Key → List (Nat × Row) × List (Nat × Row)

def Buckets.empty : Buckets := ⟨[], fun _ => ([], [])⟩

def keyOk (k : Key) : Bool := k.all (!·.isNull)

def Buckets.touch (d : Buckets) (k : Key) : List Key := if d.keys.contains k then d.keys else d.keys ++ [k]

/-- `results[key][0].append(entry)` -/
def Buckets.addSrc (d : Buckets) (k : Key) (e : Nat × Row) : Buckets :=
  ⟨d.touch k, fun k' => if k' = k then ((d.get k).1 ++ [e], (d.get k).2) else d.get k'⟩

/-- `results[key][1].append(entry)` -/
def Buckets.addJn (d : Buckets) (k : Key) (e : Nat × Row) : Buckets :=
  ⟨d.touch k, fun k' => if k' = k then ((d.get k).1, (d.get k).2 ++ [e]) else d.get k'⟩

def buildSrc (ks : Row → Key) : List (Nat × Row) → Buckets → Buckets
  | [], d => d
  | e :: es, d => buildSrc ks es (if keyOk (ks e.2) then d.addSrc (ks e.2) e else d)

def buildJn (kj : Row → Key) : List (Nat × Row) → Buckets → Buckets
  | [], d => d
  | e :: es, d => buildJn kj es (if keyOk (kj e.2) then d.addJn (kj e.2) e else d)

/-- itertools.product(a, b) -/
def product {α β} (a : List α) (b : List β) : List (α × β) := a.flatMap fun x => b.map fun y => (x, y)

def hashPairs (ks kj : Row → Key) (srcRows jnRows : List Row) : List Hit :=
  let d := buildJn kj (enumFrom 0 jnRows) (buildSrc ks (enumFrom 0 srcRows) Buckets.empty)
  d.keys.flatMap fun k => product (d.get k).1 (d.get k).2

/-- PythonExecutor.hash_join: key functions `ks` (source_key on a source row), `kj` (join_key on a join row),
    residual condition on the concatenated row -/
def hashJoin (c : Cfg) (side : String) (width : Nat) (ks kj : Row → Key) (cond : Option (Row → Val))
    (srcRows jnRows : List Row) : List Row :=
  finishJoin c side width srcRows jnRows
    ((hashPairs ks kj srcRows jnRows).filter fun h => joinMatches cond (h.1.2 ++ h.2.2))

/-- what ON k₁ = k₁' AND … AND residual decides for a pair: every key component non-NULL and equal, residual is True -/
def keyMatch (ks kj : Row → Key) (l r : Row) : Bool := keyOk (ks l) && keyOk (kj r) && (ks l == kj r)

/-! ## python.py: aggregate() -/

/-- rows[i] for i in range(a, b) (RangeReader); truncating like a slice -/
def slice (rows : List Row) (a b : Nat) : List Row := (rows.drop a).take (b - a)

structure AggSt where
  group : Option Key
  start : Nat
  end_ : Nat
  out : List Row

def capReached (cap : Option Nat) (out : List Row) : Bool :=
  match cap with
  | none => false
  | some n => decide (out.length ≥ n)

/-- the `for i in range(length)` loop of aggregate(); `todo` = rows[i:].
    `cap` = `offset + limit` when the break test applies (`not step.condition` and limit finite), else none. -/
def aggLoop (c : Cfg) (keyOf : Row → Key) (agg : List Row → Row) (rows : List Row) (cap : Option Nat) :
    Nat → List Row → AggSt → List Row
  | _, [], st => st.out
  | i, r :: rest, st =>
    let key := keyOf r
    let group := st.group.getD key
    let end_ := st.end_ + 1
    let changed := key ≠ group
    let out1 := if changed then st.out ++ [group ++ agg (slice rows st.start (end_ - c.aggEmitOff))] else st.out
    let group1 := if changed then key else group
    let start1 := if changed then end_ - c.aggStartOff else st.start
    if capReached cap out1 then out1
    else
      let out2 := if i = rows.length - 1 then out1 ++ [group1 ++ agg (slice rows start1 (end_ - c.aggLastOff))] else out1
      aggLoop c keyOf agg rows cap (i + 1) rest ⟨some group1, start1, end_, out2⟩

/-- aggregate() after `context.sort(group_by)`: `rows` is the sorted table.
    `hasGroupBy` = bool(group_by); `limit` = step.limit (none = inf). -/
def aggregateSorted (c : Cfg) (keyOf : Row → Key) (agg : List Row → Row) (hasGroupBy : Bool)
    (cap : Option Nat) (limit : Option Nat) (rows : List Row) : List Row :=
  if rows.length ≠ 0 then
    aggLoop c keyOf agg rows cap 0 rows ⟨none, c.aggStart, c.aggEnd, []⟩
  else if (match limit with | none => true | some n => decide (n > 0)) && !hasGroupBy then
    [agg []]
  else []

def aggregate (c : Cfg) (keyOf : Row → Key) (agg : List Row → Row) (hasGroupBy : Bool)
    (cap : Option Nat) (limit : Option Nat) (rows : List Row) : List Row :=
  aggregateSorted c keyOf agg hasGroupBy cap limit (sortByGroupKey keyOf rows)

/-! ## python.py: join()'s shared rows list and aggregate()'s operand widening (aliasing) -/

/-- join() returns one Table object per joined table, all built over ONE rows list
    (`Table(table.columns, table.rows, column_range)`).  A small heap: list objects by address, and for each table of
    the context the address its `rows` attribute holds; `views[0]` is `context.table` (the first table). -/
structure Heap where
  cells : List (List Row)
  views : List Nat
deriving Repr, DecidableEq

def Heap.addr (h : Heap) (v : Nat) : Nat := h.views.getD v 0

/-- the rows a table's readers see -/
def Heap.read (h : Heap) (v : Nat) : List Row := h.cells.getD (h.addr v) []

/-- the context join() hands on: `n` tables sharing the joined rows -/
def Heap.ofJoin (rows : List Row) (n : Nat) : Heap := ⟨[rows], List.replicate n 0⟩

def widened (rows ops : List Row) : List Row := List.zipWith (· ++ ·) rows ops

/-- how aggregate() attaches the operand columns to the rows (pinned from the source by the translator) -/
inductive WidenForm where
  /-- `for i, (a, b) in enumerate(zip(context.table.rows, operand_table.rows)): context.table.rows[i] = a + b`:
      subscript stores into the list object the first table holds -/
  | subscriptStore
  /-- `context.table.rows = [a + b for …]`: a NEW list object, bound to the first table's attribute only -/
  | attributeRebind
deriving DecidableEq, Repr

def Heap.widen (form : WidenForm) (h : Heap) (ops : List Row) : Heap :=
  match form with
  | .subscriptStore => ⟨h.cells.set (h.addr 0) (widened (h.read 0) ops), h.views⟩
  | .attributeRebind => ⟨h.cells ++ [widened (h.read 0) ops], h.views.set 0 h.cells.length⟩

/-- Context.sort: `self.table.rows.sort(key=…)`, in place on the list object the first table holds -/
def Heap.sortInPlace (h : Heap) (keyOf : Row → Key) : Heap :=
  ⟨h.cells.set (h.addr 0) (sortByGroupKey keyOf (h.read 0)), h.views⟩

/-! ## python.py: scan / static / _project_and_filter -/

/-- PythonExecutor._project_and_filter.  `for reader in table_iter:` with
    `if len(sink) >= step.offset + step.limit: break` (cap = offset + limit, none = inf),
    `if condition and not context.eval(condition): continue` (Python truthiness),
    `sink.append(context.eval_tuple(projections))` or `sink.append(reader.row)` without projections. -/
def projectFilterLoop (cond : Option (Row → Val)) (projs : Option (Row → Row)) (cap : Option Nat) :
    List Row → List Row → List Row
  | [], sink => sink
  | row :: rest, sink =>
    if capReached cap sink then sink
    else if !keeps cond row then projectFilterLoop cond projs cap rest sink
    else projectFilterLoop cond projs cap rest (sink ++ [projRow projs row])

def projectFilter (cond : Option (Row → Val)) (projs : Option (Row → Row)) (cap : Option Nat) (rows : List Row) : List Row :=
  projectFilterLoop cond projs cap rows []

/-- where a Scan step reads from: `static()` yields one empty row (SELECT without FROM), `scan_table` the table's rows -/
inductive ScanSource where
  | static
  | table (rows : List Row)

/-- PythonExecutor.scan for a leaf Scan step (source not in the context: a base table or nothing) -/
def scan (src : ScanSource) (cond : Option (Row → Val)) (projs : Option (Row → Row)) (cap : Option Nat) : List Row :=
  projectFilter cond projs cap (match src with | .static => [[]] | .table rows => rows)

/-- `_execute`: `if node.offset: table.rows = table.rows[node.offset:]` -/
def applyOffset (offset : Nat) (rows : List Row) : List Row := rows.drop offset

def capOf (limit : Option Nat) (offset : Nat) : Option Nat := limit.map (offset + ·)

/-! ## python.py: set_operation() -/

/-- collections.Counter as a total map (missing = 0) -/
abbrev Counter := Row → Nat
def Counter.ofRows (rows : List Row) : Counter := fun r => rows.count r
def Counter.dec (c : Counter) (r : Row) : Counter := fun r' => if r' = r then c r - 1 else c r'

def intersectLoop (distinct : Bool) : List Row → Counter → List Row → List Row
  | [], _, _ => []
  | row :: rest, rc, seen =>
    if rc row ≠ 0 ∧ (!distinct ∨ ¬ row ∈ seen) then
      row :: intersectLoop distinct rest (if !distinct then rc.dec row else rc) (row :: seen)
    else intersectLoop distinct rest rc seen

def exceptLoop (distinct : Bool) : List Row → Counter → List Row → List Row
  | [], _, _ => []
  | row :: rest, rc, seen =>
    if rc row ≠ 0 ∧ !distinct then exceptLoop distinct rest (rc.dec row) seen
    else if rc row = 0 ∧ (!distinct ∨ ¬ row ∈ seen) then row :: exceptLoop distinct rest rc (row :: seen)
    else exceptLoop distinct rest rc seen

inductive SetOp where
  | union | intersect | except
deriving DecidableEq, Repr

/-- set_operation() before its limit slice.  UNION DISTINCT is `list(set(l) | set(r))`: some enumeration without
    repetition (Python's order is hash order; compared as a multiset) -/
def setOperation (op : SetOp) (distinct : Bool) (l r : List Row) : List Row :=
  match op with
  | .intersect => intersectLoop distinct l (Counter.ofRows r) []
  | .except => exceptLoop distinct l (Counter.ofRows r) []
  | .union => if distinct then dedup (l ++ r) else l ++ r

end SqlglotModel.Exec
