/-
  C18 — the FLAT SPECIFICATION of `MappingSchema` (sqlglot/schema.py): what `add_table`, `find`, `column_names`
  (incl. `only_visible`), `get_column_type`, `has_column` answer, with the `_find_cache` in front of `find`.

  Flat view of the nested mapping: a list of (path, columns), path outermost-first (catalog, db, table).
  The trie is viewed as the list of its keys (reversed paths: table first).  Only the *set* of keys and the
  mapping's content as a finite map are observable through the public API (the order of `possibilities` only shows
  in the text of the "Ambiguous mapping" message, which the harness canonicalises to an error kind) —
  `Proofs/SchemaEquiv.lean: stepN_congr` proves exactly that.

  Normalisation is a function of ALL its real inputs (strategy, quoted, is_table, BigQuery's table-sensitivity),
  the case maps and `DataType.from_str` are parameters (`Env`).  The nested dict, the nested trie and the other
  four caches live in Model/SchemaTree.lean, Model/SchemaMemo.lean, Model/SchemaFull.lean; the full model is proved
  to refine this specification (Properties/C18.lean: `full_schema_refines_fresh`).
-/
import SqlglotModel.Model.Ident

namespace SqlglotModel.Schema
open SqlglotModel.Ident

abbrev Name := String
abbrev Cols := List (Name × String)       -- column name ↦ type text, insertion ordered (a Python dict)
abbrev Path := List Name

/-- which `_find_cache` entries `add_table` evicts: the two keys of the added table (the code as it was
    before the repair) or every entry (`self._find_cache.clear()`). Extracted from the source. -/
inductive Evict where
  | exactKeys | all
deriving DecidableEq, Repr

abbrev CKey := List Ident × Bool         -- (normalized table parts outermost first, ensure_data_types)

structure St where
  mapping : List (Path × Cols)
  trie    : List (List Name)
  cache   : List (CKey × Cols)
deriving Repr, DecidableEq

inductive Err where
  | ambiguous        -- SchemaError "Ambiguous mapping"
  | depthMismatch    -- SchemaError "must match the schema's nesting level"
  | internal         -- anything else (ValueError from nested_get inside find …): must never be produced
  | unknownTable     -- ValueError "Unknown table/db/catalog" from `nested_get(parts, self.visible)`
  | noColumns        -- SchemaError "must have at least one column" (constructor)
deriving DecidableEq, Repr

inductive FindR where
  | found (c : Cols)
  | notFound
  | err (e : Err)
deriving DecidableEq, Repr

def lookup {α β} [DecidableEq α] (l : List (α × β)) (a : α) : Option β :=
  match l with
  | [] => none
  | (k, v) :: rest => if k = a then some v else lookup rest a

/-- `dict[k] = v` on an insertion-ordered dict -/
def dictSet {α β} [DecidableEq α] (l : List (α × β)) (a : α) (b : β) : List (α × β) :=
  match l with
  | [] => [(a, b)]
  | (k, v) :: rest => if k = a then (k, b) :: rest else (k, v) :: dictSet rest a b

def ofPairs {α β} [DecidableEq α] (l : List (α × β)) : List (α × β) :=
  l.foldl (fun acc kv => dictSet acc kv.1 kv.2) []

/-- `MappingSchema.depth()` : length of the first path; 0 when empty -/
def depth (S : St) : Nat :=
  match S.mapping with
  | [] => 0
  | (p, _) :: _ => p.length

inductive TrieR where
  | failed
  | exists_
  | prefix_ (possibilities : List (List Name))
deriving DecidableEq, Repr

/-- `in_trie` followed by `flatten_schema(subtrie)` -/
def inTrie (trie : List (List Name)) (key : List Name) : TrieR :=
  if key = [] then .failed else
  let ms := trie.filter (fun k => key.isPrefixOf k)
  if ms = [] then .failed
  else if trie.contains key then .exists_
  else .prefix_ ((ms.map (fun k => k.drop key.length)).eraseDups)

inductive Resolved where
  | none
  | parts (p : List Name)
  | ambiguous
deriving DecidableEq, Repr

/-- `_find_in_trie` -/
def findInTrie (trie : List (List Name)) (parts : List Name) (raise : Bool) : Resolved :=
  match inTrie trie parts with
  | .failed => .none
  | .exists_ => .parts parts
  | .prefix_ ps =>
    match ps with
    | [p] => .parts (parts ++ p)
    | _ => if raise then .ambiguous else .none

/-- `AbstractMappingSchema.find` (no cache): truncate the reversed table parts to the schema depth,
    resolve in the trie, then `nested_get` -/
def findU (mapping : List (Path × Cols)) (trie : List (List Name)) (table : List Ident) (raise : Bool) : FindR :=
  let d := match mapping with
    | [] => 0
    | (p, _) :: _ => p.length
  let parts := ((table.map (·.name)).reverse).take d
  match findInTrie trie parts raise with
  | .none => .notFound
  | .ambiguous => .err .ambiguous
  | .parts ps =>
    match lookup mapping ps.reverse with
    | some cols => .found cols
    | none => if raise then .err .internal else .notFound

def findUncached (S : St) (table : List Ident) (raise : Bool) : FindR :=
  findU S.mapping S.trie table raise

/-- what of a dialect the schema code can observe when it normalises a name: the strategy, and whether the
    dialect overrides `normalize_identifier` so that table parts (`meta["is_table"]`) stay case-sensitive
    under CASE_INSENSITIVE (BigQuery; that override ignores `quoted` and lower-cases every other name). -/
structure Dia where
  st : Strategy
  tableSensitive : Bool
deriving DecidableEq, Repr, Inhabited

/-- a dialect as the schema sees it: an identity (the `dialect` string / object; it goes into cache keys and
    selects the type parser) plus what normalisation can observe of it -/
structure DialectRef where
  name : String
  dia : Dia
deriving DecidableEq, Repr, Inhabited

/-- what the schema code is parametric in: the case maps, the (uninterpreted) `DataType.from_str(text, dialect)`
    as `ty dialectName text`, and the schema's own dialect (`MappingSchema(dialect=…)`) -/
structure Env where
  f : CaseFns
  ty : String → String → String
  self : DialectRef
  /-- `not self.visible` -/
  visEmpty : Bool
  /-- `nested_get(path, self.visible)`: `some cols` (the visible column names, or the keys of the sub-dict a
      too-short path ends in), `none` = a key is missing (ValueError).  `visible` is never updated by `add_table`. -/
  vis : List Name → Option (List Name)

/-- `{col: self._to_data_type(dtype) …}` (uncached): used by `find(ensure_data_types=True)` -/
def convCols (E : Env) (ensure : Bool) (cols : Cols) : Cols :=
  if ensure then cols.map (fun c => (c.1, E.ty E.self.name c.2)) else cols

/-- `normalize_name(identifier, dialect, is_table, normalize=True)` as a function of ALL its inputs -/
def normIdent (f : CaseFns) (d : Dia) (isTable : Bool) (i : Ident) : Ident :=
  if d.tableSensitive && d.st == .caseInsensitive then
    (if isTable then i else { i with name := f.lower i.name })
  else normalize f d.st i

/-- `_normalize_table`: every part with `is_table=True` -/
def normTable (f : CaseFns) (d : Dia) (norm : Bool) (t : List Ident) : List Ident :=
  if norm then t.map (normIdent f d true) else t

/-- `_normalize_name(col)` (`is_table=False`) -/
def normCol (f : CaseFns) (d : Dia) (norm : Bool) (c : Ident) : Name :=
  if norm then (normIdent f d false c).name else c.name

/-- `MappingSchema.find`: consult `_find_cache` (a cached `None` counts as a miss) -/
def find (E : Env) (S : St) (table : List Ident) (raise ensure : Bool) : St × FindR :=
  match lookup S.cache (table, ensure) with
  | some cols => (S, .found cols)
  | none =>
    match findUncached S table raise with
    | .found cols =>
      ({ S with cache := ((table, ensure), convCols E ensure cols) :: S.cache }, .found (convCols E ensure cols))
    | r => (S, r)

/-- the OTHER cache policy ("store misses"): a computed `None` is remembered and served to later calls whatever
    their `raise_on_missing` (the source stores `None` too, but `if schema is None:` treats it as a miss) -/
def findStoreMisses (E : Env) (S : St) (misses : List CKey) (table : List Ident) (raise ensure : Bool) :
    (St × List CKey) × FindR :=
  if misses.contains (table, ensure) then ((S, misses), .notFound) else
  match find E S table raise ensure with
  | (S', .notFound) => ((S', (table, ensure) :: misses), .notFound)
  | (S', r) => ((S', misses), r)

def evict (ev : Evict) (cache : List (CKey × Cols)) (t : List Ident) : List (CKey × Cols) :=
  match ev with
  | .all => []
  | .exactKeys => cache.filter (fun kv => kv.1 ≠ (t, true) ∧ kv.1 ≠ (t, false))

inductive Out where
  | unit
  | names (l : List Name)
  | ty (t : String)
  | bool (b : Bool)
  | findR (r : FindR)
  | err (e : Err)
deriving DecidableEq, Repr

inductive Op where
  | addTable (st : DialectRef) (norm : Bool) (table : List Ident) (cols : List (Ident × String))
  | columnNames (st : DialectRef) (norm : Bool) (table : List Ident) (onlyVisible : Bool)
  | columnType (st : DialectRef) (norm : Bool) (table : List Ident) (col : Ident)
  | hasColumn (st : DialectRef) (norm : Bool) (table : List Ident) (col : Ident)
  | find (table : List Ident) (raise ensure : Bool)
deriving Repr

def Op.isAdd : Op → Bool
  | .addTable .. => true
  | _ => false

/-- an API call after the normalisation of its arguments (`_normalize_table`, `_normalize_name`) -/
inductive NOp where
  | addTable (nt : List Ident) (ncols : Cols)
  | columnNames (nt : List Ident) (onlyVisible : Bool)
  | columnType (nt : List Ident) (nc : Name) (d : DialectRef)
  | hasColumn (nt : List Ident) (nc : Name)
  | find (table : List Ident) (raise ensure : Bool)
deriving Repr

/-- the normalisation phase of every public method (no caches: this is the specification) -/
def normOp (E : Env) : Op → NOp
  | .addTable st norm table cols =>
    .addTable (normTable E.f st.dia norm table) (ofPairs (cols.map (fun c => (normCol E.f st.dia norm c.1, c.2))))
  | .columnNames st norm table ov => .columnNames (normTable E.f st.dia norm table) ov
  | .columnType st norm table col => .columnType (normTable E.f st.dia norm table) (normCol E.f st.dia norm col) st
  | .hasColumn st norm table col => .hasColumn (normTable E.f st.dia norm table) (normCol E.f st.dia norm col)
  | .find table raise ensure => .find table raise ensure

/-- the tail of `column_names`: all columns, or those listed in `visible` for the table path AS GIVEN
    (outermost part first, truncated to the schema depth `d` by the `zip` with `supported_table_args`) -/
def namesOut (E : Env) (d : Nat) (nt : List Ident) (onlyVisible : Bool) (r : FindR) : Out :=
  match r with
  | .found cols =>
    if !onlyVisible || E.visEmpty then .names (cols.map (·.1)) else
    match E.vis ((nt.map (·.name)).take d) with
    | some vs => .names ((cols.map (·.1)).filter (fun c => vs.contains c))
    | none => .err .unknownTable
  | .notFound => .names []
  | .err e => .err e

/-- `column_names` on an already normalized table -/
def columnNames (E : Env) (S : St) (nt : List Ident) (onlyVisible : Bool) : St × Out :=
  let (S', r) := find E S nt true false
  (S', namesOut E (depth S) nt onlyVisible r)

/-- `if schema and not normalized_column_mapping: return` -/
def earlyReturn (r : FindR) (ncols : Cols) : Bool :=
  match r with
  | .found c => !c.isEmpty && ncols.isEmpty
  | _ => false

/-- `get_column_type` after `find`: the column's type text goes through `_to_data_type(text, dialect)` -/
def typeOut (E : Env) (d : DialectRef) (nc : Name) (r : FindR) : Out :=
  match r with
  | .found cols =>
    .ty (match lookup cols nc with
         | some ty => E.ty d.name ty
         | none => "UNKNOWN")
  | .notFound => .ty "UNKNOWN"
  | .err e => .err e

def hasOut (nc : Name) (r : FindR) : Out :=
  match r with
  | .found cols => .bool ((cols.map (·.1)).contains nc)
  | .notFound => .bool false
  | .err e => .err e

/-- the body of the public methods on normalised arguments -/
def stepN (E : Env) (ev : Evict) (S : St) : NOp → St × Out
  | .addTable nt ncols =>
    if S.mapping ≠ [] ∧ nt.length ≠ depth S then (S, .err .depthMismatch) else
    let (S1, r) := find E S nt false false
    if earlyReturn r ncols then (S1, .unit) else
    let path := nt.map (·.name)
    let key := path.reverse
    ({ mapping := dictSet S1.mapping path ncols,
       trie := if S1.trie.contains key then S1.trie else S1.trie ++ [key],
       cache := evict ev S1.cache nt }, .unit)
  | .columnNames nt ov => columnNames E S nt ov
  | .columnType nt nc d =>
    let (S', r) := find E S nt false false
    (S', typeOut E d nc r)
  | .hasColumn nt nc =>
    -- MappingSchema.has_column: normalizes the column, `find(raise_on_missing=False)`, membership
    let (S', r) := find E S nt false false
    (S', hasOut nc r)
  | .find table raise ensure =>
    let (S', r) := find E S table raise ensure
    (S', .findR r)

def step (E : Env) (ev : Evict) (S : St) (op : Op) : St × Out := stepN E ev S (normOp E op)

def run (E : Env) (ev : Evict) (S : St) (ops : List Op) : St :=
  ops.foldl (fun s op => (step E ev s op).1) S

/-- the schema `MappingSchema(final_mapping)` builds: same mapping, trie rebuilt from it, caches empty -/
def fresh (S : St) : St :=
  { mapping := S.mapping, trie := S.mapping.map (fun p => p.1.reverse), cache := [] }

def empty : St := { mapping := [], trie := [], cache := [] }

end SqlglotModel.Schema
