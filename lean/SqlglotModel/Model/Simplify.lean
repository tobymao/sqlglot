/-
  C06 — executable model of the expression language of the property and of the small deterministic rewrite
  rules of sqlglot/optimizer/simplify.py and normalize.py (statement-by-statement mirrors), plus the
  *step checkers* used for the order-dependent rules.  No proofs here (see Proofs/Simplify*.lean).

  Modelled: typed columns (bool / int, optionally NOT NULL), NULL / boolean / integer literals, AND, OR, NOT,
  Paren, the six comparisons, IS NULL / IS TRUE / IS FALSE, BETWEEN, IN-list, COALESCE, searched CASE, IF,
  + - * and unary minus.  Lists (IN list, COALESCE arguments, CASE branches) are encoded inside `E` with
  `cons`/`nil` so that `E` is a plain inductive type; `absent` is a missing optional child (CASE without ELSE,
  IF without false branch).
  Not modelled: strings, dates/intervals, casts, XOR, simple CASE (with operand), subqueries, `Is(negate=True)`.
-/
import SqlglotModel.Sem.ThreeVL

namespace SqlglotModel.Simplify
open SqlglotModel.ThreeVL

inductive E
  | null
  | absent
  | nil
  | cons (h t : E)
  | bool (v : Bool)
  | int (n : Int)
  | bcol (k : Nat) (nn : Bool)
  | icol (k : Nat) (nn : Bool)
  | and (a b : E)
  | or (a b : E)
  | not (a : E)
  | paren (a : E)
  | cmp (op : Cmp) (a b : E)
  | is (a b : E)
  | between (a lo hi : E)
  | inList (a xs : E)
  | coalesce (xs : E)
  | case (ifs dflt : E)
  | iff (c t f : E)
  | add (a b : E)
  | sub (a b : E)
  | mul (a b : E)
  | neg (a : E)
  deriving DecidableEq, Repr, Inhabited

structure Env where
  b : Nat → Option Bool
  i : Nat → Option Int

/-- `IS` with a NULL / TRUE / FALSE right-hand side (anything else is outside the fragment: NULL) -/
def isVal (x : Val) : E → Val
  | .null => .b (decide (x = .null))
  | .bool v => .b (decide (truth x = some v))
  | _ => .null

def negVal (x : Val) : Val :=
  match toInt? x with
  | some a => .i (-a)
  | none => .null

mutual
def eval (env : Env) : E → Val
  | .null => .null
  | .absent => .null
  | .nil => .null
  | .cons _ _ => .null
  | .bool v => .b v
  | .int n => .i n
  | .bcol k nn => match env.b k with
    | some v => .b v
    | none => if nn then .b false else .null
  | .icol k nn => match env.i k with
    | some v => .i v
    | none => if nn then .i 0 else .null
  | .and a b => ofB3 (and3 (truth (eval env a)) (truth (eval env b)))
  | .or a b => ofB3 (or3 (truth (eval env a)) (truth (eval env b)))
  | .not a => ofB3 (not3 (truth (eval env a)))
  | .paren a => eval env a
  | .cmp op a b => cmpVal op (eval env a) (eval env b)
  | .is a b => isVal (eval env a) b
  | .between a lo hi =>
    ofB3 (and3 (truth (cmpVal .gte (eval env a) (eval env lo))) (truth (cmpVal .lte (eval env a) (eval env hi))))
  | .inList a xs => ofB3 (evalIn env (eval env a) xs)
  | .coalesce xs => evalCoalesce env xs
  | .case ifs d => match evalCase env ifs with
    | some v => v
    | none => eval env d
  | .iff c t f => if truth (eval env c) = some true then eval env t else eval env f
  | .add a b => arith (· + ·) (eval env a) (eval env b)
  | .sub a b => arith (· - ·) (eval env a) (eval env b)
  | .mul a b => arith (· * ·) (eval env a) (eval env b)
  | .neg a => negVal (eval env a)
def evalIn (env : Env) (v : Val) : E → B3
  | .cons h t => or3 (truth (cmpVal .eq v (eval env h))) (evalIn env v t)
  | _ => some false
def evalCoalesce (env : Env) : E → Val
  | .cons h t => match eval env h with
    | .null => evalCoalesce env t
    | v => v
  | _ => .null
def evalCase (env : Env) : E → Option Val
  | .cons h rest => match h with
    | .iff c t _ => if truth (eval env c) = some true then some (eval env t) else evalCase env rest
    | _ => evalCase env rest
  | _ => none
end

/-! ## helpers mirroring simplify.py's predicates -/

def isNullE : E → Bool
  | .null => true
  | _ => false

def isFalseE : E → Bool
  | .bool false => true
  | _ => false

/-- `is_zero`: a (non-string) literal whose python value is 0 -/
def isZeroE : E → Bool
  | .int n => n == 0
  | _ => false

/-- `always_true`: TRUE or a non-zero number literal -/
def alwaysTrue : E → Bool
  | .bool true => true
  | .int n => n != 0
  | _ => false

def alwaysFalse (e : E) : Bool := isFalseE e || isNullE e || isZeroE e

def isConn : E → Bool
  | .and _ _ => true
  | .or _ _ => true
  | _ => false

/-- `exp._wrap(e, Connector)` -/
def wrapConn (e : E) : E := if isConn e then .paren e else e

/-- `exp.not_(e, copy=False)` -/
def mkNot (e : E) : E := .not (wrapConn e)

/-- `exp.and_(a, b, copy=False)` / `exp.or_` (two operands) -/
def mkAnd (a b : E) : E := .and (wrapConn a) (wrapConn b)
def mkOr (a b : E) : E := .or (wrapConn a) (wrapConn b)

/-- `Expression.unnest` -/
def unnest : E → E
  | .paren a => unnest a
  | e => e

/-- `is_number` / `to_py` for number literals (a literal or a negated number) -/
def numVal? : E → Option Int
  | .int n => some n
  | .neg a => (numVal? a).map (fun n => -n)
  | _ => none

/-- `exp.Literal.number(n)`: negative numbers become `Neg(Literal)` -/
def mkNum (n : Int) : E := if n < 0 then .neg (.int (-n)) else .int n

/-- `_is_constant`: Literal / Boolean / Null, possibly under one `Neg` -/
def isConstLeaf : E → Bool
  | .int _ => true
  | .bool _ => true
  | .null => true
  | _ => false

def isConstant : E → Bool
  | .neg a => isConstLeaf a
  | e => isConstLeaf e

/-- kind of the parent node, as far as the rules look at it -/
inductive PK
  | none | not | and | or | paren | cmp | is | between | inList | coalesce | case | iff | add | sub | mul | neg | other
  deriving DecidableEq, Repr

structure Flags where
  safeDoubleNeg : Bool
  coalesceNonStd : Bool

/-- `_parenthesize_nested_connector` -/
def parenthesizeNested (e : E) (p : PK) : E :=
  match e, p with
  | .and _ _, .not => .paren e
  | .and _ _, .or => .paren e
  | .or _ _, .not => .paren e
  | .or _ _, .and => .paren e
  | _, _ => e

/-! ## rewrite_between -/

/-- `wrap` of rewrite_between (5af9b60): the parent is a Binary, Unary or Predicate that is neither a Connector nor a Paren
    (NOT is a Unary, so the original NOT case is included) -/
def pkWrapsBetween : PK → Bool
  | .not | .neg | .cmp | .is | .between | .inList | .add | .sub | .mul => true
  | _ => false

def rewriteBetween (p : PK) : E → E
  | .between a lo hi =>
    let r := E.and (.cmp .gte a lo) (.cmp .lte a hi)
    if pkWrapsBetween p then .paren r else r
  | e => e

/-- snapshot of rewrite_between as it was before 5af9b60 (parentheses only under NOT), kept for the witness theorem -/
def rewriteBetweenNotOnly (p : PK) : E → E
  | .between a lo hi =>
    let r := E.and (.cmp .gte a lo) (.cmp .lte a hi)
    if p = .not then .paren r else r
  | e => e

/-! ## simplify_not  (`complement` is the regenerated COMPLEMENT_COMPARISONS table) -/
def notNull (p : PK) : E := parenthesizeNested (.and .null (.bool true)) p

def simplifyNotTail (fl : Flags) (innerBool : Bool) (this e : E) : E :=
  if alwaysTrue this then .bool false
  else if isFalseE this then .bool true
  else match this with
    | .not inner => if fl.safeDoubleNeg && innerBool then inner else e
    | _ => e

def simplifyNotParen (cond e : E) (p : PK) : E :=
  match cond with
  | .and l r => .paren (mkOr (mkNot l) (mkNot r))
  | .or l r => .paren (mkAnd (mkNot l) (mkNot r))
  | .null => notNull p
  | _ => e

def simplifyNot (complement : Cmp → Cmp) (fl : Flags) (p : PK) (innerBool : Bool) (e : E) : E :=
  match e with
  | .not this =>
    match this with
    | .null => notNull p
    | .cmp op a b => .cmp (complement op) a b
    | .paren _ => simplifyNotParen (unnest this) e p
    | _ => simplifyNotTail fl innerBool this e
  | _ => e

/-! ## _simplify_comparison  (the range reasoning on two comparisons sharing a column) -/

/-- a member of `COMPARISONS`: kind (`none` = IS), `this`, `expression` -/
def cmpParts : E → Option (Option Cmp × E × E)
  | .cmp op a b => some (some op, a, b)
  | .is a b => some (none, a, b)
  | _ => Option.none

inductive PairRes
  | none          -- Python `None`: no simplification
  | same          -- the connector itself is returned (`StopIteration` path): no simplification
  | res (e : E)
  deriving DecidableEq, Repr

def isLtLte : Option Cmp → Bool
  | some .lt => true
  | some .lte => true
  | _ => false

def isGtGte : Option Cmp → Bool
  | some .gt => true
  | some .gte => true
  | _ => false

/-- one iteration of the `for (a, av), (b, bv) in permutations(...)` loop; `none` = fall through.
    `tie = true` is the code as it is now (a8389e4): on equal constants with different strictness AND keeps the strict
    comparison and OR the inclusive one; `tie = false` is the earlier behaviour (first operand wins), kept for the witness. -/
def cmpStep (tie : Bool) (or_ : Bool) (left right : E) (ka : Option Cmp) (a : E) (av : Int) (kb : Option Cmp) (b : E) (bv : Int) : Option E :=
  if isLtLte ka && isLtLte kb then
    some (if tie && decide (av = bv) && ka != kb then (if (ka == some .lt) != or_ then a else b)
          else if (if or_ then decide (av > bv) else decide (av ≤ bv)) then left else right)
  else if isGtGte ka && isGtGte kb then
    some (if tie && decide (av = bv) && ka != kb then (if (ka == some .gt) != or_ then a else b)
          else if (if or_ then decide (av < bv) else decide (av ≥ bv)) then left else right)
  else if or_ then Option.none
  else if ka = some .lt && isGtGte kb then
    (if av ≤ bv then some (.bool false) else Option.none)
  else if ka = some .gt && isLtLte kb then
    (if av ≥ bv then some (.bool false) else Option.none)
  else if ka = some .eq then
    match kb with
    | some .lt => some (if av ≥ bv then .bool false else a)
    | some .lte => some (if av > bv then .bool false else a)
    | some .gt => some (if av ≤ bv then .bool false else a)
    | some .gte => some (if av < bv then .bool false else a)
    | some .neq => some (if av = bv then .bool false else a)
    | _ => Option.none
  else Option.none

/-- first `some` of two attempts, as a `PairRes` -/
def firstSome (a b : Option E) : PairRes :=
  match a with
  | some x => .res x
  | Option.none =>
    match b with
    | some x => .res x
    | Option.none => .none

/-- the decision phase: both permutations of the loop -/
def cmpDecide (tie : Bool) (or_ : Bool) (left right : E) (kl : Option Cmp) (lv : Int) (kr : Option Cmp) (rv : Int) : PairRes :=
  firstSome (cmpStep tie or_ left right kl left lv kr right rv) (cmpStep tie or_ left right kr right rv kl left lv)

def cmpPair (or_ : Bool) (left right : E) : PairRes :=
  match cmpParts left, cmpParts right with
  | some (kl, ll, lr), some (kr, rl, rr) =>
    let matching := [ll, lr].filter (fun m => m == rl || m == rr)
    let columns := matching.filter (fun m => !isConstant m)
    if columns.isEmpty then .none
    else
      match ([ll, lr].filter (fun m => !columns.contains m)).head?,
            ([rl, rr].filter (fun m => !columns.contains m)).head? with
      | some l, some r =>
        match numVal? l, numVal? r with
        | some lv, some rv => cmpDecide true or_ left right kl lv kr rv
        | _, _ => .none
      | _, _ => .same
  | _, _ => .none

/-! ## _simplify_connectors (the AND / OR pair tables of simplify_connectors) -/

/-- the constant part of the table (everything before the fall-through to `_simplify_comparison`) -/
def connConst (isAnd : Bool) (l r : E) : Option E :=
  if isAnd then
    if isFalseE l || isFalseE r then some (.bool false)
    else if isZeroE l || isZeroE r then some (.bool false)
    else if (isNullE l && isNullE r) || (isNullE l && alwaysTrue r) || (alwaysTrue l && isNullE r) then some .null
    else if alwaysTrue l && alwaysTrue r then some (.bool true)
    else if alwaysTrue l then some r
    else if alwaysTrue r then some l
    else none
  else
    if alwaysTrue l || alwaysTrue r then some (.bool true)
    else if (isNullE l && isNullE r) || (isNullE l && alwaysFalse r) || (alwaysFalse l && isNullE r) then some .null
    else if isFalseE l then some r
    else if isFalseE r then some l
    else none

def connPair (isAnd : Bool) (l r : E) : PairRes :=
  match connConst isAnd l r with
  | some x => .res x
  | none => cmpPair (!isAnd) l r

/-! ## _simplify_binary (literal folding) -/
inductive BinK
  | cmp (op : Cmp) | is | add | sub | mul
  deriving DecidableEq, Repr

def BinK.mk : BinK → E → E → E
  | .cmp op, a, b => .cmp op a b
  | .is, a, b => .is a b
  | .add, a, b => .add a b
  | .sub, a, b => .sub a b
  | .mul, a, b => .mul a b

def isLiteral : E → Bool
  | .int _ => true
  | _ => false

def binPairNum (k : BinK) (sameParent : Bool) (a b : E) : Option E :=
  match numVal? a, numVal? b with
  | some x, some y =>
    match k with
    | .add => some (mkNum (x + y))
    | .mul => some (mkNum (x * y))
    | .sub => if sameParent then some (mkNum (x - y)) else none
    | .cmp op => some (.bool (op.test x y))
    | .is => none
  | _, _ => none

def binPair (k : BinK) (parentIsIf sameParent : Bool) (a b : E) : Option E :=
  match k with
  | .is =>
    if isNullE b then
      if isLiteral a then some (.bool false)
      else if isNullE a then some (.bool true)
      else binPairNum k sameParent a b
    else binPairNum k sameParent a b
  | _ =>
    if (isNullE a || isNullE b) && parentIsIf then some .null
    else binPairNum k sameParent a b

/-! ## simplify_literals: the `Neg(Neg(x))` case (the binary case is `_flat_simplify` over `binPair`) -/
def simplifyNegNeg : E → E
  | .neg (.neg x) => x
  | e => e

/-! ## simplify_equality  (`inverseCmp` = INVERSE_COMPARISONS with identity default; INVERSE_OPS: Add ↔ Sub) -/
def simplifyEquality (inverseCmp : Cmp → Cmp) (addInvIsSub subInvIsAdd : Bool) (e : E) : E :=
  match e with
  | .cmp op l r =>
    if (numVal? r).isNone then e else
    match l with
    | .add a b =>
      if !addInvIsSub then e else
      if (numVal? a).isNone && (numVal? b).isSome then .cmp op a (.sub r b)
      else if (numVal? b).isNone && (numVal? a).isSome then .cmp op b (.sub r a)
      else e
    | .sub a b =>
      if !subInvIsAdd then e else
      if (numVal? a).isNone && (numVal? b).isSome then .cmp op a (.add r b)
      else if (numVal? b).isNone && (numVal? a).isSome then .cmp (inverseCmp op) b (.sub a r)
      else e
    | _ => e
  | _ => e

/-- `_parenthesize_for_parent(expression, parent)` (a4faa75): an argument that replaces the CASE / IF / COALESCE it was in
    is parenthesised when both it and its new parent are a Binary, Unary or Predicate (and it is not already a Paren) -/
def pkBinUnPred : PK → Bool
  | .and | .or | .cmp | .is | .add | .sub | .mul | .not | .neg | .paren | .between | .inList => true
  | _ => false

def eBinUnPredNoParen : E → Bool
  | .and _ _ | .or _ _ | .cmp _ _ _ | .is _ _ | .add _ _ | .sub _ _ | .mul _ _ | .not _ | .neg _ | .between _ _ _ | .inList _ _ => true
  | _ => false

def wrapForParent (e : E) (p : PK) : E := if pkBinUnPred p && eBinUnPredNoParen e then .paren e else e

/-- the variant that skips the parentheses when the argument is the same operation as its new parent ("such a chain is
    flattened anyway" — true for AND / OR / + / *, false for `-`), kept for the witness -/
def wrapForParentSkipSameOp (e : E) (p : PK) : E :=
  let sameOp := match e, p with
    | .and _ _, .and | .or _ _, .or | .add _ _, .add | .sub _ _, .sub | .mul _ _, .mul | .not _, .not | .neg _, .neg => true
    | _, _ => false
  if pkBinUnPred p && eBinUnPredNoParen e && !sameOp then .paren e else e

/-! ## simplify_conditionals -/

/-- `reverse kept ++ rest` on the `cons`-encoded list -/
def appRev (kept : List E) (rest : E) : E := kept.foldl (fun acc x => .cons x acc) rest

/-- the `for case in ifs` loop of the CASE branch; `kept` is the reversed list of surviving branches.
    Removing a branch while iterating over the live list skips the following one (mirrored).
    `firstOnly = true` is the code as it is now: a constant-TRUE condition only collapses the CASE when it is the first
    remaining branch (otherwise the loop stops); `firstOnly = false` is the unrepaired variant kept for the witness. -/
def caseLoop (firstOnly : Bool) (p : PK) (dflt : E) : (fuel : Nat) → (kept : List E) → (rest : E) → E
  | 0, kept, rest => .case (appRev kept rest) dflt
  | fuel + 1, kept, rest =>
    match rest with
    | .cons h tl =>
      match h with
      | .iff c t _ =>
        if alwaysTrue c then
          (if firstOnly && !kept.isEmpty then .case (appRev kept rest) dflt else wrapForParent t p)
        else if alwaysFalse c then
          match kept, tl with
          | [], .nil => wrapForParent (if dflt = .absent then .null else dflt) p
          | _, .cons nxt tl' => caseLoop firstOnly p dflt fuel (nxt :: kept) tl'
          | _, _ => .case (appRev kept tl) dflt
        else caseLoop firstOnly p dflt fuel (h :: kept) tl
      | _ => caseLoop firstOnly p dflt fuel (h :: kept) tl
    | _ => .case (appRev kept rest) dflt

/-- the variant with a `reachable_before` flag instead of the identity test `case is ifs[0]` (kept for the witness): the flag
    is set only for branches the loop VISITS, and the branch right after a popped one is never visited -/
def caseLoopFlag (p : PK) (dflt : E) : (fuel : Nat) → (reach : Bool) → (kept : List E) → (rest : E) → E
  | 0, _, kept, rest => .case (appRev kept rest) dflt
  | fuel + 1, reach, kept, rest =>
    match rest with
    | .cons h tl =>
      match h with
      | .iff c t _ =>
        if alwaysTrue c then
          (if reach then .case (appRev kept rest) dflt else wrapForParent t p)
        else if alwaysFalse c then
          match kept, tl with
          | [], .nil => wrapForParent (if dflt = .absent then .null else dflt) p
          | _, .cons nxt tl' => caseLoopFlag p dflt fuel reach (nxt :: kept) tl'
          | _, _ => .case (appRev kept tl) dflt
        else caseLoopFlag p dflt fuel true (h :: kept) tl
      | _ => caseLoopFlag p dflt fuel true (h :: kept) tl
    | _ => .case (appRev kept rest) dflt

def listLen : E → Nat
  | .cons _ t => listLen t + 1
  | _ => 0

def simplifyConditionals (p : PK) (e : E) : E :=
  match e with
  | .case ifs dflt => caseLoop true p dflt (listLen ifs + 1) [] ifs
  | .iff c t f =>
    if p = .case then e
    else if alwaysTrue c then wrapForParent t p
    else if alwaysFalse c then wrapForParent (if f = .absent then .null else f) p
    else e
  | _ => e

/-! ## simplify_coalesce -/
def isNonnullConstant : E → Bool
  | .int _ => true
  | .bool _ => true
  | _ => false

/-- may this argument end the COALESCE?  `skipNull = true` is the code as it is now (e0979fa): a constant that is not
    the NULL literal (nor `-NULL`); `skipNull = false` is the earlier `_is_constant(arg)`, kept for the witness -/
def endsCoalesce (skipNull : Bool) (h : E) : Bool :=
  isConstant h && !(skipNull && (isNullE h || (match h with | .neg x => isNullE x | _ => false)))

/-- split the COALESCE tail at the first argument that ends it: (prefix, that constant) -/
def splitAtConst (skipNull : Bool) : E → Option (E × E)
  | .cons h t =>
    if endsCoalesce skipNull h then some (.nil, h)
    else match splitAtConst skipNull t with
      | some (pre, c) => some (.cons h pre, c)
      | none => none
  | _ => none

def mkCmpLike (k : Option Cmp) (a b : E) : E :=
  match k with
  | some op => .cmp op a b
  | none => .is a b

/-- b0a036f: a NOT subject of the `IS NULL` guards is parenthesised (`NOT x IS NULL` would parse back as NOT (x IS NULL)) -/
def wrapNotSubject : E → E
  | .not a => .paren (.not a)
  | e => e

def coalesceRewrite (skipNull : Bool) (k : Option Cmp) (coalesceLeft : Bool) (first rest other : E) : Option E :=
  if !isConstant other then none else
  match splitAtConst skipNull rest with
  | none => none
  | some (pre, c) =>
    let truncated := E.coalesce (.cons first pre)
    let this := wrapNotSubject (if pre = .nil then first else truncated)
    let exprCopy := if coalesceLeft then mkCmpLike k truncated other else mkCmpLike k other truncated
    let constCmp := if coalesceLeft then mkCmpLike k c other else mkCmpLike k other c
    some (.paren (mkOr (mkAnd (.not (.is this .null)) exprCopy) (mkAnd (.is this .null) constCmp)))

/-- the variant in which the guard subject is always the FIRST argument (`this = coalesce.this`) instead of the truncated
    `COALESCE(a1 … ak)`: kept only for the witness that the whole prefix is needed -/
def coalesceRewriteFirstArgGuard (k : Option Cmp) (first rest other : E) : Option E :=
  match splitAtConst true rest with
  | none => none
  | some (pre, c) =>
    let truncated := E.coalesce (.cons first pre)
    some (.paren (mkOr (mkAnd (.not (.is first .null)) (mkCmpLike k truncated other)) (mkAnd (.is first .null) (mkCmpLike k c other))))

def simplifyCoalesce (fl : Flags) (p : PK) (e : E) : E :=
  match e with
  | .coalesce (.cons first rest) =>
    if rest = .nil || isNonnullConstant first then wrapForParent first p else e
  | _ =>
    if fl.coalesceNonStd then e else
    match cmpParts e with
    | some (k, l, r) =>
      match l with
      | .coalesce (.cons first rest) => (coalesceRewrite true k true first rest r).getD e
      | _ =>
        match r with
        | .coalesce (.cons first rest) => (coalesceRewrite true k false first rest l).getD e
        | _ => e
    | none => e

/-! ## simplify_parens -/
def pkIsPredicate : PK → Bool
  | .cmp | .is | .between | .inList => true
  | _ => false

def pkIsBinaryNonConn : PK → Bool
  | .cmp | .is | .add | .sub | .mul => true
  | _ => false

def eIsPredicate : E → Bool
  | .cmp _ _ _ | .is _ _ | .between _ _ _ | .inList _ _ => true
  | _ => false

def eIsBinary : E → Bool
  | .cmp _ _ _ | .is _ _ | .add _ _ | .sub _ _ | .mul _ _ | .and _ _ | .or _ _ => true
  | _ => false

def simplifyParens (p : PK) (e : E) : E :=
  match e with
  | .paren this =>
    if eIsPredicate this && !(pkIsPredicate p || p = .neg || pkIsBinaryNonConn p) then this
    else if p = .none || p = .other || p = .paren then this
    else if !eIsBinary this && !((match this with | .not _ => true | .is _ _ => true | _ => false) && pkIsPredicate p)
        -- NOT and the non-binary predicates bind looser than arithmetic and unary minus (kept since the text-level fix)
        && !((eIsPredicate this || (match this with | .not _ => true | _ => false)) && (p = .neg || p = .add || p = .sub || p = .mul))
      then this
    else match this, p with
      | .add _ _, .add => this
      | .mul _ _, .mul => this
      | .mul _ _, .add => this
      | .mul _ _, .sub => this
      | _, _ => e
  | _ => e

/-! ## flatten (one level, as in simplify.flatten) -/
def flattenChild (isAnd : Bool) (node : E) : E :=
  match unnest node, isAnd with
  | .and a b, true => .and a b
  | .or a b, false => .or a b
  | _, _ => node

def flatten1 : E → E
  | .and a b => .and (flattenChild true a) (flattenChild true b)
  | .or a b => .or (flattenChild false a) (flattenChild false b)
  | e => e


/-! ## _flat_simplify (the queue algorithm), parametric in the pair function -/

inductive FK
  | and | or | add | mul
  deriving DecidableEq, Repr

def FK.mk : FK → E → E → E
  | .and, a, b => .and a b
  | .or, a, b => .or a b
  | .add, a, b => .add a b
  | .mul, a, b => .mul a b

/-- `expression.flatten(unnest=False)`: the operands of the same-class chain, pre-order, parentheses kept -/
def flattenOps : FK → E → List E
  | .and, .and a b => flattenOps .and a ++ flattenOps .and b
  | .or, .or a b => flattenOps .or a ++ flattenOps .or b
  | .add, .add a b => flattenOps .add a ++ flattenOps .add b
  | .mul, .mul a b => flattenOps .mul a ++ flattenOps .mul b
  | _, e => [e]

/-- the inner `for b in queue` loop: first `b` that combines with `a`; returns the result and the queue without `b` -/
def tryPair (pair : E → E → Option E) (a : E) : List E → Option (E × List E)
  | [] => none
  | b :: rest =>
    match pair a b with
    | some r => some (r, rest)
    | none =>
      match tryPair pair a rest with
      | some (r, rest') => some (r, b :: rest')
      | none => none

/-- the `while queue` loop: `ops` is the reversed `operands` list -/
def flatLoop (pair : E → E → Option E) : Nat → List E → List E → List E
  | 0, q, ops => ops.reverse ++ q
  | _ + 1, [], ops => ops.reverse
  | fuel + 1, a :: q, ops =>
    match tryPair pair a q with
    | some (r, q') => flatLoop pair fuel (r :: q') ops
    | none => flatLoop pair fuel q (a :: ops)

/-- `CONNECTOR_COMBINABLE` -/
def isCombinable : E → Bool
  | .bool _ | .int _ | .null | .cmp _ _ _ | .is _ _ => true
  | _ => false

def FK.isConnector : FK → Bool
  | .and | .or => true
  | _ => false

/-- `_flat_simplify(expression, simplifier, root)`; `gate` = `root or not expression.same_parent` -/
def flatSimplify (k : FK) (pair : E → E → Option E) (gate : Bool) (e : E) : E :=
  if !gate then e else
  let xs := flattenOps k e
  if k.isConnector && !xs.any isCombinable then e else
  let ops := flatLoop pair xs.length xs []
  if ops.length < xs.length then
    match ops with
    | x :: rest => rest.foldl k.mk x
    | [] => e
  else e

/-- the pair function `_simplify_connectors` as `_flat_simplify` uses it (`None` and "returned the connector itself" both mean no change) -/
def connPairOpt (isAnd : Bool) (a b : E) : Option E :=
  match connPair isAnd a b with
  | .res r => some r
  | _ => none

/-- the part of the pair table whose results are exact in 3-valued logic: the constant table and every
    `_simplify_comparison` result on `c op l`, `c op' r` except the `→ FALSE` ones -/
def exactPair (isAnd : Bool) (a b : E) : Option E :=
  match connConst isAnd a b with
  | some x => some x
  | none =>
    match a, b with
    | .cmp opl c l, .cmp opr c' r =>
      if c = c' then
        match numVal? l, numVal? r with
        | some lv, some rv =>
          match cmpDecide true (!isAnd) a b (some opl) lv (some opr) rv with
          | .res x => if x = .bool false then none else some x
          | _ => none
        | _, _ => none
      else none
    | _, _ => none



/-! ## remove_complements and uniq_sort as mirrored functions -/

/-- `expression.flatten()` (unnest=True): operands of the same-class chain, each with its parentheses stripped -/
def flattenU : FK → E → List E
  | .and, .and a b => flattenU .and a ++ flattenU .and b
  | .or, .or a b => flattenU .or a ++ flattenU .or b
  | _, e => [unnest e]

def connKind : E → Option FK
  | .and _ _ => some .and
  | .or _ _ => some .or
  | _ => none

/-- `remove_complements(expression, root)`; `gate` = `root or not same_parent`, `nonnull` = the connector's `nonnull` meta -/
def removeComplements (gate nonnull : Bool) (e : E) : E :=
  match connKind e with
  | none => e
  | some k =>
    if !gate then e else
    let ops := flattenU k e
    if nonnull && ops.any (fun op => match op with | .not x => ops.contains x | _ => false) then
      .bool (k != .and)
    else e

/-- `result_func(*xs, copy=False)` (`exp.and_` / `exp.or_`): a left-nested chain, connector operands parenthesised -/
def mkChain (k : FK) : List E → E
  | [] => .bool (k == .and)
  | [x] => x
  | x :: rest => rest.foldl (fun acc y => k.mk acc (wrapConn y)) (wrapConn x)

def sameSet (xs ys : List E) : Bool := xs.all (fun x => ys.contains x) && ys.all (fun y => xs.contains y)

/-- `uniq_sort(expression, root)` with the operand order of the result as an explicit parameter (the real order comes from
    sorting `gen()` texts, which is not modelled): `order` must be a duplicate-free rearrangement of the operands -/
def uniqSortWith (order : List E) (gate : Bool) (e : E) : E :=
  match connKind e with
  | none => e
  | some k =>
    if !gate then e else
    let ops := flattenU k e
    if order == ops then e
    else if !sameSet order ops then e
    else match order with
      | [x] => mkAnd x (.bool true)
      | _ => mkChain k order

/-! ## sort_comparison — checked, not mirrored (its choice depends on `gen()` text order) -/
def checkSortComparison (inverseCmp : Cmp → Cmp) (before after : E) : Bool :=
  before == after ||
  match before with
  | .cmp op l r => after == .cmp (inverseCmp op) r l
  | _ => false

/-! ## normalize.normalized -/
def hasConn (isAnd : Bool) : E → Bool
  | .and a b => isAnd || hasConn isAnd a || hasConn isAnd b
  | .or a b => !isAnd || hasConn isAnd a || hasConn isAnd b
  | .not a | .paren a | .neg a | .coalesce a => hasConn isAnd a
  | .cmp _ a b | .is a b | .inList a b | .case a b | .add a b | .sub a b | .mul a b | .cons a b =>
    hasConn isAnd a || hasConn isAnd b
  | .between a b c | .iff a b c => hasConn isAnd a || hasConn isAnd b || hasConn isAnd c
  | _ => false

/-- `normalized(e, dnf)`: no `root` connector (OR for DNF, AND for CNF) below an `ancestor` connector -/
def normalizedM (dnf : Bool) : E → Bool
  | .and a b => (if dnf then !(hasConn false a || hasConn false b) else true) && normalizedM dnf a && normalizedM dnf b
  | .or a b => (if dnf then true else !(hasConn true a || hasConn true b)) && normalizedM dnf a && normalizedM dnf b
  | .not a | .paren a | .neg a | .coalesce a => normalizedM dnf a
  | .cmp _ a b | .is a b | .inList a b | .case a b | .add a b | .sub a b | .mul a b | .cons a b =>
    normalizedM dnf a && normalizedM dnf b
  | .between a b c | .iff a b c => normalizedM dnf a && normalizedM dnf b && normalizedM dnf c
  | _ => true


/-! ## propagate_constants (as repaired: only `column = literal` conjuncts of the AND are harvested) -/

def isColumn : E → Bool
  | .bcol _ _ | .icol _ _ => true
  | _ => false

/-- the `column = literal` conjuncts on the AND / Paren spine (what `_is_conjunct_of` admits) -/
def conjBindings : E → List (E × Int)
  | .and a b => conjBindings a ++ conjBindings b
  | .paren a => conjBindings a
  | .cmp .eq c (.int n) => if isColumn c then [(c, n)] else []
  | _ => []

def lookupB (m : List (E × Int)) (c : E) : Option Int :=
  match m with
  | [] => none
  | (c', n) :: rest => if c' = c then some n else lookupB rest c

/-- replace every bound column by its constant, except under `col IS NULL` -/
def substAll (m : List (E × Int)) : E → E
  | .bcol k nn => match lookupB m (.bcol k nn) with | some n => .int n | none => .bcol k nn
  | .icol k nn => match lookupB m (.icol k nn) with | some n => .int n | none => .icol k nn
  | .is a b => if b = .null && isColumn a then .is a b else .is (substAll m a) b
  | .and a b => .and (substAll m a) (substAll m b)
  | .or a b => .or (substAll m a) (substAll m b)
  | .not a => .not (substAll m a)
  | .paren a => .paren (substAll m a)
  | .neg a => .neg (substAll m a)
  | .cmp op a b => .cmp op (substAll m a) (substAll m b)
  | .add a b => .add (substAll m a) (substAll m b)
  | .sub a b => .sub (substAll m a) (substAll m b)
  | .mul a b => .mul (substAll m a) (substAll m b)
  | .between a lo hi => .between (substAll m a) (substAll m lo) (substAll m hi)
  | .inList a xs => .inList (substAll m a) (substAll m xs)
  | .coalesce xs => .coalesce (substAll m xs)
  | .case ifs d => .case (substAll m ifs) (substAll m d)
  | .iff c t f => .iff (substAll m c) (substAll m t) (substAll m f)
  | .cons h t => .cons (substAll m h) (substAll m t)
  | e => e

/-- the substitution along the spine: the defining `column = literal` conjuncts stay as they are -/
def substSpine (m : List (E × Int)) : E → E
  | .and a b => .and (substSpine m a) (substSpine m b)
  | .paren a => .paren (substSpine m a)
  | .cmp .eq c (.int n) => if isColumn c then .cmp .eq c (.int n) else substAll m (.cmp .eq c (.int n))
  | e => substAll m e

def hasDupCols : List (E × Int) → Bool
  | [] => false
  | (c, _) :: rest => rest.any (fun p => p.1 == c) || hasDupCols rest

/-- `propagate_constants(expression, root)`; `gate` = `root or not same_parent`.  `none`: a column is bound by two
    conjuncts (which one wins depends on the BFS visiting order of `walk_in_scope`, not modelled) -/
def propagateConstants (gate : Bool) (e : E) : Option E :=
  match e with
  | .and _ _ =>
    if gate && normalizedM true e then
      let m := conjBindings e
      if hasDupCols m then none else some (substSpine m e)
    else some e
  | _ => some e

/-! ## normalize.py: normalization_distance, distributive_law, _distribute -/

/-- `len(tuple(e.find_all(exp.Connector)))` -/
def countConn : E → Nat
  | .and a b => countConn a + countConn b + 1
  | .or a b => countConn a + countConn b + 1
  | .not a | .paren a | .neg a | .coalesce a => countConn a
  | .cmp _ a b | .is a b | .inList a b | .case a b | .add a b | .sub a b | .mul a b | .cons a b => countConn a + countConn b
  | .between a b c | .iff a b c => countConn a + countConn b + countConn c
  | _ => 0

/-- `_predicate_lengths` (without the depth cut-off, which needs nesting deeper than `max_distance`) -/
def predLengths (dnf : Bool) : E → List Nat
  | .paren a => predLengths dnf a
  | .and a b =>
    if dnf then (predLengths dnf a).flatMap (fun x => (predLengths dnf b).map (fun y => x + y))
    else predLengths dnf a ++ predLengths dnf b
  | .or a b =>
    if dnf then predLengths dnf a ++ predLengths dnf b
    else (predLengths dnf a).flatMap (fun x => (predLengths dnf b).map (fun y => x + y))
  | _ => [1]

/-- `normalization_distance(e, dnf)` with `max_ = inf` -/
def normalizationDistance (dnf : Bool) (e : E) : Int :=
  ((predLengths dnf e).foldl (· + ·) 0 : Nat) - ((countConn e + 1 : Nat) : Int)

/-- split a connector of the given polarity -/
def splitConn (isAnd : Bool) : E → Option (E × E)
  | .and a b => if isAnd then some (a, b) else none
  | .or a b => if isAnd then none else some (a, b)
  | _ => none

def mkConn (isAnd : Bool) (a b : E) : E := if isAnd then mkAnd a b else mkOr a b
def rawConn (isAnd : Bool) (a b : E) : E := if isAnd then .and a b else .or a b

/-- `_distribute(a, b, from_func, to_func, simplifier)`; `toAnd` = the target polarity (CNF: AND), `us` = uniq_sort
    (order-dependent, a parameter here), `b` is a connector of the target polarity -/
def distribute (us : E → E) (toAnd : Bool) (a b : E) : E :=
  match splitConn toAnd b with
  | none => rawConn (!toAnd) a b
  | some (bl, br) =>
    let f := fun c => mkConn toAnd (us (flatten1 (mkConn (!toAnd) c bl))) (us (flatten1 (mkConn (!toAnd) c br)))
    match splitConn toAnd a with
    | some (al, ar) => rawConn toAnd (f al) (f ar)
    | none => f a

/-- the top-level step of `distributive_law` on a node whose children are already processed -/
def distTop (us : E → E) (dnf : Bool) (e : E) : E :=
  match splitConn dnf e with
  | none => e
  | some (a0, b0) =>
    let a := unnest a0
    let b := unnest b0
    let isTo := fun x => (splitConn (!dnf) x).isSome
    if isTo a && isTo b then
      (if countConn a > countConn b then distribute us (!dnf) a b else distribute us (!dnf) b a)
    else if isTo a then distribute us (!dnf) b a
    else if isTo b then distribute us (!dnf) a b
    else e

mutual
/-- `distributive_law(e, dnf, max_distance)` on the path where the distance check does not raise -/
def distLaw (us : E → E) (dnf : Bool) : E → E
  | .and a b => if normalizedM dnf (.and a b) then .and a b else distTop us dnf (.and (distLaw us dnf a) (distLaw us dnf b))
  | .or a b => if normalizedM dnf (.or a b) then .or a b else distTop us dnf (.or (distLaw us dnf a) (distLaw us dnf b))
  | .not a => .not (distLaw us dnf a)
  | .paren a => .paren (distLaw us dnf a)
  | .neg a => .neg (distLaw us dnf a)
  | .cmp op a b => .cmp op (distLaw us dnf a) (distLaw us dnf b)
  | .is a b => .is (distLaw us dnf a) b
  | .add a b => .add (distLaw us dnf a) (distLaw us dnf b)
  | .sub a b => .sub (distLaw us dnf a) (distLaw us dnf b)
  | .mul a b => .mul (distLaw us dnf a) (distLaw us dnf b)
  | .between a lo hi => .between (distLaw us dnf a) (distLaw us dnf lo) (distLaw us dnf hi)
  | .inList a xs => .inList (distLaw us dnf a) (distLawL us dnf xs)
  | .coalesce xs => .coalesce (distLawL us dnf xs)
  | .case ifs d => .case (distLawIfs us dnf ifs) (distLaw us dnf d)
  | .iff c t f => .iff (distLaw us dnf c) (distLaw us dnf t) (distLaw us dnf f)
  | e => e
def distLawL (us : E → E) (dnf : Bool) : E → E
  | .cons h t => .cons (distLaw us dnf h) (distLawL us dnf t)
  | e => e
def distLawIfs (us : E → E) (dnf : Bool) : E → E
  | .cons h rest =>
    match h with
    | .iff c t f => .cons (.iff (distLaw us dnf c) (distLaw us dnf t) (distLaw us dnf f)) (distLawIfs us dnf rest)
    | _ => .cons h (distLawIfs us dnf rest)
  | e => e
end

/-- every BETWEEN rewritten (what `node.transform(rewrite_between)` does inside normalize) -/
def rbAll : E → E
  | .between a lo hi => .and (.cmp .gte (rbAll a) (rbAll lo)) (.cmp .lte (rbAll a) (rbAll hi))
  | .and a b => .and (rbAll a) (rbAll b)
  | .or a b => .or (rbAll a) (rbAll b)
  | .not (.between a lo hi) => .not (.paren (.and (.cmp .gte (rbAll a) (rbAll lo)) (.cmp .lte (rbAll a) (rbAll hi))))
  | .not a => .not (rbAll a)
  | .paren a => .paren (rbAll a)
  | e => e

/-! ## the verified 3-valued truth-table checker (for uniq_sort, absorb_and_eliminate, remove_complements,
     flatten, De Morgan, distributive_law and whole `normalize` runs)

  Maximal non-connector subterms are atoms; `x BETWEEN l AND h` is read as its two comparisons (so a step
  may contain `rewrite_between`).  An atom built only from NOT NULL columns and literals by comparisons can
  never be NULL and is enumerated over {TRUE, FALSE} only. -/

def absE (σ : E → B3) : E → B3
  | .and a b => and3 (absE σ a) (absE σ b)
  | .or a b => or3 (absE σ a) (absE σ b)
  | .not a => not3 (absE σ a)
  | .paren a => absE σ a
  | .bool v => some v
  | .null => none
  | .int n => some (n != 0)
  | .between a lo hi => and3 (σ (.cmp .gte a lo)) (σ (.cmp .lte a hi))
  | e => σ e

def atomsOf : E → List E
  | .and a b => atomsOf a ++ atomsOf b
  | .or a b => atomsOf a ++ atomsOf b
  | .not a => atomsOf a
  | .paren a => atomsOf a
  | .bool _ => []
  | .null => []
  | .int _ => []
  | .between a lo hi => [.cmp .gte a lo, .cmp .lte a hi]
  | e => [e]

/-- syntactic "can never evaluate to NULL" -/
def nonNullE : E → Bool
  | .bool _ => true
  | .int _ => true
  | .bcol _ nn => nn
  | .icol _ nn => nn
  | .cmp _ a b => nonNullE a && nonNullE b
  | .add a b | .sub a b | .mul a b => nonNullE a && nonNullE b
  | .neg a => nonNullE a
  | .paren a => nonNullE a
  | .not a => nonNullE a
  | .and a b | .or a b => nonNullE a && nonNullE b
  | .is _ .null => true
  | .is _ (.bool _) => true
  | _ => false

def upd (σ : E → B3) (x : E) (v : B3) : E → B3 := fun y => if y = x then v else σ y

def checkAll : List E → (E → B3) → E → E → Bool
  | [], σ, a, b => absE σ a == absE σ b
  | x :: xs, σ, a, b =>
    checkAll xs (upd σ x (some true)) a b && checkAll xs (upd σ x (some false)) a b &&
      (nonNullE x || checkAll xs (upd σ x none) a b)

def ttCheck (a b : E) : Bool := checkAll ((atomsOf a ++ atomsOf b).eraseDups) (fun _ => none) a b

/-- syntactic "evaluates to NULL / TRUE / FALSE only" (so truth-equivalence is value equality) -/
def boolish : E → Bool
  | .null | .bool _ | .bcol _ _ => true
  | .and _ _ | .or _ _ | .not _ | .cmp _ _ _ | .between _ _ _ | .inList _ _ => true
  | .is _ .null | .is _ (.bool _) => true
  | .paren a => boolish a
  | _ => false

inductive Rule
  | uniqSort | absorbAndEliminate | removeComplements | flatten | distributiveLaw | normalize | sortComparison
  deriving DecidableEq, Repr

/-- the step checker: accept ⇒ (by `checkStep_sound`) before and after have the same 3-valued truth value
    under every assignment, and the same value when both are `boolish` -/
def checkStep (inverseCmp : Cmp → Cmp) (r : Rule) (before after : E) : Bool :=
  match r with
  | .sortComparison => checkSortComparison inverseCmp before after
  | _ => before == after || ttCheck before after


/-! ## text level: when may a pair of parentheses be dropped without changing how the printed SQL parses back?

  `reparseSafe p pos c` abstracts the precedence ladder of the base-dialect parser (OR < AND < prefix NOT < =,<> <
  <,<=,>,>= < IS / IN / BETWEEN < + - < * < unary minus < atoms): a child of kind `c` printed without parentheses in
  operand slot `pos` (0 = this / left / subject, 1 = right / low bound / list member, 2 = high bound) of a parent of kind
  `p` parses back with the same meaning.  Conservative (never `true` for an unsafe slot); validated on every run against
  the real parser by the harness.  The guard list of `simplify_parens` is regenerated from the source (Generated/C06.lean:
  `parensGuard`) and must only drop parentheses where this table says it is safe. -/
inductive PKind
  | none | func | paren | or | and | not | eq | rel | is | between | inList | add | sub | mul | neg | atom
  deriving DecidableEq, Repr

def parentKinds : List PKind := [.none, .func, .paren, .or, .and, .not, .eq, .rel, .is, .inList, .add, .sub, .mul, .neg]
def childKinds : List PKind := [.paren, .or, .and, .not, .eq, .rel, .is, .between, .inList, .add, .sub, .mul, .neg, .atom, .func]

/-- level of the parser's ladder at which a node of this kind is produced -/
def prodLevel : PKind → Nat
  | .or => 1
  | .and => 2
  | .not => 3
  | .eq => 4
  | .rel => 5
  | .is | .between | .inList => 6
  | .add | .sub => 8
  | .mul => 9
  | .neg => 10
  | _ => 11

def reparseSafe (p : PKind) (pos : Nat) (c : PKind) : Bool :=
  match c with
  | .not =>  -- a prefix NOT takes everything up to the next AND / OR as its operand
    (match p with
     | .none | .func | .paren | .or | .and | .not => true
     | .inList => pos != 0
     | _ => false)
  | _ =>
    match p with
    | .none | .func | .paren | .atom | .or => true
    | .and => prodLevel c ≥ 2
    | .not => prodLevel c ≥ 4
    | .eq => if pos = 0 then prodLevel c ≥ 4 else prodLevel c ≥ 5
    | .rel => if pos = 0 then prodLevel c ≥ 5 else prodLevel c ≥ 6
    | .is => prodLevel c ≥ 6
    | .between => if pos = 0 then prodLevel c ≥ 6 else prodLevel c ≥ 7
    | .inList => if pos = 0 then prodLevel c ≥ 6 else true
    | .add => if pos = 0 then prodLevel c ≥ 8 else (prodLevel c ≥ 9 || c = .add || c = .sub)
    | .sub => if pos = 0 then prodLevel c ≥ 8 else prodLevel c ≥ 9
    | .mul => if pos = 0 then prodLevel c ≥ 9 else (prodLevel c ≥ 10 || c = .mul)
    | .neg => prodLevel c ≥ 10

/-- the slots of the repaired text-level defect (before the fix `simplify_parens` dropped the parentheses of a NOT / IN /
    BETWEEN operand of + - * or unary minus: `(NOT a) + 1 → NOT a + 1`, `-(a IN (1)) → -a IN (1)`) -/
def knownUnsafeParens (p c : PKind) : Bool :=
  (p = .add || p = .sub || p = .mul || p = .neg) && (c = .not || c = .inList || c = .between)

/-- snapshot of the guard list of `simplify_parens` as it was BEFORE that fix (kept only for the witness theorem; the live
    guard is regenerated into Generated/C06.lean) -/
def oldParensGuard (t p : PKind) : Bool :=
  let pred := fun k => k = PKind.eq || k = .rel || k = .is || k = .between || k = .inList
  let bin := fun k => k = PKind.eq || k = .rel || k = .is || k = .add || k = .sub || k = .mul || k = .or || k = .and
  let conn := fun k => k = PKind.or || k = .and
  if pred t && !(pred p || p = .neg || (bin p && !conn p)) then true
  else if p = .none || p = .paren
      || (!bin t && !((t = .not || t = .is) && pred p))
      || (t = .add && p = .add) || (t = .mul && p = .mul) || (t = .mul && (p = .add || p = .sub)) then true
  else false


/-! ## copy discipline of normalize._distribute (object identity, which `eval` cannot see)

  `_distribute` builds clauses with `from_func(x, y)`; every operand is either deep-copied (`copy=True`, the default of
  `exp.and_` / `exp.or_`) or MOVED into the new clause.  An operand object moved into two places is shared: the next
  `while_changing` iteration rewrites it in place and changes both clauses.  The uses are regenerated from the source
  (Generated/C06.lean: `distributeUses`); the same-polarity branch runs its lambda once per child of `a` (two children). -/
inductive DOp
  | a | c | bLeft | bRight | other
  deriving DecidableEq, Repr

structure DistUse where
  perChild : Bool   -- inside the `replace_children(a, lambda c: …)` of the same-polarity branch
  operand : DOp
  copied : Bool
  deriving DecidableEq, Repr

/-- the operand objects MOVED into the output by one call (tagged with the child index for the loop variable `c`) -/
def movedObjects (uses : List DistUse) : List (DOp × Nat) :=
  (uses.filter (fun u => !u.perChild && !u.copied)).map (fun u => (u.operand, 0)) ++
  [1, 2].flatMap (fun i => (uses.filter (fun u => u.perChild && !u.copied)).map
    (fun u => (u.operand, if u.operand = .c then i else 0)))

def hasDup : List (DOp × Nat) → Bool
  | [] => false
  | x :: xs => xs.contains x || hasDup xs

/-- no operand object ends up in two places of the output -/
def noSharing (uses : List DistUse) : Bool := !hasDup (movedObjects uses)

/-- snapshot of the seeded variant (second clause built with `copy=False` in both branches) -/
def distributeUsesCopyFalse : List DistUse :=
  [⟨true, .c, true⟩, ⟨true, .bLeft, true⟩, ⟨true, .c, false⟩, ⟨true, .bRight, false⟩,
   ⟨false, .a, true⟩, ⟨false, .bLeft, true⟩, ⟨false, .a, false⟩, ⟨false, .bRight, false⟩]

/-- what is checked on every observed `normalize(e, dnf) = e'`: equivalence (truth table) AND the result is in the
    requested normal form (mirrored `normalized`) or is the input (possibly with BETWEEN rewritten) -/
def checkNormalize (inverseCmp : Cmp → Cmp) (dnf : Bool) (e e' : E) : Bool :=
  checkStep inverseCmp .normalize e e' && (normalizedM dnf e' || e' == e || e' == rbAll e)

end SqlglotModel.Simplify
