/-
  Model/Tree.lean — pointer heap model of `sqlglot.expressions.core.Expression` (C08, C09).

  A heap maps node ids to records `{cls, raw, args, parent, argKey, index, hash}`:
    * `args`   : the `args` dict as an association list in insertion order (values: one child id, a scalar,
                 or a python list whose items are child ids / scalars),
    * `parent`, `argKey`, `index` : the back pointers `Expression.parent / arg_key / index`,
    * `hash`   : the memo `Expression._hash` (`none` = `None`).

  Mirrored exactly (sqlglot/expressions/core.py): `_set_parent`, `set` (no index; index + None / list / overwrite /
  insert, including the two early returns that happen *after* the invalidation loop), `append`, `replace`
  (except the "replace a scalar arg by a list => replace the parent" recursion: `none`), `pop`, the invalidation
  loop with its early exit, `__hash__` (bottom-up fill, `_hash_raw_args`, the list branch with None/False, `lower()`),
  `__eq__`, the iterative `__deepcopy__` (its explicit stack, `copy._hash = node._hash`, `copy.set` / `copy.append` /
  `copy.args[k] = …`; the deep copies of `comments`, `_type`, `_meta` are not modelled), the walk of `transform` and the
  loops of `replace_children` (parametric in the user function), `set(k, None, index<0)` in both its variants.

  Python's `hash` is abstracted by the uninterpreted functions of `HashFns` (any type `H` of hash values).
  A result `none` stands for "no heap returned": fuel exhausted (a non-terminating loop in Python), an internal
  Python exception (e.g. `str.index`), or a path that is deliberately not modelled.

  No proofs here (see Proofs/Tree*.lean); no Mathlib.
-/
namespace SqlglotModel.Tree

abbrev Id := Nat

inductive Scalar where
  | none
  | bool (b : Bool)
  | int (i : Int)
  | str (s : String)
  deriving DecidableEq, Repr, Inhabited

inductive Item where
  | node (id : Id)
  | leaf (s : Scalar)
  deriving DecidableEq, Repr, Inhabited

inductive Arg where
  | one (id : Id)
  | leaf (s : Scalar)
  | many (items : List Item)
  deriving DecidableEq, Repr, Inhabited

/-- what can be passed as `value` to `set` / `replace` -/
inductive Value where
  | none
  | leaf (s : Scalar)
  | node (id : Id)
  | list (items : List Item)
  deriving DecidableEq, Repr, Inhabited

structure Node (H : Type) where
  cls : String
  raw : Bool
  args : List (String × Arg)
  parent : Option Id
  argKey : Option String
  index : Option Nat
  hash : Option H

def blank {H : Type} : Node H :=
  { cls := "", raw := false, args := [], parent := none, argKey := none, index := none, hash := none }

abbrev Heap (H : Type) := Id → Node H

def empty {H : Type} : Heap H := fun _ => blank

section
variable {H : Type}

def upd (h : Heap H) (i : Id) (f : Node H → Node H) : Heap H :=
  fun j => if j = i then f (h j) else h j

def setPtr (h : Heap H) (c : Id) (p : Option Id) (k : Option String) (i : Option Nat) : Heap H :=
  upd h c (fun nd => { nd with parent := p, argKey := k, index := i })

def setIndex (h : Heap H) (c : Id) (i : Option Nat) : Heap H :=
  upd h c (fun nd => { nd with index := i })

def setHash (h : Heap H) (n : Id) (x : Option H) : Heap H :=
  upd h n (fun nd => { nd with hash := x })

def setArgs (h : Heap H) (n : Id) (args : List (String × Arg)) : Heap H :=
  upd h n (fun nd => { nd with args := args })

/-! ### the `args` dict -/

def getKey (k : String) : List (String × Arg) → Option Arg
  | [] => none
  | (k', a) :: r => if k' = k then some a else getKey k r

def hasKey (k : String) (args : List (String × Arg)) : Bool := args.any (fun e => e.1 == k)

/-- `d[k] = a` : in place when the key exists, appended otherwise -/
def setKey (k : String) (a : Arg) (args : List (String × Arg)) : List (String × Arg) :=
  if hasKey k args then args.map (fun e => if e.1 = k then (k, a) else e) else args ++ [(k, a)]

/-- `d.pop(k, None)` -/
def delKey (k : String) (args : List (String × Arg)) : List (String × Arg) :=
  args.filter (fun e => e.1 != k)

/-! ### where children are stored -/

/-- argument value `a` holds child `c` at list position `i` (`none` for a scalar argument) -/
def ArgHas (a : Arg) (i : Option Nat) (c : Id) : Prop :=
  match a, i with
  | .one c', none => c' = c
  | .many items, some j => items[j]? = some (.node c)
  | _, _ => False

/-- node `p` stores child `c` under argument `k` at position `i` -/
def Stored (h : Heap H) (p : Id) (k : String) (i : Option Nat) (c : Id) : Prop :=
  ∃ a, getKey k (h p).args = some a ∧ ArgHas a i c

def Unstored (h : Heap H) (c : Id) : Prop := ∀ p k i, ¬ Stored h p k i c

/-- the association list is a dict: no key occurs twice -/
def KeysUnique (args : List (String × Arg)) : Prop := (args.map Prod.fst).Nodup

def ItemsDistinct (items : List Item) : Prop :=
  items.Pairwise (fun a b => ∀ c, a = .node c → b ≠ .node c)

def itemIds : List Item → List Id
  | [] => []
  | .node c :: r => c :: itemIds r
  | .leaf _ :: r => itemIds r

def argIds : Arg → List Id
  | .one c => [c]
  | .leaf _ => []
  | .many items => itemIds items

def childIds : List (String × Arg) → List Id
  | [] => []
  | (_, a) :: r => argIds a ++ childIds r

/-! ### `_set_parent` -/

def setParentItems (self : Id) (k : String) : Nat → List Item → Heap H → Heap H
  | _, [], h => h
  | i, .node c :: r, h => setParentItems self k (i + 1) r (setPtr h c (some self) (some k) (some i))
  | i, .leaf _ :: r, h => setParentItems self k (i + 1) r h

/-- `self._set_parent(arg_key, value, index)` -/
def setParent (self : Id) (k : String) (v : Value) (index : Option Nat) (h : Heap H) : Heap H :=
  match v with
  | .node c => setPtr h c (some self) (some k) index
  | .list items => setParentItems self k 0 items h
  | _ => h

/-! ### the invalidation loop  `while node and node._hash is not None: node._hash = None; node = node.parent` -/

def inval : Nat → Heap H → Option Id → Option (Heap H)
  | _, h, none => some h
  | 0, _, some _ => none
  | f + 1, h, some n =>
    match (h n).hash with
    | none => some h
    | some _ => inval f (setHash h n none) (h n).parent

/-! ### `set` -/

/-- Python truthiness of a scalar -/
def truthy : Scalar → Bool
  | .none => false
  | .bool b => b
  | .int i => i != 0
  | .str s => s != ""

/-- `for v in expressions[index:]: v.index = v.index - 1` (a scalar item has no `.index`: AttributeError) -/
def decrIdx : Heap H → List Item → Option (Heap H)
  | h, [] => some h
  | _, .leaf _ :: _ => none
  | h, .node c :: r =>
    match (h c).index with
    | some (j + 1) => decrIdx (setIndex h c (some j)) r
    | _ => none

def itemOfValue : Value → List Item
  | .node c => [.node c]
  | .leaf s => [.leaf s]
  | .list vs => vs
  | .none => []

/-- the list that `set(arg_key, value, index, overwrite)` leaves in `args[arg_key]` (value not None) -/
def spliced (items : List Item) (i : Nat) (v : Value) (overwrite : Bool) : List Item :=
  match v with
  | .list vs => items.take i ++ vs ++ items.drop (i + 1)
  | _ => if overwrite then items.take i ++ itemOfValue v ++ items.drop (i + 1)
         else items.take i ++ itemOfValue v ++ items.drop i

/-- `set(k, v, index)` when `args[k]` is a scalar: `args.get(k) or []` turns a falsy scalar into `[]` (early return);
    a non-empty `str` answers `seq_get` (early return when out of range, else the list surgery raises);
    any other truthy scalar is not subscriptable (TypeError) -/
def setOnScalar (h : Heap H) (s : Scalar) (i : Nat) : Option (Heap H) :=
  if truthy s then
    match s with
    | .str t => if i < t.length then none else some h
    | _ => none
  else some h

/-- the part of `set` after the invalidation loop -/
def setCore (h : Heap H) (self : Id) (k : String) (v : Value) (index : Option Nat) (overwrite : Bool) :
    Option (Heap H) :=
  match index with
  | some i =>
    match getKey k (h self).args with
    | none => some h
    | some (.many items) =>
      match items[i]? with
      | none => some h
      | some (.leaf .none) => some h
      | some _ =>
        match v with
        | .none =>
          match decrIdx h (items.drop (i + 1)) with
          | some h' => some (setArgs h' self (setKey k (.many (items.take i ++ items.drop (i + 1))) (h self).args))
          | none => none
        | _ =>
          let l := spliced items i v overwrite
          some (setParentItems self k 0 l (setArgs h self (setKey k (.many l) (h self).args)))
    | some (.leaf s) => setOnScalar h s i
    | some (.one _) => none
  | none =>
    match v with
    | .none => some (setArgs h self (delKey k (h self).args))
    | .leaf s => some (setArgs h self (setKey k (.leaf s) (h self).args))
    | .node c => some (setPtr (setArgs h self (setKey k (.one c) (h self).args)) c (some self) (some k) none)
    | .list items => some (setParentItems self k 0 items (setArgs h self (setKey k (.many items) (h self).args)))

def opSet (fuel : Nat) (h : Heap H) (self : Id) (k : String) (v : Value) (index : Option Nat) (overwrite : Bool) :
    Option (Heap H) :=
  match inval fuel h (some self) with
  | some h1 => setCore h1 self k v index overwrite
  | none => none

/-! ### `set(k, None, index)` with a NEGATIVE index `-back` (accepted by `seq_get` / `list.pop`)

  As written in the source, the renumbering loop `for v in expressions[index:]` then runs over the LAST `back` elements of
  the shortened list instead of the elements after the removed one (`negative_index_breaks_links` in Properties/C08).
  `normalised = true` models the repaired code (`index += len(expressions)` first). -/

def setNoneNegCore (h : Heap H) (self : Id) (k : String) (back : Nat) (normalised : Bool) : Option (Heap H) :=
  match getKey k (h self).args with
  | some (.many items) =>
    if back = 0 ∨ items.length < back then some h
    else
      let pos := items.length - back
      if normalised then setCore h self k .none (some pos) true
      else
        match items[pos]? with
        | none => some h
        | some (.leaf .none) => some h
        | some _ =>
          let items' := items.take pos ++ items.drop (pos + 1)
          match decrIdx h (items'.drop (items'.length - back)) with
          | some h' => some (setArgs h' self (setKey k (.many items') (h self).args))
          | none => none
  | none => some h
  | some (.leaf s) => if truthy s then none else some h
  | some (.one _) => none

def opSetNoneNeg (fuel : Nat) (h : Heap H) (self : Id) (k : String) (back : Nat) (normalised : Bool) : Option (Heap H) :=
  match inval fuel h (some self) with
  | some h1 => setNoneNegCore h1 self k back normalised
  | none => none

/-! ### `append` -/

def listOf (k : String) (args : List (String × Arg)) : List Item :=
  match getKey k args with
  | some (.many items) => items
  | _ => []

/-- (written so that evaluating one cell of the result reads each cell of `h` at most once) -/
def appendCore (h : Heap H) (self : Id) (k : String) (it : Item) : Heap H :=
  let h1 := upd h self (fun nd => { nd with args := setKey k (.many (listOf k nd.args ++ [it])) nd.args })
  match it with
  | .node c =>
    upd h1 c (fun nd => { nd with parent := some self, argKey := some k,
                                  index := some (listOf k (h self).args).length })
  | .leaf _ => h1

def opAppend (fuel : Nat) (h : Heap H) (self : Id) (k : String) (it : Item) : Option (Heap H) :=
  match inval fuel h (some self) with
  | some h1 => some (appendCore h1 self k it)
  | none => none

/-! ### `replace` / `pop` -/

def clearPtr (h : Heap H) (n : Id) : Heap H := setPtr h n none none none

def isListValue : Value → Bool
  | .list _ => true
  | _ => false

def isOne : Option Arg → Bool
  | some (.one _) => true
  | _ => false

def opReplace (fuel : Nat) (h : Heap H) (self : Id) (v : Value) : Option (Heap H) :=
  match (h self).parent with
  | none => some h
  | some p =>
    if v = .node p then some h
    else
      match (h self).argKey with
      | none => some (if v = .node self then h else clearPtr h self)
      | some k =>
        if isListValue v && isOne (getKey k (h p).args) then none
        else
          match opSet fuel h p k v (h self).index true with
          | some h' => some (if v = .node self then h' else clearPtr h' self)
          | none => none

def opPop (fuel : Nat) (h : Heap H) (self : Id) : Option (Heap H) := opReplace fuel h self .none

/-- `replace` INCLUDING the branch `opReplace` leaves out: a list given for a node that sits in a scalar slot —
    "it's assumed that the intention was to really replace the parent": `value = parent.args.get(key)`;
    `if value.parent: value.parent.replace(expression)` (recursively), then `self`'s own pointers are cleared although
    `self` is still held by the replaced-out parent (see `replace_list_in_scalar_slot_leaves_husk` in Properties/C08). -/
def opReplaceRec : Nat → Heap H → Id → Value → Option (Heap H)
  | 0, _, _, _ => none
  | f + 1, h, self, v =>
    match (h self).parent with
    | none => some h
    | some p =>
      if v = .node p then some h
      else
        match (h self).argKey with
        | none => some (if v = .node self then h else clearPtr h self)
        | some k =>
          if isListValue v && isOne (getKey k (h p).args) then
            match getKey k (h p).args with
            | some (.one c') =>
              match (h c').parent with
              | some q =>
                match opReplaceRec f h q v with
                | some h' => some (clearPtr h' self)
                | none => none
              | none => some (clearPtr h self)
            | _ => none
          else
            match opSet (f + 1) h p k v (h self).index true with
            | some h' => some (if v = .node self then h' else clearPtr h' self)
            | none => none

/-! ### construction: `cls()` — arguments are then given by `set` (what `__init__` does, minus the no-op invalidation) -/

def opNew (h : Heap H) (id : Id) (cls : String) (raw : Bool) : Heap H :=
  upd h id (fun _ => { blank with cls := cls, raw := raw })

/-! ### `__hash__` -/

structure HashFns (H : Type) where
  init : String → H
  mixS : H → String → Scalar → H
  mixH : H → String → H → H
  mixK : H → String → H
  lower : String → String

/-- `x is None or x is False` -/
def dropped : Scalar → Bool
  | .none => true
  | .bool false => true
  | _ => false

def normS (F : HashFns H) : Scalar → Scalar
  | .str s => .str (F.lower s)
  | x => x

def hashItems (F : HashFns H) (ch : Id → Option H) (k : String) : H → List Item → Option H
  | acc, [] => some acc
  | acc, .node c :: r =>
    match ch c with
    | some x => hashItems F ch k (F.mixH acc k x) r
    | none => none
  | acc, .leaf s :: r =>
    if dropped s then hashItems F ch k (F.mixK acc k) r
    else hashItems F ch k (F.mixS acc k (normS F s)) r

def hashArg (F : HashFns H) (ch : Id → Option H) (raw : Bool) (k : String) (acc : H) : Arg → Option H
  | .one c =>
    match ch c with
    | some x => some (F.mixH acc k x)
    | none => none
  | .leaf s =>
    if raw then (if truthy s then some (F.mixS acc k s) else some acc)
    else (if dropped s then some acc else some (F.mixS acc k (normS F s)))
  | .many items =>
    if raw then (if items.isEmpty then some acc else none)
    else hashItems F ch k acc items

def hashArgs (F : HashFns H) (ch : Id → Option H) (raw : Bool) : H → List (String × Arg) → Option H
  | acc, [] => some acc
  | acc, (k, a) :: r =>
    match hashArg F ch raw k acc a with
    | some acc' => hashArgs F ch raw acc' r
    | none => none

def insertArg (e : String × Arg) : List (String × Arg) → List (String × Arg)
  | [] => [e]
  | x :: r => if e.1 < x.1 then e :: x :: r else x :: insertArg e r

/-- `for k in sorted(node.args)` -/
def sortArgs : List (String × Arg) → List (String × Arg)
  | [] => []
  | e :: r => insertArg e (sortArgs r)

/-- the hash of one node from its own fields and the (cached) hashes of its children -/
def hashNode (F : HashFns H) (nd : Node H) (ch : Id → Option H) : Option H :=
  hashArgs F ch nd.raw (F.init nd.cls) (sortArgs nd.args)

def foldOpt (g : Heap H → Id → Option (Heap H)) : Heap H → List Id → Option (Heap H)
  | h, [] => some h
  | h, c :: r =>
    match g h c with
    | some h' => foldOpt g h' r
    | none => none

/-- `__hash__`: fill the caches of `n` and of every uncached descendant reachable through uncached nodes, bottom-up -/
def fill (F : HashFns H) : Nat → Heap H → Id → Option (Heap H)
  | 0, _, _ => none
  | f + 1, h, n =>
    match (h n).hash with
    | some _ => some h
    | none =>
      match foldOpt (fill F f) h (childIds (h n).args) with
      | none => none
      | some h1 =>
        match hashNode F (h1 n) (fun c => (h1 c).hash) with
        | some x => some (setHash h1 n (some x))
        | none => none

/-- from-scratch recomputation that ignores every cache -/
def recompute (F : HashFns H) : Nat → Heap H → Id → Option H
  | 0, _, _ => none
  | f + 1, h, n => hashNode F (h n) (fun c => recompute F f h c)

/-- `a == b` : `a is b or (type(a) is type(b) and hash(a) == hash(b))` -/
def opEq [DecidableEq H] (F : HashFns H) (fuel : Nat) (h : Heap H) (a b : Id) : Option (Heap H × Bool) :=
  if a = b then some (h, true)
  else if (h a).cls ≠ (h b).cls then some (h, false)
  else
    match fill F fuel h a with
    | none => none
    | some h1 =>
      match fill F fuel h1 b with
      | none => none
      | some h2 => some (h2, decide ((h2 a).hash = (h2 b).hash))

/-! ### which nodes keep a carried `_hash` in a copy -/

/-- the copy performs no `set`/`append` on a node whose args hold no child and no non-empty list -/
def keepsHash : List (String × Arg) → Bool
  | [] => true
  | (_, .leaf _) :: r => keepsHash r
  | (_, .many []) :: r => keepsHash r
  | _ :: _ => false

/-! ### `transform(fun, copy=False)` and `replace_children(node, fun)` — parametric in the user function

  A user function may edit the heap, allocate fresh cells from the counter `nx`, and returns what Python's `fun(node)`
  returns (`None`, a node, a list, a scalar). -/

abbrev UserFun (H : Type) := Heap H → Nat → Id → Option (Heap H × Nat × Value)

/-- one iteration of the `for node in root.dfs(prune=…)` loop of `transform` for a non-first node: the back pointers are read
    BEFORE `fun` runs; a different result is installed with `parent.set(arg_key, new_node, index)` and prunes the walk -/
def transformStep (fuel : Nat) (fn : UserFun H) (h : Heap H) (nx : Nat) (node : Id) : Option (Heap H × Nat × Bool) :=
  let par := (h node).parent
  let key := (h node).argKey
  let idx := (h node).index
  match fn h nx node with
  | none => none
  | some (h1, nx1, v) =>
    if v = .node node then some (h1, nx1, true)
    else
      match par, key with
      | some p, some k =>
        match opSet fuel h1 p k v idx true with
        | some h2 => some (h2, nx1, false)
        | none => none
      | _, _ => some (h1, nx1, false)

/-- the explicit DFS stack of `dfs` (head = top); children are pushed in reverse, i.e. visited in arg order -/
def transformLoop (fuel : Nat) (fn : UserFun H) : Nat → Heap H → Nat → List Id → Option (Heap H × Nat)
  | 0, _, _, _ => none
  | _ + 1, h, nx, [] => some (h, nx)
  | f + 1, h, nx, node :: st =>
    match transformStep fuel fn h nx node with
    | none => none
    | some (h2, nx2, descend) =>
      transformLoop fuel fn f h2 nx2 (if descend then childIds (h2 node).args ++ st else st)

/-- `root.transform(fun, copy=False)`: the first node's result becomes the returned root and is never installed anywhere -/
def opTransform (fuel : Nat) (fn : UserFun H) (h : Heap H) (nx : Nat) (root : Id) : Option (Heap H × Nat × Value) :=
  match fn h nx root with
  | none => none
  | some (h1, nx1, v) =>
    if v = .node root then
      match transformLoop fuel fn fuel h1 nx1 (childIds (h1 root).args) with
      | some (h2, nx2) => some (h2, nx2, v)
      | none => none
    else
      -- the walk is pruned at once; `assert root` fails for a falsy result
      match v with
      | .none => none
      | .list [] => none
      | .leaf s => if truthy s then some (h1, nx1, v) else none
      | _ => some (h1, nx1, v)

/-- `ensure_collection(fun(cn))` as list items -/
def collect : Value → List Item
  | .none => []
  | .leaf s => [.leaf s]
  | .node c => [.node c]
  | .list vs => vs

/-- the inner loop of `replace_children` over the (snapshot of the) child nodes of one argument -/
def gatherItems (fn : UserFun H) : Heap H → Nat → List Item → Option (Heap H × Nat × List Item)
  | h, nx, [] => some (h, nx, [])
  | h, nx, .leaf s :: r =>
    match gatherItems fn h nx r with
    | some (h', nx', r') => some (h', nx', .leaf s :: r')
    | none => none
  | h, nx, .node c :: r =>
    match fn h nx c with
    | none => none
    | some (h1, nx1, v) =>
      match gatherItems fn h1 nx1 r with
      | some (h', nx', r') => some (h', nx', collect v ++ r')
      | none => none

/-- `seq_get(new_child_nodes, 0)` as a value for `set` -/
def firstValue : List Item → Value
  | [] => .none
  | .node c :: _ => .node c
  | .leaf .none :: _ => .none
  | .leaf s :: _ => .leaf s

/-- `child_nodes = v if is_list_arg else [v]` -/
def argItems : Arg → List Item
  | .many items => items
  | .one c => [.node c]
  | .leaf s => [.leaf s]

/-- what is written back: the new list for a list argument, `seq_get(new_child_nodes, 0)` otherwise -/
def argValue (a : Arg) (new : List Item) : Value :=
  match a with
  | .many _ => .list new
  | _ => firstValue new

def replaceChildrenLoop (fuel : Nat) (fn : UserFun H) (self : Id) :
    Heap H → Nat → List (String × Arg) → Option (Heap H × Nat)
  | h, nx, [] => some (h, nx)
  | h, nx, (k, a) :: r =>
    match gatherItems fn h nx (argItems a) with
    | none => none
    | some (h1, nx1, new) =>
      match opSet fuel h1 self k (argValue a new) none true with
      | some h2 => replaceChildrenLoop fuel fn self h2 nx1 r
      | none => none

/-- `replace_children(self, fun)` — iterates over `tuple(self.args.items())`, a snapshot -/
def opReplaceChildren (fuel : Nat) (fn : UserFun H) (h : Heap H) (nx : Nat) (self : Id) : Option (Heap H × Nat) :=
  replaceChildrenLoop fuel fn self h nx (h self).args

/-! ### a few concrete user functions (used by the driver and for non-vacuity) -/

/-- `Literal()` then `.set("this", txt)`, `.set("is_string", False)` on the fresh cell `nx` -/
def mkLit (fuel : Nat) (h : Heap H) (nx : Nat) (txt : String) : Option (Heap H × Nat × Id) :=
  match opSet fuel (opNew h nx "literal" true) nx "this" (.leaf (.str txt)) none true with
  | none => none
  | some h1 =>
    match opSet fuel h1 nx "is_string" (.leaf (.bool false)) none true with
    | none => none
    | some h2 => some (h2, nx + 1, nx)

def builtinFun (fuel : Nat) (name : String) : UserFun H := fun h nx n =>
  let inList := (h n).index.isSome
  match name with
  | "lit" =>
    if (h n).cls = "column" then (mkLit fuel h nx "0").map (fun (h1, nx1, l) => (h1, nx1, Value.node l))
    else some (h, nx, .node n)
  | "wrap" =>
    if (h n).cls = "literal" then
      match mkLit fuel h nx "7" with
      | none => none
      | some (h1, nx1, l) =>
        match opSet fuel (opNew h1 nx1 "paren" false) nx1 "this" (.node l) none true with
        | none => none
        | some h2 => some (h2, nx1 + 1, .node nx1)
    else some (h, nx, .node n)
  | "drop" => if (h n).cls = "literal" ∧ inList then some (h, nx, .none) else some (h, nx, .node n)
  | "dup" =>
    if (h n).cls = "literal" ∧ inList then
      match mkLit fuel h nx "8" with
      | none => none
      | some (h1, nx1, a) =>
        match mkLit fuel h1 nx1 "9" with
        | none => none
        | some (h2, nx2, b) => some (h2, nx2, .list [.node a, .node b])
    else some (h, nx, .node n)
  | "mut" =>
    if (h n).cls = "paren" then
      match mkLit fuel h nx "5" with
      | none => none
      | some (h1, nx1, l) =>
        match opSet fuel h1 n "this" (.node l) none true with
        | none => none
        | some h2 => some (h2, nx1, .node n)
    else some (h, nx, .node n)
  | _ => some (h, nx, .node n)

/-! ### `__deepcopy__` — the real iterative algorithm

  ```
  root = self.__class__();  stack = [(self, root)]
  while stack:
      node, copy = stack.pop()
      (comments / _type / _meta are deep-copied: not modelled)
      if node._hash is not None: copy._hash = node._hash
      for k, vs in node.args.items():
          if isinstance(vs, Expr):  stack.append((vs, vs.__class__()));  copy.set(k, stack[-1][-1])
          elif type(vs) is list:
              copy.args[k] = []
              for v in vs:
                  if isinstance(v, Expr):  stack.append((v, v.__class__()));  copy.append(k, stack[-1][-1])
                  else:                    copy.append(k, v)
          else: copy.args[k] = vs
  ```
  The stack is a list with its top at the head; fresh cells are taken from the counter `nx`. `copy.set` / `copy.append` are
  the real `opSet` / `opAppend` (with their invalidation loops); `copy.args[k] = …` is the plain dict assignment. -/

/-- `copy.args[k] = a` -/
def assignArg (h : Heap H) (c : Id) (k : String) (a : Arg) : Heap H :=
  upd h c (fun nd => { nd with args := setKey k a nd.args })

def dcItems (fuel : Nat) (c : Id) (k : String) :
    Heap H → Nat → List (Id × Id) → List Item → Option (Heap H × Nat × List (Id × Id))
  | h, nx, st, [] => some (h, nx, st)
  | h, nx, st, .leaf s :: r =>
    match opAppend fuel h c k (.leaf s) with
    | some h1 => dcItems fuel c k h1 nx st r
    | none => none
  | h, nx, st, .node v :: r =>
    match opAppend fuel (opNew h nx (h v).cls (h v).raw) c k (.node nx) with
    | some h1 => dcItems fuel c k h1 (nx + 1) ((v, nx) :: st) r
    | none => none

def dcArgs (fuel : Nat) (c : Id) :
    Heap H → Nat → List (Id × Id) → List (String × Arg) → Option (Heap H × Nat × List (Id × Id))
  | h, nx, st, [] => some (h, nx, st)
  | h, nx, st, (k, .leaf s) :: r => dcArgs fuel c (assignArg h c k (.leaf s)) nx st r
  | h, nx, st, (k, .one v) :: r =>
    match opSet fuel (opNew h nx (h v).cls (h v).raw) c k (.node nx) none true with
    | some h1 => dcArgs fuel c h1 (nx + 1) ((v, nx) :: st) r
    | none => none
  | h, nx, st, (k, .many items) :: r =>
    match dcItems fuel c k (assignArg h c k (.many [])) nx st items with
    | some (h1, nx1, st1) => dcArgs fuel c h1 nx1 st1 r
    | none => none

/-- one iteration of the `while stack` loop for the popped pair `(n, c)` -/
def dcVisit (fuel : Nat) (h : Heap H) (nx : Nat) (st : List (Id × Id)) (n c : Id) :
    Option (Heap H × Nat × List (Id × Id)) :=
  let h1 := match (h n).hash with
    | some x => setHash h c (some x)
    | none => h
  dcArgs fuel c h1 nx st (h n).args

def dcLoop (fuel : Nat) : Nat → Heap H → Nat → List (Id × Id) → Option (Heap H × Nat)
  | 0, _, _, _ => none
  | _ + 1, h, nx, [] => some (h, nx)
  | f + 1, h, nx, (n, c) :: st =>
    match dcVisit fuel h nx st n c with
    | some (h1, nx1, st1) => dcLoop fuel f h1 nx1 st1
    | none => none

/-- `n.copy()` into the fresh cells `base, base+1, …`; returns the heap, the next free id and the copy's root -/
def opDeepcopy (fuel : Nat) (h : Heap H) (n : Id) (base : Nat) : Option (Heap H × Nat × Id) :=
  match dcLoop fuel fuel (opNew h base (h n).cls (h n).raw) (base + 1) [(n, base)] with
  | some (h', nx) => some (h', nx, base)
  | none => none

/-- `root.transform(fun, copy=True)` (the default): the walk runs over `root.copy()` -/
def opTransformCopy (fuel : Nat) (fn : UserFun H) (h : Heap H) (nx : Nat) (root : Id) : Option (Heap H × Nat × Value) :=
  match opDeepcopy fuel h root nx with
  | some (h1, nx1, c) => opTransform fuel fn h1 nx1 c
  | none => none

/-! ### the simplifier's pointer repair loop (sqlglot/optimizer/simplify.py)

  ```
  for k, v in tuple(original.args.items()):
      if v is None: original.args.pop(k)
      else:         original._set_parent(k, v)
  ```
  No hash is invalidated: the values are unchanged, only the children's back pointers are rewritten. -/

def repairStep (self : Id) (h : Heap H) : String × Arg → Heap H
  | (k, .leaf .none) => setArgs h self (delKey k (h self).args)
  | (k, .one c) => setPtr h c (some self) (some k) none
  | (k, .many items) => setParentItems self k 0 items h
  | (_, .leaf _) => h

def repairLoop (self : Id) : Heap H → List (String × Arg) → Heap H
  | h, [] => h
  | h, e :: r => repairLoop self (repairStep self h e) r

def simplifyRepair (h : Heap H) (self : Id) : Heap H := repairLoop self h (h self).args

/-! ### the builder layer (`_apply_builder`, `_apply_list_builder`, `_apply_child_list_builder`,
      `_apply_conjunction_builder`, `_apply_cte_builder`, `_apply_set_operation`)

  Every builder is: `instance = maybe_copy(instance, copy)`; each Expr argument is either used as-is (`maybe_parse(e)`, the
  documented behaviour of `select` / `from_` / `group_by` …) or copied (`maybe_parse(e, copy=copy)`, `and_(…, copy=copy)`);
  fresh wrapper nodes (`Where`, `And`, `CTE`, `With`, a set operation …) are allocated; everything is linked with `set`.
  The model is parametric in that assembly: a list of allocations and `set`s over the fresh material. -/

inductive BOp where
  | new (id : Id) (cls : String) (raw : Bool)
  | set (self : Id) (k : String) (v : Value)

def runB (fuel : Nat) : Heap H → List BOp → Option (Heap H)
  | h, [] => some h
  | h, .new id cls raw :: r => runB fuel (opNew h id cls raw) r
  | h, .set self k v :: r =>
    match opSet fuel h self k v none true with
    | some h' => runB fuel h' r
    | none => none

/-- a builder that copies the receiver AND its Expr argument (copy=True threaded to both): the assembly gets the next free
    id, the receiver's copy and the argument's copy -/
def builderCopyBoth (fuel : Nat) (h : Heap H) (base : Nat) (inst arg : Id) (assemble : Nat → Id → Id → List BOp) :
    Option (Heap H × Nat × Id) :=
  match opDeepcopy fuel h inst base with
  | none => none
  | some (h1, nx1, c) =>
    match opDeepcopy fuel h1 arg nx1 with
    | none => none
    | some (h2, nx2, a) =>
      match runB fuel h2 (assemble nx2 c a) with
      | none => none
      | some h3 => some (h3, nx2, c)

/-- `_apply_conjunction_builder(cond, instance=q, arg="where", into=Where)` on a query without a WHERE:
    `Where(this=cond')` is allocated and installed in the copy -/
def whereAssembly (nx : Nat) (c a : Id) : List BOp :=
  [.new nx "where" false, .set nx "this" (.node a), .set c "where" (.node nx)]

/-- `_apply_cte_builder(q, alias, as_=arg)`: `CTE(this=arg')` inside a fresh `With(expressions=[cte])` -/
def cteAssembly (nx : Nat) (c a : Id) : List BOp :=
  [.new nx "cte" false, .set nx "this" (.node a), .new (nx + 1) "with" false,
   .set (nx + 1) "expressions" (.list [.node nx]), .set c "with_" (.node (nx + 1))]

/-! ### iterators and finders (`root`, `depth`, `find_ancestor`, `unnest`, `dfs` / `bfs` / `walk` with `prune`, `find_all`) -/

/-- `root()`: `while expression.parent: expression = expression.parent` -/
def rootOf : Nat → Heap H → Id → Option Id
  | 0, _, _ => none
  | f + 1, h, n =>
    match (h n).parent with
    | none => some n
    | some p => rootOf f h p

/-- the parent-pointer chain of `n`, nearest first -/
def ancestors : Nat → Heap H → Id → Option (List Id)
  | 0, _, _ => none
  | f + 1, h, n =>
    match (h n).parent with
    | none => some []
    | some p => (ancestors f h p).map (p :: ·)

/-- the `depth` property: `self.parent.depth + 1 if self.parent else 0` -/
def depthOf : Nat → Heap H → Id → Option Nat
  | 0, _, _ => none
  | f + 1, h, n =>
    match (h n).parent with
    | none => some 0
    | some p => (depthOf f h p).map (· + 1)

/-- `find_ancestor(*types)`: `ancestor = self.parent; while ancestor and not isinstance(ancestor, types): ancestor = ancestor.parent` -/
def findAncestorLoop (P : String → Bool) : Nat → Heap H → Option Id → Option (Option Id)
  | 0, _, _ => none
  | _ + 1, _, none => some none
  | f + 1, h, some a => if P (h a).cls then some (some a) else findAncestorLoop P f h (h a).parent

def opFindAncestor (P : String → Bool) (fuel : Nat) (h : Heap H) (n : Id) : Option (Option Id) :=
  findAncestorLoop P fuel h (h n).parent

/-- `unnest()`: `while type(expression) is Paren: expression = expression.this` (`this` may be missing: `None`) -/
def unnestOf : Nat → Heap H → Id → Option (Option Id)
  | 0, _, _ => none
  | f + 1, h, n =>
    if (h n).cls = "paren" then
      match getKey "this" (h n).args with
      | some (.one c) => unnestOf f h c
      | _ => some none
    else some (some n)

/-- `dfs(prune)` (explicit stack, children pushed in reverse = visited in arg order) and `bfs(prune)` (queue): the node is
    yielded first; a pruned node's children are not scheduled -/
def walkLoop (bfs : Bool) (prune : Id → Bool) : Nat → Heap H → List Id → List Id → Option (List Id)
  | _, _, [], acc => some acc.reverse
  | 0, _, _ :: _, _ => none
  | f + 1, h, n :: st, acc =>
    let kids := if prune n then [] else childIds (h n).args
    walkLoop bfs prune f h (if bfs then st ++ kids else kids ++ st) (n :: acc)

def opWalk (bfs : Bool) (prune : Id → Bool) (fuel : Nat) (h : Heap H) (root : Id) : Option (List Id) :=
  walkLoop bfs prune fuel h [root] []

/-- `find_all(*types, bfs)` -/
def opFindAll (bfs : Bool) (P : String → Bool) (fuel : Nat) (h : Heap H) (root : Id) : Option (List Id) :=
  (opWalk bfs (fun _ => false) fuel h root).map (·.filter (fun n => P (h n).cls))

/-! ### histories -/

inductive Op where
  | new (id : Id) (cls : String) (raw : Bool)
  | set (self : Id) (k : String) (v : Value) (index : Option Nat) (overwrite : Bool)
  | append (self : Id) (k : String) (it : Item)
  | replace (self : Id) (v : Value)
  | pop (self : Id)
  | hash (n : Id)
  | eq (a b : Id)
  | copy (n : Id) (base : Nat)
  deriving Repr

def step [DecidableEq H] (F : HashFns H) (fuel : Nat) (h : Heap H) : Op → Option (Heap H)
  | .new id cls raw => some (opNew h id cls raw)
  | .set self k v index ow => opSet fuel h self k v index ow
  | .append self k it => opAppend fuel h self k it
  | .replace self v => opReplace fuel h self v
  | .pop self => opPop fuel h self
  | .hash n => fill F fuel h n
  | .eq a b => (opEq F fuel h a b).map (·.1)
  | .copy n base => (opDeepcopy fuel h n base).map (·.1)

def run [DecidableEq H] (F : HashFns H) (fuel : Nat) : Heap H → List Op → Option (Heap H)
  | h, [] => some h
  | h, op :: ops =>
    match step F fuel h op with
    | some h' => run F fuel h' ops
    | none => none

/-! ### a concrete, collision-free hash: the free term algebra (used by the driver and for non-vacuity) -/

inductive HT where
  | init (cls : String)
  | mixS (h : HT) (k : String) (s : Scalar)
  | mixH (h : HT) (k : String) (x : HT)
  | mixK (h : HT) (k : String)
  deriving DecidableEq, Repr

def freeHash : HashFns HT :=
  { init := .init, mixS := .mixS, mixH := .mixH, mixK := .mixK, lower := String.toLower }

/-! ### the explicit normal form compared by `==`

  `absNorm lower fuel h n` is the NORMALISED structure of the tree below `n`, as a term:
  `init cls` followed, for the arg keys in sorted order, by one item per retained value —
    * non-raw classes: `None`/`False` args are dropped, strings are lower-cased (`mixS k (lower s)`), a child contributes
      its own normal form (`mixH k child`), a list contributes one item per element in order, a `None`/`False` element
      keeps its position as `mixK k`;
    * raw-arg classes (`Literal`, `Identifier`): falsy args are dropped, other values are kept verbatim.
  It ignores ids, back pointers and every `_hash` cache. -/
abbrev Norm := HT

def normFns (lower : String → String) : HashFns Norm :=
  { init := .init, mixS := .mixS, mixH := .mixH, mixK := .mixK, lower := lower }

def absNorm (lower : String → String) (fuel : Nat) (h : Heap H) (n : Id) : Option Norm :=
  recompute (normFns lower) fuel (fun i => { (h i) with hash := none }) n

/-- interpretation of a normal form in a hash algebra (what `hash()` computes from it) -/
def HT.eval (F : HashFns H) : HT → H
  | .init c => F.init c
  | .mixS t k s => F.mixS (HT.eval F t) k s
  | .mixH t k x => F.mixH (HT.eval F t) k (HT.eval F x)
  | .mixK t k => F.mixK (HT.eval F t) k

end

end SqlglotModel.Tree
