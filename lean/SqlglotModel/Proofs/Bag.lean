/-
  Lemmas about the bag semantics of Sem/Bag.lean.  Every join is a nested loop over one table, a block of rows per row:
  `innerJoin on l r` and `leftJoin on l r wr` loop over `l`, with the blocks `(matchesOf on a r).map (a ++ ·)` and
  `padRight a (matchesOf on a r) wr`; `rightJoin on l r wl` loops over `r`, with the block
  `padLeft (matchesOfL on l b) b wl`.  A pushdown fact is a fact about ONE block, carried through the loop by
  `flatMap_congr` (Proofs/List.lean) / `flatMap_filter_of_blocks`, and there are two routes.  A WHERE over the table of
  the loop is constant on each block: it keeps or drops whole blocks (`select_flatMap_of_const`).  A WHERE over the
  joined side selects rows INSIDE each block, so it is no instance of that: it goes into the ON clause
  (`select_innerJoin_as_on`) and from there into the joined source (`matchesOf_and_right`).  A LEFT JOIN with at most
  one match per row is a map (`leftJoin_eq_lookup`).  Last, ORDER BY: a key list compares lexicographically
  (`cmpKeys_append`), and `sortBy` sees its keys only through that comparison (`sortBy_congr`).
-/
import SqlglotModel.Sem.Bag
import SqlglotModel.Proofs.List

namespace SqlglotModel.Bag

theorem isTrue_and3 (x y : B3) : isTrue (and3 x y) = (isTrue x && isTrue y) := by
  rcases x with _ | _ | _ <;> rcases y with _ | _ | _ <;> rfl

theorem isTrue_or3 (x y : B3) : isTrue (or3 x y) = (isTrue x || isTrue y) := by
  rcases x with _ | _ | _ <;> rcases y with _ | _ | _ <;> rfl

theorem isTrue_some (b : Bool) : isTrue (some b) = b := by cases b <;> rfl

theorem isTrue_not3_some (b : Bool) : isTrue (not3 (some b)) = !b := by cases b <;> rfl

theorem isTrue_in3 (v : Val) (vs : List Val) : isTrue (in3 v vs) = vs.any (fun x => isTrue (eq3 v x)) := by
  induction vs with
  | nil => rfl
  | cons x xs ih => simp [in3, isTrue_or3, ih]

theorem eq3_true_not_null (a b : Val) (h : isTrue (eq3 a b) = true) : b.isNull = false := by
  unfold eq3 at h
  cases hb : b.isNull
  · rfl
  · simp [hb, isTrue] at h

theorem eq_null_of_isNull : ∀ {v : Val}, v.isNull = true → v = .null
  | .null, _ => rfl

theorem col_append_right (a b : Row) (w : Nat) (h : a.length = w) : col w (a ++ b) = col 0 b := by
  subst h
  simp [col, List.getD_eq_getElem?_getD, List.getElem?_append_right]

theorem flatMap_filter_of_blocks {α β : Type} (q : α → Bool) (F G : α → List β) (l : List α)
    (h : ∀ a ∈ l, G a = if q a then F a else []) : l.flatMap G = (l.filter q).flatMap F := by
  induction l with
  | nil => rfl
  | cons a l ih =>
    rw [List.flatMap_cons, h a (List.mem_cons_self ..), ih fun b hb => h b (List.mem_cons_of_mem _ hb),
      List.filter_cons]
    cases q a <;> rfl

/-- the shape of `pushdown_dnf`: a predicate `q` on the outer row that `c` implies on every row of its block may be
    applied to the outer table first, while `c` stays where it is -/
theorem select_flatMap_of_implied (c q : Row → B3) (F : Row → Table) (l : Table)
    (h : ∀ a ∈ l, ∀ x ∈ F a, isTrue (c x) = true → isTrue (q a) = true) :
    select c (l.flatMap F) = select c ((select q l).flatMap F) := by
  unfold select
  rw [List.filter_flatMap, List.filter_flatMap]
  -- the block of a row that fails `q` is empty after the filter `c`, so dropping the row loses nothing
  refine flatMap_filter_of_blocks _ _ _ l fun a ha => ?_
  split
  · rfl
  · exact List.filter_eq_nil_iff.mpr fun x hx hc => ‹¬ _› (h a ha x hx hc)

/-- the shape of every "WHERE over the preserved side moves into that side's source": a predicate that is constant on
    each block is implied there by the outer row's, and true on every block that survives -/
theorem select_flatMap_of_const (p q : Row → B3) (F : Row → Table) (l : Table)
    (h : ∀ a ∈ l, ∀ x ∈ F a, p x = q a) : select p (l.flatMap F) = (select q l).flatMap F := by
  rw [select_flatMap_of_implied p q F l fun a ha x hx hp => h a ha x hx ▸ hp]
  refine List.filter_eq_self.mpr fun x hx => ?_
  obtain ⟨a, ha, hxa⟩ := List.mem_flatMap.mp hx
  obtain ⟨hal, hq⟩ := List.mem_filter.mp ha
  rw [h a hal x hxa]
  exact hq

theorem mem_padRight {a x : Row} {m : Table} {wr : Nat} (h : x ∈ padRight a m wr) : ∃ b, x = a ++ b := by
  unfold padRight at h
  split at h
  · exact ⟨_, List.mem_singleton.mp h⟩
  · obtain ⟨b, _, rfl⟩ := List.mem_map.mp h
    exact ⟨b, rfl⟩

theorem mem_padLeft {b x : Row} {m : Table} {wl : Nat} (h : x ∈ padLeft m b wl) : ∃ a, x = a ++ b := by
  unfold padLeft at h
  split at h
  · exact ⟨_, List.mem_singleton.mp h⟩
  · obtain ⟨a, _, rfl⟩ := List.mem_map.mp h
    exact ⟨a, rfl⟩

theorem select_project (p : Row → B3) (f : Row → Row) (t : Table) :
    select p (project f t) = project f (select (fun r => p (f r)) t) := by
  simp only [select, project, List.filter_map]
  rfl

theorem select_select (p q : Row → B3) (t : Table) :
    select p (select q t) = select (fun r => and3 (q r) (p r)) t := by
  simp only [select, List.filter_filter, isTrue_and3, Bool.and_comm]

theorem select_innerJoin_as_on (on : Row → Row → B3) (p : Row → B3) (l r : Table) :
    select p (innerJoin on l r) = innerJoin (fun a b => and3 (on a b) (p (a ++ b))) l r := by
  simp only [select, innerJoin, matchesOf, List.filter_flatMap, List.filter_map, List.filter_filter, isTrue_and3,
    Function.comp_def, Bool.and_comm]

theorem matchesOf_and_right (on : Row → Row → B3) (q : Row → B3) (a : Row) (r : Table) :
    matchesOf (fun a b => and3 (on a b) (q b)) a r = matchesOf on a (select q r) := by
  simp only [matchesOf, select, List.filter_filter, isTrue_and3]

/-- the route of a WHERE over the joined side, both steps at once -/
theorem select_innerJoin_right (on : Row → Row → B3) (p q : Row → B3) (l r : Table)
    (h : ∀ a b, p (a ++ b) = q b) : select p (innerJoin on l r) = innerJoin on l (select q r) := by
  rw [select_innerJoin_as_on]
  simp only [h, innerJoin, matchesOf_and_right]

theorem not_isEmpty_filter_eq_any {α : Type} (q : α → Bool) (s : List α) : (!(s.filter q).isEmpty) = s.any q := by
  rw [Bool.eq_iff_iff, Bool.not_eq_true', List.isEmpty_eq_false_iff_exists_mem, List.any_eq_true]
  simp only [List.mem_filter]

theorem any_congr_mem {α : Type} (q : α → Bool) {s s' : List α} (h : ∀ b, b ∈ s ↔ b ∈ s') :
    s.any q = s'.any q := by
  rw [Bool.eq_iff_iff]
  simp only [List.any_eq_true, h]

theorem select_exists3_eq_semiJoin (on : Row → Row → B3) (l s : Table) :
    select (fun a => exists3 (select (fun b => on a b) s)) l = semiJoin on l s := by
  simp only [semiJoin, select, exists3, isTrue_some, not_isEmpty_filter_eq_any]

theorem select_not_exists3_eq_antiJoin (on : Row → Row → B3) (l s : Table) :
    select (fun a => not3 (exists3 (select (fun b => on a b) s))) l = antiJoin on l s := by
  simp only [antiJoin, select, exists3, isTrue_not3_some, not_isEmpty_filter_eq_any]

/-- the row a LEFT JOIN appends to `a` when `a` has at most one match: the match, or the NULL padding -/
def lookup (on : Row → Row → B3) (r : Table) (wr : Nat) (a : Row) : Row :=
  (matchesOf on a r).head?.getD (nulls wr)

/-- `eliminate_joins` drops a lookup nobody reads, `unnest_subqueries` tests one for NULL -/
theorem leftJoin_eq_lookup (on : Row → Row → B3) (l r : Table) (wr : Nat)
    (hu : ∀ a ∈ l, (matchesOf on a r).length ≤ 1) :
    leftJoin on l r wr = l.map fun a => a ++ lookup on r wr a := by
  unfold leftJoin lookup
  rw [List.map_eq_flatMap]
  refine flatMap_congr fun a ha => ?_
  have := hu a ha
  match hm : matchesOf on a r with
  | [] => rfl
  | [b] => rfl
  | _ :: _ :: _ => simp [hm] at this

theorem lookup_key_isNull (on : Row → Row → B3) (r : Table) (wr : Nat) (a : Row)
    (hnn : ∀ b, isTrue (on a b) = true → (col 0 b).isNull = false) :
    (col 0 (lookup on r wr a)).isNull = (matchesOf on a r).isEmpty := by
  unfold lookup
  cases hm : matchesOf on a r with
  | nil => cases wr <;> rfl
  | cons b _ => exact hnn b (List.mem_filter.mp (hm ▸ List.mem_cons_self : b ∈ matchesOf on a r)).2

/-- the core of unnest_subqueries: a semi join is a LEFT JOIN against a version `s'` of the subquery that has the
    same rows as a SET but AT MOST ONE match per outer row (the de-duplicating GROUP BY), followed by
    `WHERE s'.key IS NOT NULL` and the projection back onto the outer columns.  `w`, the width of the outer rows, is
    the position of the subquery's key in the joined row; matches have a non-NULL key, the padding row a NULL one. -/
theorem semiJoin_as_dedup_leftJoin (on : Row → Row → B3) (l s s' : Table) (w wr : Nat)
    (hw : ∀ a ∈ l, a.length = w)
    (hset : ∀ b, b ∈ s' ↔ b ∈ s)
    (hu : ∀ a ∈ l, (matchesOf on a s').length ≤ 1)
    (hnn : ∀ a b, isTrue (on a b) = true → (col 0 b).isNull = false) :
    project (fun row => row.take w)
        (select (fun row => not3 (isNull3 (col w row))) (leftJoin on l s' wr))
      = semiJoin on l s := by
  rw [leftJoin_eq_lookup on l s' wr hu]
  unfold project select semiJoin
  simp only [List.filter_map, List.map_map, Function.comp_def]
  -- a left row is kept iff the key of its lookup is not NULL, that is iff it has a match in `s'`, that is in `s`
  have hkeep : ∀ a ∈ l, isTrue (not3 (isNull3 (col w (a ++ lookup on s' wr a)))) = s.any (fun b => isTrue (on a b)) :=
    fun a ha => by
      rw [col_append_right a _ w (hw a ha), isNull3, isTrue_not3_some, lookup_key_isNull on s' wr a (hnn a), matchesOf,
        not_isEmpty_filter_eq_any, any_congr_mem _ hset]
  rw [List.filter_congr hkeep]
  exact map_fixed fun a ha => by simp [hw a (List.mem_filter.mp ha).1]

theorem perm_flatMap_append {α β : Type} (r : List α) (g h : α → List β) :
    List.Perm (r.flatMap fun b => g b ++ h b) (r.flatMap g ++ r.flatMap h) := by
  induction r with
  | nil => exact .refl _
  | cons b bs ih =>
    simp only [List.flatMap_cons, List.append_assoc]
    exact (List.Perm.append_left _ ((List.Perm.append_left _ ih).trans (List.perm_append_comm_assoc ..)))

theorem perm_flatMap_comm {α β γ : Type} (l : List α) (r : List β) (f : α → β → List γ) :
    List.Perm (l.flatMap fun a => r.flatMap (f a)) (r.flatMap fun b => l.flatMap (f · b)) := by
  induction l with
  | nil => simp
  | cons a l ih =>
    simp only [List.flatMap_cons]
    exact (List.Perm.append_left _ ih).trans (perm_flatMap_append r _ _).symm

theorem project_innerJoin_eq_loops (on : Row → Row → B3) (π : Row → Row) (l r : Table) :
    project π (innerJoin on l r)
      = l.flatMap fun a => r.flatMap fun b => if isTrue (on a b) then [π (a ++ b)] else [] := by
  unfold project innerJoin matchesOf
  rw [List.map_flatMap]
  refine flatMap_congr fun a _ => ?_
  rw [List.map_map, List.map_eq_flatMap]
  exact (flatMap_filter_of_blocks _ _ _ r fun b _ => rfl).symm

theorem cmpKeys_append (k1 k2 : List SortKey) (a b : Row) :
    cmpKeys (k1 ++ k2) a b = (cmpKeys k1 a b).then (cmpKeys k2 a b) := by
  induction k1 with
  | nil => simp [cmpKeys, Ordering.then]
  | cons k ks ih =>
    simp only [List.cons_append, cmpKeys, ih]
    cases cmpKey k a b <;> rfl

theorem cmpKeys_single (k : SortKey) (a b : Row) : cmpKeys [k] a b = cmpKey k a b := by
  simp [cmpKeys]

theorem sortBy_congr (k1 k2 : List SortKey) (h : ∀ a b, cmpKeys k1 a b = cmpKeys k2 a b) (t : Table) :
    sortBy k1 t = sortBy k2 t := by
  have : leKeys k1 = leKeys k2 := by
    funext a b; simp [leKeys, h]
  simp [sortBy, this]

end SqlglotModel.Bag
