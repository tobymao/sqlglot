/-
  C04: `sanitize_comment` leaves no block-comment marker (`hasPair_replace2`: which adjacent pairs a
  replacement can leave), and the `_scan_comment` loop walks over any text that, followed by the `*` of the terminator,
  shows no marker (`scanCL_clean`), hence consumes exactly the generated comment.
-/
import SqlglotModel.Model.Str

namespace SqlglotModel.Str

theorem hasPair_cons (p q x : Char) (L : List Char) :
    hasPair p q (x :: L) = ((x == p && L.head? == some q) || hasPair p q L) := by
  cases L with
  | nil => simp [hasPair]
  | cons y r => simp [hasPair]

theorem hasPair_tail {p q : Char} {L : List Char} (x : Char) (h : hasPair p q L = true) :
    hasPair p q (x :: L) = true := by
  rw [hasPair_cons, h, Bool.or_true]

theorem hasPair_concat (p q w : Char) (L : List Char) :
    hasPair p q (L ++ [w]) = (hasPair p q L || (L.getLast? == some p && w == q)) := by
  induction L with
  | nil => simp [hasPair]
  | cons x L ih =>
    rw [List.cons_append, hasPair_cons, hasPair_cons, ih]
    cases L with
    | nil => simp [hasPair]
    | cons y L' => simp [List.getLast?_cons_cons, Bool.or_assoc]

theorem head_replace2 (a b s : Char) : ∀ l : List Char, (replace2 a b [a, s, b] l).head? = l.head? := by
  intro l
  fun_induction replace2 a b [a, s, b] l with
  | case1 => rfl
  | case2 x => rfl
  | case3 x y r hm ih => simp [hm.1]
  | case4 x y r hm ih => simp

/-- a pair in the output was in the input and is not the replaced pair, or is one of the two pairs that the piece
    `a s b` brings -/
theorem hasPair_replace2 (a b s p q : Char) (hab : a ≠ b) :
    ∀ l : List Char, hasPair p q (replace2 a b [a, s, b] l) = true →
      (hasPair p q l = true ∧ ¬(p = a ∧ q = b)) ∨ (p = a ∧ q = s) ∨ (p = s ∧ q = b) := by
  intro l
  fun_induction replace2 a b [a, s, b] l with
  | case1 => intro h; simp [hasPair] at h
  | case2 x => intro h; simp [hasPair] at h
  | case3 x y r hm ih =>
    obtain ⟨rfl, rfl⟩ := hm
    intro h
    simp only [List.cons_append, List.nil_append] at h
    rw [hasPair_cons, hasPair_cons, hasPair_cons, head_replace2] at h
    simp only [List.head?_cons, Bool.or_eq_true, Bool.and_eq_true, beq_iff_eq, Option.some.injEq] at h
    -- the written piece is `x s y`; the pair of `y` and what follows it was in the text already
    rcases h with ⟨rfl, rfl⟩ | ⟨rfl, rfl⟩ | ⟨rfl, hr⟩ | h
    · exact .inr (.inl ⟨rfl, rfl⟩)
    · exact .inr (.inr ⟨rfl, rfl⟩)
    · exact .inl ⟨hasPair_tail x (by rw [hasPair_cons, hr]; simp), fun e => hab e.1.symm⟩
    · exact (ih h).imp_left fun h' => ⟨hasPair_tail x (hasPair_tail y h'.1), h'.2⟩
  | case4 x y r hm ih =>
    intro h
    rw [hasPair_cons, head_replace2] at h
    simp only [List.head?_cons, Bool.or_eq_true, Bool.and_eq_true, beq_iff_eq, Option.some.injEq] at h
    rcases h with ⟨rfl, rfl⟩ | h
    · exact .inl ⟨by simp [hasPair], hm⟩
    · exact (ih h).imp_left fun h' => ⟨hasPair_tail x h'.1, h'.2⟩

theorem getLast?_replace2 (a b s : Char) : ∀ l : List Char, (replace2 a b [a, s, b] l).getLast? = l.getLast? := by
  intro l
  fun_induction replace2 a b [a, s, b] l with
  | case1 => rfl
  | case2 x => rfl
  | case3 x y r hm ih =>
    rw [List.getLast?_append, ih, show x :: y :: r = [x, y] ++ r from rfl, List.getLast?_append, hm.2]
    rfl
  | case4 x y r hm ih => rw [List.getLast?_cons, ih, List.getLast?_cons (a := x)]

theorem padFront_head (isSpace : Char → Bool) (c : List Char) (hc : c ≠ []) :
    ∃ x P, padFront isSpace c = x :: P ∧ (x = ' ' ∨ isSpace x = true) := by
  cases c with
  | nil => exact absurd rfl hc
  | cons y r =>
    simp only [padFront]
    by_cases hy : isSpace y = true
    · exact ⟨y, r, by simp [hy], Or.inr hy⟩
    · exact ⟨' ', y :: r, by simp [hy], Or.inl rfl⟩

theorem padBack_last (isSpace : Char → Bool) (l : List Char) (hl : l ≠ []) :
    ∃ w, (padBack isSpace l).getLast? = some w ∧ (w = ' ' ∨ isSpace w = true) := by
  have hg : l.getLast? = some (l.getLast hl) := List.getLast?_eq_some_getLast hl
  simp only [padBack, hg]
  by_cases hs : isSpace (l.getLast hl) = true
  · exact ⟨l.getLast hl, by simp [hs, hg], Or.inr hs⟩
  · exact ⟨' ', by simp [hs], Or.inl rfl⟩

theorem scanC_plain (nested : Bool) (d : Nat) (cur nxt : Char) (r : List Char)
    (h1 : ¬(cur = '*' ∧ nxt = '/')) (h2 : r ≠ []) (h3 : opensNested nested nxt r = false) :
    scanC nested d cur (nxt :: r) = scanC nested d nxt r := by
  have h1' : ¬(cur = '*' ∧ nxt = '/' ∧ d = 1) := fun ⟨a, b, _⟩ => h1 ⟨a, b⟩
  have h2' : r.isEmpty = false := by simpa using h2
  conv => lhs; unfold scanC
  simp only [h1, h1', if_false, h2', h3, Bool.false_eq_true]

theorem scanC_close (nested : Bool) (r : List Char) : scanC nested 1 '*' ('/' :: r) = some r := by
  unfold scanC; simp

theorem scanC_clean (nested : Bool) (rest : List Char) :
    ∀ (B : List Char) (x : Char), hasPair '*' '/' (x :: B ++ ['*']) = false →
      (nested = true → hasPair '/' '*' (x :: B ++ ['*']) = false) →
      scanC nested 1 x (B ++ '*' :: '/' :: rest) = some rest := by
  intro B
  induction B with
  | nil =>
    intro x _ _
    rw [List.nil_append, scanC_plain nested 1 x '*' ('/' :: rest) (fun h => absurd h.2 (by decide)) (by simp)
      (by simp [opensNested])]
    exact scanC_close nested rest
  | cons y B ih =>
    intro x h1 h2
    rw [List.cons_append, hasPair_cons, Bool.or_eq_false_iff] at h1
    have h3 : nested = true → hasPair '/' '*' (y :: B ++ ['*']) = false := fun hn => by
      have := h2 hn
      rw [List.cons_append, hasPair_cons, Bool.or_eq_false_iff] at this
      exact this.2
    have hopen : opensNested nested y (B ++ '*' :: '/' :: rest) = false := by
      cases hn : nested with
      | false => rfl
      | true =>
        have := h3 hn
        rw [List.cons_append, hasPair_cons, Bool.or_eq_false_iff] at this
        simpa [opensNested, List.head?_append] using this.1
    rw [List.cons_append, scanC_plain nested 1 x y _ (by simpa using h1.1) (by simp) hopen]
    exact ih y h1.2 h3

theorem scanCL_clean (nested : Bool) (S rest : List Char) (h1 : hasPair '*' '/' (S ++ ['*']) = false)
    (h2 : nested = true → hasPair '/' '*' (S ++ ['*']) = false) :
    scanCL nested (S ++ '*' :: '/' :: rest) = some rest := by
  cases S with
  | nil => exact scanC_close nested rest
  | cons x B => exact scanC_clean nested rest B x h1 h2

theorem sanitize_no_pair (isSpace : Char → Bool) (c : List Char) :
    hasPair '*' '/' (sanitizeComment isSpace c) = false ∧ hasPair '/' '*' (sanitizeComment isSpace c) = false := by
  refine ⟨Bool.eq_false_iff.mpr fun h => ?_, Bool.eq_false_iff.mpr fun h => ?_⟩
  · -- a `*/` left by the second replacement was left by the first
    have h1 := hasPair_replace2 '/' '*' ' ' '*' '/' (by decide) _ h
    simp only [Char.reduceEq, and_false, or_false, not_false_eq_true, and_true] at h1
    simpa using hasPair_replace2 '*' '/' ' ' '*' '/' (by decide) _ h1
  · simpa using hasPair_replace2 '/' '*' ' ' '/' '*' (by decide) _ h

/-- the padded, sanitised text ends in a blank, so the `*` of the terminator completes no marker either -/
theorem sanitize_star_no_pair (isSpace : Char → Bool) (hs1 : isSpace '/' = false) (c : List Char) (hc : c ≠ []) :
    hasPair '*' '/' (sanitizeComment isSpace c ++ ['*']) = false
      ∧ hasPair '/' '*' (sanitizeComment isSpace c ++ ['*']) = false := by
  obtain ⟨hA, hB⟩ := sanitize_no_pair isSpace c
  obtain ⟨x, P, hP, _⟩ := padFront_head isSpace c hc
  obtain ⟨w, hp, hw⟩ := padBack_last isSpace (padFront isSpace c) (hP ▸ List.cons_ne_nil x P)
  have hw1 : w ≠ '/' := by
    rintro rfl
    rcases hw with h | h
    · exact absurd h (by decide)
    · rw [hs1] at h; cases h
  have hL : (sanitizeComment isSpace c).getLast? = some w := by
    rw [sanitizeComment, getLast?_replace2, getLast?_replace2, hp]
  rw [hasPair_concat, hasPair_concat, hA, hB, hL]
  simp [hw1]

/-- the first character of a sanitised comment is one of those over which `hext` of `boundary_comment` and of
    `comment_transparent` quantifies -/
theorem sanitize_head (isSpace : Char → Bool) (c : List Char) (hc : c ≠ []) :
    ∃ x B, sanitizeComment isSpace c = x :: B ∧ (x = ' ' ∨ isSpace x = true) := by
  obtain ⟨x, P, hP, hx⟩ := padFront_head isSpace c hc
  have hpb : (padBack isSpace (x :: P)).head? = some x := by
    unfold padBack
    split
    · rename_i h; simp at h
    · split <;> simp
  have hh : (sanitizeComment isSpace c).head? = some x := by
    rw [sanitizeComment, head_replace2, head_replace2, hP, hpb]
  obtain ⟨B, hB⟩ := List.head?_eq_some_iff.mp hh
  exact ⟨x, B, hB, hx⟩

theorem scanCL_sanitize (isSpace : Char → Bool) (hs1 : isSpace '/' = false)
    (nested : Bool) (c rest : List Char) (hc : c ≠ []) :
    scanCL nested (sanitizeComment isSpace c ++ '*' :: '/' :: rest) = some rest :=
  have ⟨h1, h2⟩ := sanitize_star_no_pair isSpace hs1 c hc
  scanCL_clean nested _ rest h1 fun _ => h2

theorem readComment_of_scanCL (nested : Bool) (S rest : List Char)
    (h : scanCL nested (S ++ '*' :: '/' :: rest) = some rest) :
    readComment nested (S ++ '*' :: '/' :: rest) = some (S, rest) := by
  rw [readComment, h, Option.map_some, List.length_append, List.length_cons, List.length_cons, Nat.sub_sub,
    Nat.add_sub_cancel, List.take_left]

end SqlglotModel.Str
