/-
  `Sound n b p` is the contract every real `_parse_*` method is expected to satisfy (and which the harness
  monitors on the real parser): from an in-range cursor it stops, never moves the cursor backwards, leaves it in
  range, makes at most `b (remaining tokens)` calls of `_advance`, and leaks no internal exception.
  The `sound_*` lemmas are stated for ARBITRARY `p : P` with that contract, so they speak about the real glue
  (`_try_parse`, `_parse_csv`, `_parse_wrapped`, the idioms) around real methods, not only about `Comb` programs.

  Two facts carry the file.  Every idiom is "run `p`, go on only if it returned" (`bindR`), and contracts compose
  along it (`Good.bind`; `good_bind` adds the bounds when the rest has a contract of its own, `Good.back` serves the
  idioms whose rest retreats).  Every loop is a fuelled function each of whose rounds either ends or goes round again
  with the cursor strictly further (`Round`, `good_loop`), so it needs no more rounds than there are tokens left.

  `Consuming` (a truthy result consumed a token) composes only between methods that honour `Sound` (`cons_*`); `Rets`
  (what a method's returns look like, `rets_*`) needs no contract.
-/
import SqlglotModel.Model.Cursor

namespace SqlglotModel.Cursor

def BMono (b : Nat → Nat) : Prop := ∀ a c, a ≤ c → b a ≤ b c

theorem BMono.succ {b : Nat → Nat} (m : BMono b) : BMono fun r => b r + 1 := fun a c h => Nat.succ_le_succ (m a c h)

def Good (n : Nat) (b : Nat → Nat) (s : St) (r : Res) : Prop :=
  s.idx ≤ r.2.idx ∧ r.2.idx ≤ n ∧ r.2.steps ≤ s.steps + b (n - s.idx) ∧ r.1 ≠ .diverged ∧ r.1 ≠ .internal

def Sound (n : Nat) (b : Nat → Nat) (p : P) : Prop := ∀ s, s.idx ≤ n → Good n b s (p s)

/-- a truthy result consumed at least one token -/
def Consuming (n : Nat) (p : P) : Prop :=
  ∀ s v s', s.idx ≤ n → p s = (.ret v, s') → v.isTruthy = true → s.idx < s'.idx

theorem curr_some_lt {toks : List Tok} {i : Nat} {t : Tok} (h : curr toks i = some t) : i < toks.length :=
  (List.getElem?_eq_some_iff.mp h).1

theorem curr_isSome_lt {toks : List Tok} {i : Nat} (h : (curr toks i).isSome = true) : i < toks.length := by
  obtain ⟨t, ht⟩ := Option.isSome_iff_exists.mp h
  exact curr_some_lt ht

theorem inSet_lt' {toks : List Tok} {ts : List Tok} {i : Nat} (h : inSet ts (curr toks i) = true) :
    i < toks.length := by
  cases hc : curr toks i with
  | none => simp [hc, inSet] at h
  | some t => exact curr_some_lt hc

theorem keyOf_some_lt {toks : List Tok} {keys : List Tok} {i : Nat} {k : Tok}
    (h : keyOf keys (curr toks i) = some k) : i < toks.length := by
  cases hc : curr toks i with
  | none => simp [hc, keyOf] at h
  | some t => exact curr_some_lt hc

section
variable {n : Nat} {b : Nat → Nat} {s : St} {r : Res}

theorem Good.fwd (h : Good n b s r) : s.idx ≤ r.2.idx := h.1

theorem Good.inRange (h : Good n b s r) : r.2.idx ≤ n := h.2.1

theorem Good.steps (h : Good n b s r) : r.2.steps ≤ s.steps + b (n - s.idx) := h.2.2.1

theorem Good.notDiverged (h : Good n b s r) : r.1 ≠ .diverged := h.2.2.2.1

theorem Good.notInternal (h : Good n b s r) : r.1 ≠ .internal := h.2.2.2.2

/-- a return is `Good` by what it says of the state.  With an arbitrary `v` this is also how three facts about a state
    reached on the way (the end of a token walk, the start of a loop's next round) are handed to `Good.after`,
    `Good.back` and `Good.mono`. -/
theorem Good.of_ret {s' : St} {v : Val} (h1 : s.idx ≤ s'.idx) (h2 : s'.idx ≤ n)
    (h3 : s'.steps ≤ s.steps + b (n - s.idx)) : Good n b s (.ret v, s') := ⟨h1, h2, h3, nofun, nofun⟩

theorem Good.mono {b' : Nat → Nat} (h : Good n b s r) (hb : b (n - s.idx) ≤ b' (n - s.idx)) : Good n b' s r :=
  ⟨h.fwd, h.inRange, Nat.le_trans h.steps (Nat.add_le_add_left hb _), h.notDiverged, h.notInternal⟩

/-- one piece after the other: the steps add up, each counted from where its piece began -/
theorem Good.after {b1 b2 : Nat → Nat} {s1 : St} {o : Out} (h1 : Good n b1 s (o, s1))
    (h2 : Good n b2 s1 r) (hb : b1 (n - s.idx) + b2 (n - s1.idx) ≤ b (n - s.idx)) : Good n b s r := by
  refine ⟨Nat.le_trans h1.fwd h2.fwd, h2.inRange, Nat.le_trans h2.steps ?_, h2.notDiverged, h2.notInternal⟩
  refine Nat.le_trans (Nat.add_le_add_right h1.steps _) ?_
  rw [Nat.add_assoc]
  exact Nat.add_le_add_left hb _

/-- … the second starts with no more tokens left than the first, hence `BMono` -/
theorem Good.trans {b1 b2 : Nat → Nat} {s1 : St} {o : Out} (h1 : Good n b1 s (o, s1))
    (h2 : Good n b2 s1 r) (m : BMono b2) : Good n (fun x => b1 x + b2 x) s r :=
  h1.after h2 (Nat.add_le_add_left (m _ _ (Nat.sub_le_sub_left h1.fwd n)) _)

theorem Good.cases (h : Good n b s r) :
    (∃ v s1, r = (.ret v, s1)) ∨ ∃ s1, r = (.raised, s1) := by
  obtain ⟨o, s1⟩ := r
  cases o with
  | ret v => exact .inl ⟨v, s1, rfl⟩
  | raised => exact .inr ⟨s1, rfl⟩
  | internal => exact absurd rfl h.notInternal
  | diverged => exact absurd rfl h.notDiverged

theorem Good.ret {s1 : St} {o : Out} (h : Good n b s (o, s1)) (v : Val) :
    Good n b s (.ret v, s1) := .of_ret h.fwd h.inRange h.steps

/-- a ParseError raised from the state a piece ended in -/
theorem Good.raised {s1 : St} {o : Out} (h : Good n b s (o, s1)) :
    Good n b s (.raised, s1) := ⟨h.fwd, h.inRange, h.steps, nofun, nofun⟩

theorem Good.terminates (h : Good n b s r) :
    r.1 ≠ .diverged ∧ r.1 ≠ .internal ∧ r.2.steps ≤ s.steps + b (n - s.idx) := ⟨h.notDiverged, h.notInternal, h.steps⟩

theorem good_here (hs : s.idx ≤ n) (v : Val) : Good n b s (.ret v, s) :=
  .of_ret (Nat.le_refl _) hs (Nat.le_add_right _ _)

theorem good_bump {k : Nat} (h : s.idx + k ≤ n) (v : Val) : Good n (fun _ => 1) s (.ret v, bump k s) :=
  .of_ret (Nat.le_add_right _ _) h (Nat.le_refl _)

/-- the caller makes one move of at most one step (consumes a token, say), then `p` runs from there -/
theorem Good.step_then {s0 : St} {o : Out} {p : P} (h : Good n (fun _ => 1) s (o, s0)) (hp : Sound n b p)
    (mp : BMono b) : Good n (fun r => b r + 1) s (p s0) :=
  (h.trans (hp s0 h.inRange) mp).mono (Nat.le_of_eq (Nat.add_comm 1 _))

/-- after a piece that honoured the contract, a retreat to where it began costs one step more.  This is what serves
    `attempt`, `_try_parse` and `_match_text_seq`: what they do after the piece moves the cursor back from where it
    stopped, so it has no contract from there: `good_bind` does not apply and the result is judged from the start. -/
theorem Good.back {s1 s' : St} {o : Out} (h : Good n b s (o, s1)) (hs : s.idx ≤ n)
    (hi : s'.idx = s.idx) (ht : s'.steps ≤ s1.steps + 1) (v : Val) : Good n (fun r => b r + 1) s (.ret v, s') :=
  .of_ret (Nat.le_of_eq hi.symm) (hi ▸ hs) (Nat.le_trans ht (Nat.succ_le_succ h.steps))

end

/-- `x = p(); …` : the rest runs only when `p` returned.  Every `match p s with | (.ret v, s1) => … | r => r` of the
    model is `bindR (p s) …` by `rfl`, so `Good.bind`, `Round.bind` and `bindR_ret` apply to such a `match` as it
    stands. -/
def bindR (r : Res) (k : Val → St → Res) : Res :=
  match r with
  | (.ret v, s1) => k v s1
  | r => r

theorem bindR_ret {r : Res} {k : Val → St → Res} {v : Val} {s' : St} (h : bindR r k = (.ret v, s')) :
    ∃ v1 s1, r = (.ret v1, s1) ∧ k v1 s1 = (.ret v, s') := by
  obtain ⟨o, s1⟩ := r
  cases o with
  | ret v1 => exact ⟨v1, s1, rfl, h⟩
  | _ => cases h

/-- a ParseError of `r` is the result of `bindR r k`, so only the returns of `r` are left to look at; the rest is
    judged from the start `s` -/
theorem Good.bind {n : Nat} {b b' : Nat → Nat} {s : St} {r : Res} {k : Val → St → Res} (h : Good n b s r)
    (hb : b (n - s.idx) ≤ b' (n - s.idx))
    (hk : ∀ v s1, r = (.ret v, s1) → Good n b s (.ret v, s1) → Good n b' s (k v s1)) : Good n b' s (bindR r k) := by
  rcases h.cases with ⟨v, s1, e⟩ | ⟨s1, e⟩ <;> subst e
  · exact hk v s1 rfl h
  · exact h.mono hb

/-- … and when the rest has a contract of its own from where `r` stopped, the bounds add up -/
theorem good_bind {n : Nat} {bp bq : Nat → Nat} {s : St} {r : Res} {k : Val → St → Res} (hr : Good n bp s r)
    (mq : BMono bq) (hk : ∀ v s1, r = (.ret v, s1) → s1.idx ≤ n → Good n bq s1 (k v s1)) :
    Good n (fun x => bp x + bq x) s (bindR r k) :=
  hr.bind (Nat.le_add_right _ _) fun v s1 e h => h.trans (hk v s1 e h.inRange) mq

theorem Good.bind_ret {n : Nat} {b : Nat → Nat} {s : St} {r : Res} (h : Good n b s r) (v : Val) :
    Good n b s (bindR r fun _ s1 => (.ret v, s1)) := h.bind (Nat.le_refl _) fun _ _ _ h1 => h1.ret v

theorem sound_const (n : Nat) (v : Val) : Sound n (fun _ => 0) (fun s => (.ret v, s)) := fun _ hs => good_here hs v

/-- the `_match*` methods have one shape: a test on the state, a truthy result after some move when it succeeds,
    a falsy one with the state untouched when it does not -/
theorem sound_guard {n : Nat} {b : Nat → Nat} {c : St → Prop} [DecidablePred c] {f : St → St} {v0 : Val}
    (hf : ∀ s, s.idx ≤ n → c s → Good n b s (.ret .truthy, f s)) :
    Sound n b (fun s => if c s then (.ret .truthy, f s) else (.ret v0, s)) := by
  intro s hs
  dsimp only
  split
  · exact hf s hs ‹_›
  · exact good_here hs _

theorem sound_matchTok (toks : List Tok) (t : Tok) (adv : Bool) :
    Sound toks.length (fun _ => 1) (matchTok toks t adv) :=
  sound_guard fun s hs h => by
    cases adv
    · exact good_here hs _
    · exact good_bump (curr_some_lt h) _

theorem sound_peek (toks : List Tok) (t : Tok) : Sound toks.length (fun _ => 0) (matchTok toks t false) :=
  sound_guard fun _ hs _ => good_here hs _

theorem sound_matchSet (toks : List Tok) (ts : List Tok) : Sound toks.length (fun _ => 1) (matchSet toks ts) :=
  sound_guard fun _ _ h => good_bump (inSet_lt' h) _

theorem sound_matchPair (toks : List Tok) (a b : Tok) : Sound toks.length (fun _ => 1) (matchPair toks a b) :=
  sound_guard fun _ _ h => good_bump (curr_some_lt h.2) _

theorem sound_anyTok (toks : List Tok) : Sound toks.length (fun _ => 1) (anyTok toks) :=
  sound_guard fun _ _ h => good_bump (curr_isSome_lt h) _

theorem sound_fail (n : Nat) : Sound n (fun _ => 0) failS := by
  intro s hs
  unfold failS
  split
  · exact (good_here hs .none).raised
  · exact .of_ret (Nat.le_refl _) hs (Nat.le_add_right _ _)

theorem failS_ret {s s' : St} {v : Val} (h : failS s = (.ret v, s')) : v = .none ∧ s'.idx = s.idx := by
  unfold failS at h
  split at h <;> cases h
  exact ⟨rfl, rfl⟩

theorem sound_andThen {n : Nat} {bp bq : Nat → Nat} {p q : P} (hp : Sound n bp p) (hq : Sound n bq q)
    (mq : BMono bq) : Sound n (fun r => bp r + bq r) (andThenS p q) := by
  intro s hs
  refine good_bind (hp s hs) mq fun v s1 _ h1 => ?_
  split
  · exact hq s1 h1
  · exact good_here h1 _

theorem sound_both {n : Nat} {bp bq : Nat → Nat} {p q : P} (hp : Sound n bp p) (hq : Sound n bq q)
    (mq : BMono bq) : Sound n (fun r => bp r + bq r) (bothS p q) :=
  fun s hs => good_bind (hp s hs) mq fun _ s1 _ h1 => (hq s1 h1).bind_ret _

theorem sound_orElse {n : Nat} {bp bq : Nat → Nat} {p q : P} (hp : Sound n bp p) (hq : Sound n bq q)
    (mq : BMono bq) : Sound n (fun r => bp r + bq r) (orElseS p q) := by
  intro s hs
  refine good_bind (hp s hs) mq fun v s1 _ h1 => ?_
  split
  · exact good_here h1 _
  · exact hq s1 h1

theorem retreat_idx (t : Nat) (s : St) : (retreat t s).idx = t := by
  unfold retreat; split <;> simp_all

theorem retreat_steps (t : Nat) (s : St) : (retreat t s).steps ≤ s.steps + 1 := by
  unfold retreat; split <;> simp

theorem restore_idx (s0 s1 : St) : (restore s0 s1).idx = s0.idx := retreat_idx _ _

theorem restore_lvl (s0 s1 : St) : (restore s0 s1).lvl = s0.lvl := by
  simp [restore]

theorem restore_steps (s0 s1 : St) : (restore s0 s1).steps ≤ s1.steps + 1 := retreat_steps _ _

theorem tryParseS_cases (p : P) (rt : Bool) (s : St) :
    (∃ v s1, p { s with lvl := .immediate } = (.ret v, s1) ∧
        tryParseS p rt s = (.ret v, if !v.isTruthy || rt then restore s s1 else { s1 with lvl := s.lvl })) ∨
      (∃ s1, p { s with lvl := .immediate } = (.raised, s1) ∧ tryParseS p rt s = (.ret .none, restore s s1)) ∨
      (∃ s1, p { s with lvl := .immediate } = (.internal, s1) ∧ tryParseS p rt s = (.internal, restore s s1)) ∨
      ∃ s1, p { s with lvl := .immediate } = (.diverged, s1) ∧ tryParseS p rt s = (.diverged, s1) := by
  unfold tryParseS
  cases hps : p { s with lvl := .immediate } with
  | mk o s1 =>
    cases o with
    | ret v => exact .inl ⟨v, s1, rfl, rfl⟩
    | raised => exact .inr (.inl ⟨s1, rfl, rfl⟩)
    | internal => exact .inr (.inr (.inl ⟨s1, rfl, rfl⟩))
    | diverged => exact .inr (.inr (.inr ⟨s1, rfl, rfl⟩))

theorem tryParse_level (p : P) (rt : Bool) :
    ∀ s o s', tryParseS p rt s = (o, s') → o ≠ .diverged → s'.lvl = s.lvl := by
  intro s o s' hr hd
  rcases tryParseS_cases p rt s with ⟨v, s1, -, e⟩ | ⟨s1, -, e⟩ | ⟨s1, -, e⟩ | ⟨s1, -, e⟩ <;>
    cases hr.symm.trans e
  · split
    · exact restore_lvl s s1
    · rfl
  · exact restore_lvl s s1
  · exact restore_lvl s s1
  · exact absurd rfl hd

theorem sound_attempt {n : Nat} {bp : Nat → Nat} {p : P} (hp : Sound n bp p) :
    Sound n (fun r => bp r + 1) (attemptS p) := by
  intro s hs
  refine (hp s hs).bind (Nat.le_succ _) fun v s1 _ h => ?_
  split
  · exact h.mono (Nat.le_succ _)
  · exact h.back hs (retreat_idx _ _) (retreat_steps _ _) _

theorem sound_tryParse {n : Nat} {bp : Nat → Nat} {p : P} (hp : Sound n bp p) (rt : Bool) :
    Sound n (fun r => bp r + 1) (tryParseS p rt) := by
  intro s hs
  have h : Good n bp s (p { s with lvl := .immediate }) := hp { s with lvl := .immediate } hs
  rcases tryParseS_cases p rt s with ⟨v, s1, e, e'⟩ | ⟨s1, e, e'⟩ | ⟨s1, e, -⟩ | ⟨s1, e, -⟩ <;> rw [e] at h
  · rw [e']
    split
    · exact h.back hs (restore_idx _ _) (restore_steps _ _) v
    · exact (h.mono (b' := fun r => bp r + 1) (Nat.le_succ _) : Good n _ s (.ret v, s1))
  · rw [e']
    exact h.back hs (restore_idx _ _) (restore_steps _ _) _
  · exact absurd rfl h.notInternal
  · exact absurd rfl h.notDiverged

/-- a round of cost `C` with `r` tokens left, then at most `r' + 1` rounds of cost `C'` each with `r' < r` left -/
theorem loop_arith {r r' C C' : Nat} (hr : r' < r) (hC : C' ≤ C) : C + (r' + 1) * C' ≤ (r + 1) * C :=
  calc C + (r' + 1) * C' ≤ C + (r' + 1) * C := Nat.add_le_add_left (Nat.mul_le_mul_left _ hC) _
    _ = (r' + 1 + 1) * C := by rw [Nat.succ_mul (r' + 1), Nat.add_comm]
    _ ≤ (r + 1) * C := Nat.mul_le_mul_right _ (Nat.succ_le_succ hr)

/-- one round of a loop, started in `s` with result `r`: within `c` steps it ends, or hands over to the next round
    `next a' s'` with the cursor strictly further -/
def Round {α : Type} (n : Nat) (c : Nat → Nat) (next : α → St → Res) (s : St) (r : Res) : Prop :=
  Good n c s r ∨ ∃ a' s', r = next a' s' ∧ s.idx < s'.idx ∧ s'.idx ≤ n ∧ s'.steps ≤ s.steps + c (n - s.idx)

theorem Round.stop {α : Type} {n : Nat} {c : Nat → Nat} {next : α → St → Res} {s : St} {r : Res}
    (h : Good n c s r) : Round n c next s r := .inl h

theorem Round.again {α : Type} {n : Nat} {c : Nat → Nat} {next : α → St → Res} {s : St} (a' : α) (s' : St)
    (h1 : s.idx < s'.idx) (h2 : s'.idx ≤ n) (h3 : s'.steps ≤ s.steps + c (n - s.idx)) :
    Round n c next s (next a' s') := .inr ⟨a', s', rfl, h1, h2, h3⟩

/-- a round that begins with `x = p()`: a ParseError of `p` ends the loop, so only its returns are left to look at -/
theorem Round.bind {α : Type} {n : Nat} {b c : Nat → Nat} {next : α → St → Res} {s : St} {r : Res}
    {k : Val → St → Res} (h : Good n b s r) (hb : b (n - s.idx) ≤ c (n - s.idx))
    (hk : ∀ v s1, r = (.ret v, s1) → Good n b s (.ret v, s1) → Round n c next s (k v s1)) :
    Round n c next s (bindR r k) := by
  rcases h.cases with ⟨v, s1, e⟩ | ⟨s1, e⟩ <;> subst e
  · exact hk v s1 rfl h
  · exact .stop (h.mono hb)

/-- no more rounds than there are tokens left: fuel beyond that is never used up (the induction carries
    `n - s.idx < fuel`), and `r` tokens cost at most `(r + 1) · c r` steps -/
theorem good_loop {α : Type} {n : Nat} {c : Nat → Nat} (mc : BMono c) {L : Nat → α → St → Res}
    (round : ∀ fuel a s, s.idx ≤ n → Round n c (L fuel) s (L (fuel + 1) a s)) {fuel : Nat} (hf : n < fuel) (a : α)
    {s : St} (hs : s.idx ≤ n) : Good n (fun r => (r + 1) * c r) s (L fuel a s) := by
  replace hf : n - s.idx < fuel := Nat.lt_of_le_of_lt (Nat.sub_le _ _) hf
  induction fuel generalizing a s with
  | zero => exact absurd hf (Nat.not_lt_zero _)
  | succ fuel ih =>
    rcases round fuel a s hs with h | ⟨a', s', hL, h1, h2, h3⟩
    · exact h.mono (Nat.le_mul_of_pos_left _ (Nat.succ_pos _))
    · rw [hL]
      have hr : n - s'.idx < n - s.idx := Nat.sub_lt_sub_left (Nat.lt_of_lt_of_le h1 h2) h1
      exact (Good.of_ret (v := .none) (Nat.le_of_lt h1) h2 h3).after
        (ih a' h2 (Nat.lt_of_lt_of_le hr (Nat.le_of_lt_succ hf))) (loop_arith hr (mc _ _ (Nat.le_of_lt hr)))

/-- seen as a loop whose round is "element, then look for a separator", every round but the last consumes a separator
    and the element never moves back -/
theorem sound_csv {toks : List Tok} {sep : Tok} {bp : Nat → Nat} {p : P} {fuel : Nat}
    (hp : Sound toks.length bp p) (mp : BMono bp) (hf : toks.length < fuel) :
    Sound toks.length (fun r => (r + 1) * (bp r + 1)) (csvS toks sep fuel p) := by
  intro s hs
  refine good_loop mp.succ (L := fun fuel acc s => bindR (p s) fun v s1 => csvLoop toks sep p fuel (csvAcc acc v) s1)
    ?_ hf .falsy hs
  intro fuel acc s hs
  refine .bind (hp s hs) (Nat.le_succ _) fun v s1 _ h => ?_
  rw [csvLoop]
  split
  · rename_i hc
    exact .again (csvAcc acc v) (bump 1 s1) (Nat.lt_succ_of_le h.fwd) (curr_some_lt hc) (Nat.succ_le_succ h.steps)
  · exact .stop ((h.ret _).mono (Nat.le_succ _))

theorem good_closeK {toks : List Tok} (w : Bool) (v : Val) (s2 : St) (h : s2.idx ≤ toks.length) :
    Good toks.length (fun _ => 1) s2 (closeK toks w v s2) := by
  unfold closeK
  split
  · split
    · rename_i hc; exact good_bump (curr_some_lt hc) _
    · exact ((sound_fail _ s2 h).bind_ret v).mono (Nat.zero_le _)
  · exact good_here h _

theorem good_bodyK {toks : List Tok} {bp : Nat → Nat} {p : P} (hp : Sound toks.length bp p) (w : Bool) (s1 : St)
    (h : s1.idx ≤ toks.length) : Good toks.length (fun r => bp r + 1) s1 (bodyK toks p w s1) :=
  good_bind (hp s1 h) (fun _ _ _ => Nat.le_refl _) fun v s2 _ h2 => good_closeK w v s2 h2

theorem sound_wrapped {toks : List Tok} {bp : Nat → Nat} {p : P} (hp : Sound toks.length bp p) (mp : BMono bp)
    (optional : Bool) : Sound toks.length (fun r => bp r + 2) (wrappedS toks p optional) := by
  intro s hs
  unfold wrappedS
  split
  · rename_i hc
    exact (good_bump (curr_some_lt hc) .none).step_then (good_bodyK hp true) mp.succ
  · split
    · exact (good_bodyK hp false s hs).mono (Nat.le_succ _)
    · exact (good_bind (sound_fail _ s hs) mp.succ fun _ s1 _ h1 => good_bodyK hp false s1 h1).mono
        (Nat.le_trans (Nat.le_of_eq (Nat.zero_add _)) (Nat.le_succ _))

/-- at most (tokens left) successful rounds plus the final unsuccessful one -/
theorem sound_many {n : Nat} {bp : Nat → Nat} {p : P} {fuel : Nat} (hp : Sound n bp p) (mp : BMono bp)
    (hc : Consuming n p) (hf : n < fuel) : Sound n (fun r => (r + 1) * bp r) (manyS fuel p) := by
  intro s hs
  refine good_loop mp (L := manyLoop p) ?_ hf .falsy hs
  intro fuel acc s hs
  rw [manyLoop]
  refine .bind (hp s hs) (Nat.le_refl _) fun v s1 e h => ?_
  split
  · rename_i hv; exact .again Val.truthy s1 (hc s v s1 hs e hv) h.inRange h.steps
  · exact .stop (h.ret _)

/-- the state in which the walk stops, under an outcome of no import (see `Good.of_ret`), and how far a full match
    went -/
theorem textSeqGo_spec (toks : List Tok) : ∀ (ts : List Tok) (s : St), s.idx ≤ toks.length →
    Good toks.length (fun _ => ts.length) s (.ret .truthy, (textSeqGo toks ts s).2) ∧
      ((textSeqGo toks ts s).1 = true → (textSeqGo toks ts s).2.idx = s.idx + ts.length) := by
  intro ts
  induction ts with
  | nil => intro s hs; exact ⟨good_here hs _, fun _ => rfl⟩
  | cons t ts ih =>
    intro s hs
    unfold textSeqGo
    split
    · rename_i hc
      obtain ⟨g, a⟩ := ih (bump 1 s) (curr_some_lt hc)
      exact ⟨(good_bump (curr_some_lt hc) .none).after g (Nat.le_of_eq (Nat.add_comm 1 _)),
        fun h => (a h).trans (Nat.add_right_comm _ 1 _)⟩
    · exact ⟨good_here hs _, nofun⟩

theorem matchTextSeq_eq (toks : List Tok) (ts : List Tok) (adv : Bool) (s : St) :
    matchTextSeq toks ts adv s =
      if (textSeqGo toks ts s).1 then
        (.ret .truthy, if adv then (textSeqGo toks ts s).2 else retreat s.idx (textSeqGo toks ts s).2)
      else (.ret .falsy, retreat s.idx (textSeqGo toks ts s).2) := by
  unfold matchTextSeq
  cases textSeqGo toks ts s with
  | mk ok s1 => cases ok <;> rfl

theorem sound_textSeq (toks : List Tok) (ts : List Tok) (adv : Bool) :
    Sound toks.length (fun _ => ts.length + 1) (matchTextSeq toks ts adv) := by
  intro s hs
  have g := (textSeqGo_spec toks ts s hs).1
  have back : ∀ v, Good toks.length (fun _ => ts.length + 1) s (.ret v, retreat s.idx (textSeqGo toks ts s).2) :=
    g.back hs (retreat_idx _ _) (retreat_steps _ _)
  rw [matchTextSeq_eq]
  split
  · cases adv
    · exact back _
    · exact g.mono (Nat.le_succ _)
  · exact back _

theorem restOfChunk_eq (toks : List Tok) (s : St) (hs : s.idx ≤ toks.length) :
    restOfChunk toks s
      = (.ret .truthy, { s with idx := toks.length, steps := s.steps + (toks.length - s.idx) }) := by
  unfold restOfChunk
  split
  · rfl
  · rename_i h
    have e : s.idx = toks.length := Nat.le_antisymm hs (Nat.le_of_not_lt h)
    rw [← e, Nat.sub_self]; rfl

theorem sound_restOfChunk (toks : List Tok) : Sound toks.length (fun r => r) (restOfChunk toks) := by
  intro s hs
  rw [restOfChunk_eq toks s hs]
  exact .of_ret hs (Nat.le_refl _) (Nat.le_refl _)

theorem sound_ifTok {toks : List Tok} {ts : List Tok} {bp bq : Nat → Nat} {p q : P}
    (hp : Sound toks.length bp p) (hq : Sound toks.length bq q) (mp : BMono bp) :
    Sound toks.length (fun r => bp r + bq r + 1) (ifTokS toks ts p q) := by
  intro s hs
  unfold ifTokS
  split
  · rename_i hc
    exact ((good_bump (inSet_lt' hc) .none).step_then hp mp).mono (Nat.succ_le_succ (Nat.le_add_right _ _))
  · exact (hq s hs).mono (Nat.le_succ_of_le (Nat.le_add_left _ _))

theorem peekAt_state (toks : List Tok) (k : Nat) (t : Tok) (g : Guard) (s : St) : (peekAt toks k t g s).2 = s := by
  unfold peekAt
  split
  · unfold lookAt; split <;> rfl
  · rfl

theorem peekAt_strict_ret (toks : List Tok) (k : Nat) (t : Tok) (s : St) :
    ∃ v, peekAt toks k t .strict s = (.ret v, s) := by
  unfold peekAt
  split
  · rename_i h
    simp only [Guard.pass, decide_eq_true_eq] at h
    unfold lookAt
    rw [List.getElem?_eq_getElem h]
    exact ⟨_, rfl⟩
  · exact ⟨_, rfl⟩

theorem sound_peekAt (toks : List Tok) (k : Nat) (t : Tok) :
    Sound toks.length (fun _ => 0) (peekAt toks k t .strict) := by
  intro s hs
  obtain ⟨v, e⟩ := peekAt_strict_ret toks k t s
  rw [e]
  exact good_here hs v

/-- progress whenever an entry reports success is automatic when the caller consumed the key, and asks for `Consuming`
    entries when the key was only peeked -/
theorem sound_tableLoop {toks : List Tok} {keys : List Tok} {consume : Bool} {b : Nat → Nat} {entry : Tok → P}
    {fuel : Nat} (he : ∀ k, Sound toks.length b (entry k)) (mb : BMono b)
    (hprog : consume = true ∨ ∀ k, Consuming toks.length (entry k)) (hf : toks.length < fuel) :
    Sound toks.length (fun r => (r + 1) * (b r + 1)) (tableLoopS toks keys consume fuel entry) := by
  intro s hs
  refine good_loop mb.succ (L := tableLoop toks keys consume entry) ?_ hf .falsy hs
  intro fuel acc s hs
  rw [tableLoop]
  split
  · rename_i k hk
    have h0 : Good toks.length (fun _ => 1) s (.ret .none, if consume then bump 1 s else s) := by
      cases consume
      · exact good_here hs _
      · exact good_bump (keyOf_some_lt hk) _
    have h1 := he k _ h0.inRange
    refine .bind (h0.step_then (he k) mb) (Nat.le_refl _) fun v s1 e h => ?_
    rw [e] at h1
    split
    · rename_i hv
      refine .again Val.truthy s1 ?_ h.inRange h.steps
      cases hprog with
      | inl hc => subst hc; exact h1.fwd
      | inr hc => exact Nat.lt_of_le_of_lt h0.fwd (hc k _ v s1 h0.inRange e hv)
    · exact .stop (h.ret _)
  · exact .stop (good_here hs _)

/-- skipping a token after a failed element: the cursor ends beyond where the round began (at `s0`, on a token) -/
theorem skipTok_spec {toks : List Tok} {s0 s : St} (h0 : s0.idx < toks.length) (h1 : s0.idx ≤ s.idx)
    (hs : s.idx ≤ toks.length) :
    s0.idx < (skipTok toks s).idx ∧ (skipTok toks s).idx ≤ toks.length ∧ (skipTok toks s).steps ≤ s.steps + 1 := by
  unfold skipTok
  split
  · rename_i h
    exact ⟨Nat.lt_succ_of_le h1, curr_isSome_lt h, Nat.le_refl _⟩
  · rename_i h
    have : ¬ s.idx < toks.length := fun hlt => h (by unfold curr; rw [List.getElem?_eq_getElem hlt]; rfl)
    exact ⟨Nat.lt_of_lt_of_le h0 (Nat.le_of_not_lt this), hs, Nat.le_succ _⟩

theorem sound_optionLoop {toks : List Tok} {close : Tok} {mode : OnFail} {b : Nat → Nat} {p : P} {fuel : Nat}
    (hp : Sound toks.length b p) (mb : BMono b) (hc : Consuming toks.length p) (hm : mode ≠ .relyOnRaise)
    (hf : toks.length < fuel) :
    Sound toks.length (fun r => (r + 1) * (b r + 1)) (optionLoop toks close mode p fuel) := by
  intro s hs
  refine good_loop mb.succ (L := fun fuel (_ : Unit) s => optionLoop toks close mode p fuel s) ?_ hf () hs
  intro fuel _ s hs
  have hb : b (toks.length - s.idx) ≤ b (toks.length - s.idx) + 1 := Nat.le_succ _
  show Round _ _ _ s (optionLoop toks close mode p (fuel + 1) s)
  rw [optionLoop]
  split
  · exact .stop (good_here hs _)
  · rename_i t hcur
    have hlt := curr_some_lt hcur
    by_cases hcl : t = close
    · rw [if_pos hcl]
      exact .stop ((good_bump hlt _).mono (Nat.le_add_left _ _))
    · rw [if_neg hcl]
      refine .bind (hp s hs) hb fun v s1 e h => ?_
      split
      · rename_i hv
        exact .again () s1 (hc s v s1 hs e hv) h.inRange (Nat.le_succ_of_le h.steps)
      · cases mode with
        | skip =>
          -- the skipped token is the offending one, or a later one when `p` consumed before giving up
          obtain ⟨k1, k2, k3⟩ := skipTok_spec hlt h.fwd h.inRange
          exact .again () (skipTok toks s1) k1 k2 (Nat.le_trans k3 (Nat.succ_le_succ h.steps))
        | breakAfterRaise =>
          exact .stop (h.trans ((sound_fail _ s1 h.inRange).bind_ret _) (fun _ _ _ => Nat.le_refl _) |>.mono hb)
        | relyOnRaise => exact absurd rfl hm

theorem bound_mono (p : Comb) : BMono p.bound := by
  induction p with
  | eps | nothing | tok | tokSet | peek | pair | anyTok | advance | fail | textSeq | peekAt =>
    exact fun _ _ _ => Nat.le_refl _
  | restOfChunk => exact fun _ _ h => h
  | andThen p q ihp ihq | both p q ihp ihq | orElse p q ihp ihq =>
    exact fun a c h => Nat.add_le_add (ihp a c h) (ihq a c h)
  | ifTok ts p q ihp ihq => exact fun a c h => Nat.succ_le_succ (Nat.add_le_add (ihp a c h) (ihq a c h))
  | attempt p ih | tryParse p rt ih | wrapped p o ih => exact fun a c h => Nat.add_le_add_right (ih a c h) _
  | many p ih => exact fun a c h => Nat.mul_le_mul (Nat.succ_le_succ h) (ih a c h)
  | csv p sep ih | tableLoop keys p cns ih | optionLoop cl p mode ih =>
    exact fun a c h => Nat.mul_le_mul (Nat.succ_le_succ h) (Nat.succ_le_succ (ih a c h))

/-- the `_match*` shape of `sound_guard`, where the move made on success is a move forward -/
theorem cons_guard {n : Nat} {c : St → Prop} [DecidablePred c] {f : St → St} {v0 : Val}
    (h0 : v0.isTruthy = false) (hf : ∀ s, s.idx < (f s).idx) :
    Consuming n (fun s => if c s then (.ret .truthy, f s) else (.ret v0, s)) := by
  intro s v s' _ hr hv
  dsimp only at hr
  split at hr <;> cases hr
  · exact hf s
  · exact absurd hv (by simp [h0])

theorem cons_andThen {n : Nat} {bp bq : Nat → Nat} {p q : P} (hp : Sound n bp p) (hq : Sound n bq q)
    (h : Consuming n p ∨ Consuming n q) : Consuming n (andThenS p q) := by
  intro s v s' hs hr hv
  obtain ⟨v1, s1, h1, h2⟩ := bindR_ret hr
  have g1 := hp s hs
  rw [h1] at g1
  split at h2
  · rename_i hv1
    have g2 := hq s1 g1.inRange
    rw [h2] at g2
    cases h with
    | inl h => exact Nat.lt_of_lt_of_le (h s v1 s1 hs h1 hv1) g2.fwd
    | inr h => exact Nat.lt_of_le_of_lt g1.fwd (h s1 v s' g1.inRange h2 hv)
  · cases h2; cases hv

theorem cons_orElse {n : Nat} {bp : Nat → Nat} {p q : P} (hp : Sound n bp p)
    (hcp : Consuming n p) (hcq : Consuming n q) : Consuming n (orElseS p q) := by
  intro s v s' hs hr hv
  obtain ⟨v1, s1, h1, h2⟩ := bindR_ret hr
  split at h2
  · rename_i hv1; cases h2; exact hcp s v s' hs h1 hv1
  · have g1 := hp s hs
    rw [h1] at g1
    exact Nat.lt_of_le_of_lt g1.fwd (hcq s1 v s' g1.inRange h2 hv)

theorem cons_attempt {n : Nat} {p : P} (hcp : Consuming n p) : Consuming n (attemptS p) := by
  intro s v s' hs hr hv
  obtain ⟨v1, s1, h1, h2⟩ := bindR_ret hr
  split at h2 <;> cases h2
  · exact hcp s v s' hs h1 hv
  · contradiction

theorem cons_tryParse {n : Nat} {p : P} (hcp : Consuming n p) : Consuming n (tryParseS p false) := by
  intro s v s' hs hr hv
  rcases tryParseS_cases p false s with ⟨v1, s1, h1, e⟩ | ⟨s1, -, e⟩ | ⟨s1, -, e⟩ | ⟨s1, -, e⟩ <;>
    cases hr.symm.trans e
  · rw [hv]
    exact hcp { s with lvl := .immediate } _ s1 hs h1 hv
  · cases hv

theorem cons_textSeq (toks : List Tok) (ts : List Tok) (hne : ts.isEmpty = false) :
    Consuming toks.length (matchTextSeq toks ts true) := by
  intro s v s' hs hr hv
  rw [matchTextSeq_eq] at hr
  split at hr <;> cases hr
  · rename_i hok
    show s.idx < (textSeqGo toks ts s).2.idx
    rw [(textSeqGo_spec toks ts s hs).2 hok]
    cases ts with
    | nil => cases hne
    | cons _ _ => exact Nat.lt_add_of_pos_right (Nat.succ_pos _)
  · cases hv

theorem cons_ifTok {toks : List Tok} {ts : List Tok} {bp : Nat → Nat} {p q : P}
    (hp : Sound toks.length bp p) (hq : Consuming toks.length q) : Consuming toks.length (ifTokS toks ts p q) := by
  intro s v s' hs hr hv
  unfold ifTokS at hr
  split at hr
  · rename_i hc
    have g := hp (bump 1 s) (inSet_lt' hc)
    rw [hr] at g
    exact g.fwd
  · exact hq s v s' hs hr hv

/-- The two contracts are proved together: the loops (`sound_many`, `sound_tableLoop`, `sound_optionLoop`) ask for
    `Consuming` of their body, and the `cons_*` lemmas ask for `Sound` of the parts. -/
theorem run_sound (toks : List Tok) (fuel : Nat) (hf : toks.length < fuel) (p : Comb) (hw : p.wf = true) :
    Sound toks.length p.bound (run toks fuel p) ∧
      (p.consuming = true → Consuming toks.length (run toks fuel p)) := by
  induction p with
  | eps => exact ⟨sound_const _ _, nofun⟩
  | nothing => exact ⟨sound_const _ _, fun _ s v s' _ hr hv => by cases hr; cases hv⟩
  | tok t => exact ⟨sound_matchTok toks t true, fun _ => cons_guard rfl fun s => Nat.lt_succ_self _⟩
  | tokSet ts => exact ⟨sound_matchSet toks ts, fun _ => cons_guard rfl fun s => Nat.lt_succ_self _⟩
  | peek t => exact ⟨sound_peek toks t, nofun⟩
  | pair a b => exact ⟨sound_matchPair toks a b, fun _ => cons_guard rfl fun s => Nat.lt_add_of_pos_right (by decide)⟩
  | anyTok => exact ⟨sound_anyTok toks, fun _ => cons_guard rfl fun s => Nat.lt_succ_self _⟩
  | advance => cases hw
  | fail => exact ⟨sound_fail _, fun _ s v s' _ hr hv => by cases (failS_ret hr).1; cases hv⟩
  | andThen p q ihp ihq =>
    obtain ⟨wp, wq⟩ := Bool.and_eq_true_iff.mp hw
    obtain ⟨sp, cp⟩ := ihp wp
    obtain ⟨sq, cq⟩ := ihq wq
    exact ⟨sound_andThen sp sq (bound_mono q), fun hc => cons_andThen sp sq ((Bool.or_eq_true_iff.mp hc).imp cp cq)⟩
  | both p q ihp ihq =>
    obtain ⟨wp, wq⟩ := Bool.and_eq_true_iff.mp hw
    exact ⟨sound_both (ihp wp).1 (ihq wq).1 (bound_mono q), nofun⟩
  | orElse p q ihp ihq =>
    obtain ⟨wp, wq⟩ := Bool.and_eq_true_iff.mp hw
    obtain ⟨sp, cp⟩ := ihp wp
    obtain ⟨sq, cq⟩ := ihq wq
    refine ⟨sound_orElse sp sq (bound_mono q), fun hc => ?_⟩
    obtain ⟨hcp, hcq⟩ := Bool.and_eq_true_iff.mp hc
    exact cons_orElse sp (cp hcp) (cq hcq)
  | attempt p ih =>
    obtain ⟨sp, cp⟩ := ih hw
    exact ⟨sound_attempt sp, fun hc => cons_attempt (cp hc)⟩
  | tryParse p rt ih =>
    obtain ⟨sp, cp⟩ := ih hw
    refine ⟨sound_tryParse sp rt, fun hc => ?_⟩
    obtain ⟨h1, h2⟩ := Bool.and_eq_true_iff.mp hc
    cases rt
    · exact cons_tryParse (cp h1)
    · cases h2
  | csv p sep ih => exact ⟨sound_csv (ih hw).1 (bound_mono p) hf, nofun⟩
  | wrapped p o ih => exact ⟨sound_wrapped (ih hw).1 (bound_mono p) o, nofun⟩
  | many p ih =>
    obtain ⟨wp, wc⟩ := Bool.and_eq_true_iff.mp hw
    obtain ⟨sp, cp⟩ := ih wp
    exact ⟨sound_many sp (bound_mono p) (cp wc) hf, nofun⟩
  | textSeq ts adv =>
    refine ⟨sound_textSeq toks ts adv, fun hc => ?_⟩
    obtain ⟨rfl, h2⟩ := Bool.and_eq_true_iff.mp hc
    exact cons_textSeq toks ts ((Bool.not_eq_true' _).mp h2)
  | restOfChunk => exact ⟨sound_restOfChunk toks, nofun⟩
  | peekAt k t g =>
    cases beq_iff_eq.mp hw
    exact ⟨sound_peekAt toks k t, nofun⟩
  | optionLoop cl p mode ih =>
    obtain ⟨wpc, wm⟩ := Bool.and_eq_true_iff.mp hw
    obtain ⟨wp, wc⟩ := Bool.and_eq_true_iff.mp wpc
    obtain ⟨sp, cp⟩ := ih wp
    exact ⟨sound_optionLoop sp (bound_mono p) (cp wc) (bne_iff_ne.mp wm) hf, nofun⟩
  | ifTok ts p q ihp ihq =>
    obtain ⟨wp, wq⟩ := Bool.and_eq_true_iff.mp hw
    obtain ⟨sq, cq⟩ := ihq wq
    exact ⟨sound_ifTok (ihp wp).1 sq (bound_mono p), fun hc => cons_ifTok (ihp wp).1 (cq hc)⟩
  | tableLoop keys p cns ih =>
    obtain ⟨wp, wc⟩ := Bool.and_eq_true_iff.mp hw
    obtain ⟨sp, cp⟩ := ih wp
    exact ⟨sound_tableLoop (entry := fun _ => run toks fuel p) (fun _ => sp) (bound_mono p)
      ((Bool.or_eq_true_iff.mp wc).imp id fun h _ => cp h) hf, nofun⟩

theorem good_leftoverK {toks : List Tok} (v : Val) (s1 : St) (h : s1.idx ≤ toks.length) :
    Good toks.length (fun _ => 0) s1 (leftoverK toks v s1) := by
  unfold leftoverK
  split
  · exact (sound_fail _ s1 h).bind_ret v
  · exact good_here h v

/-- `check_errors` turns a return into a ParseError or leaves the result alone -/
theorem Good.checkErrors {n : Nat} {b : Nat → Nat} {s : St} {r : Res} (h : Good n b s r) :
    Good n b s (checkErrorsK r) := by
  refine h.bind (Nat.le_refl _) fun v s1 _ h1 => ?_
  split
  · exact h1.raised
  · exact h1

/-- the chunk funnel around a well-formed statement parser honours the statement parser's contract -/
theorem good_parseTop (toks : List Tok) (fuel : Nat) (hf : toks.length < fuel) (p : Comb) (hw : p.wf = true)
    (lvl : Level) : Good toks.length p.bound (initSt lvl) (parseTop toks fuel p lvl) :=
  good_bind (bq := fun _ => 0) ((run_sound toks fuel hf p hw).1 (initSt lvl) (Nat.zero_le _)) (fun _ _ _ => Nat.le_refl _)
    fun v s1 _ h1 => (good_leftoverK v s1 h1).checkErrors

/-- What the returns of a method look like, whatever state it starts from, in the three respects the syntactic checks
    `Comb.still`, `Comb.total`, `Comb.restoring` speak of; a flag that is `false` claims nothing.
    The flags of the `rets_*` lemmas are the right-hand sides of those three definitions, so one induction proves all
    three checks right (`run_rets`); `Comb.restoring (.andThen p q)`, which reads the other two, is why they cannot be
    had one at a time. -/
def Rets (st tot rs : Bool) (p : P) : Prop :=
  ∀ s v s', p s = (.ret v, s') →
    (st = true → s'.idx = s.idx) ∧ (tot = true → v.isTruthy = true) ∧ (rs = true → v.isTruthy = false → s'.idx = s.idx)

theorem Rets.stays {st tot rs : Bool} {p : P} (h : Rets st tot rs p) (hst : st = true) {s s' : St} {v : Val}
    (hr : p s = (.ret v, s')) : s'.idx = s.idx := (h s v s' hr).1 hst

theorem Rets.truthy {st tot rs : Bool} {p : P} (h : Rets st tot rs p) (ht : tot = true) {s s' : St} {v : Val}
    (hr : p s = (.ret v, s')) : v.isTruthy = true := (h s v s' hr).2.1 ht

theorem Rets.restores {st tot rs : Bool} {p : P} (h : Rets st tot rs p) (hrs : rs = true) {s s' : St} {v : Val}
    (hr : p s = (.ret v, s')) (hv : v.isTruthy = false) : s'.idx = s.idx := (h s v s' hr).2.2 hrs hv

theorem Rets.any (p : P) : Rets false false false p := fun _ _ _ _ => ⟨nofun, nofun, nofun⟩

theorem Rets.of_still {p : P} (h : ∀ s v s', p s = (.ret v, s') → s'.idx = s.idx) : Rets true false true p :=
  fun s v s' hr => ⟨fun _ => h s v s' hr, nofun, fun _ _ => h s v s' hr⟩

theorem rets_const (v : Val) : Rets true v.isTruthy true (fun s => (.ret v, s)) := by
  intro s v' s' hr
  cases hr
  exact ⟨fun _ => rfl, id, fun _ _ => rfl⟩

/-- the `_match*` shape again, with a state `g s` on failure as well (`_match_text_seq` retreats there) -/
theorem rets_guard {c : St → Prop} [DecidablePred c] {f g : St → St} {v0 : Val} {st : Bool}
    (hg : ∀ s, (g s).idx = s.idx) (hf : st = true → ∀ s, (f s).idx = s.idx) :
    Rets st false true (fun s => if c s then (.ret .truthy, f s) else (.ret v0, g s)) := by
  intro s v s' hr
  dsimp only at hr
  split at hr <;> cases hr
  · exact ⟨fun h => hf h s, nofun, fun _ hv => nomatch hv⟩
  · exact ⟨fun _ => hg s, nofun, fun _ _ => hg s⟩

theorem rets_textSeq (toks ts : List Tok) (adv : Bool) : Rets (!adv) false true (matchTextSeq toks ts adv) := by
  rw [show matchTextSeq toks ts adv = _ from funext (matchTextSeq_eq toks ts adv)]
  refine rets_guard (fun s => retreat_idx _ _) fun h s => ?_
  cases adv
  · exact retreat_idx _ _
  · cases h

theorem rets_fail : Rets true false true failS := Rets.of_still fun _ _ _ hr => (failS_ret hr).2

theorem rets_peekAt (toks : List Tok) (k : Nat) (t : Tok) (g : Guard) : Rets true false true (peekAt toks k t g) :=
  Rets.of_still fun s _ _ hr => congrArg St.idx ((congrArg Prod.snd hr).symm.trans (peekAt_state toks k t g s))

theorem rets_andThen {sp tp rp sq tq rq : Bool} {p q : P} (hp : Rets sp tp rp p) (hq : Rets sq tq rq q) :
    Rets (sp && sq) (tp && tq) (rp && (tq || (sp && rq))) (andThenS p q) := by
  intro s v s' hr
  obtain ⟨v1, s1, h1, h2⟩ := bindR_ret hr
  obtain ⟨ps, pt, pr⟩ := hp s v1 s1 h1
  simp only [Bool.and_eq_true, Bool.or_eq_true]
  split at h2
  · -- `p` was truthy: the result is `q`'s, from where `p` stopped; a falsy one is in place only if `p` did not move
    obtain ⟨qs, qt, qr⟩ := hq s1 v s' h2
    refine ⟨fun h => (qs h.2).trans (ps h.1), fun h => qt h.2, fun h hv => ?_⟩
    rcases h.2 with ht | ⟨hs, hr⟩
    · exact absurd (qt ht) (by simp [hv])
    · exact (qr hr hv).trans (ps hs)
  · rename_i hv1
    cases h2
    exact ⟨fun h => ps h.1, fun h => absurd (pt h.1) hv1, fun h _ => pr h.1 (by simpa using hv1)⟩

theorem rets_both {sp tp rp sq tq rq : Bool} {p q : P} (hp : Rets sp tp rp p) (hq : Rets sq tq rq q) :
    Rets (sp && sq) true true (bothS p q) := by
  intro s v s' hr
  obtain ⟨v1, s1, h1, h2⟩ := bindR_ret hr
  obtain ⟨v2, s2, h3, h4⟩ := bindR_ret h2
  cases h4
  simp only [Bool.and_eq_true]
  exact ⟨fun h => (hq.stays h.2 h3).trans (hp.stays h.1 h1), fun _ => rfl, fun _ hv => nomatch hv⟩

theorem rets_orElse {sp tp rp sq tq rq : Bool} {p q : P} (hp : Rets sp tp rp p) (hq : Rets sq tq rq q) :
    Rets (sp && sq) tq (rp && rq) (orElseS p q) := by
  intro s v s' hr
  obtain ⟨v1, s1, h1, h2⟩ := bindR_ret hr
  obtain ⟨ps, -, pr⟩ := hp s v1 s1 h1
  simp only [Bool.and_eq_true]
  split at h2
  · rename_i hv1
    cases h2
    exact ⟨fun h => ps h.1, fun _ => hv1, fun _ hv => absurd hv1 (by simp [hv])⟩
  · -- `p` was falsy, so it is `q` that answers, from where `p` stopped
    rename_i hv1
    obtain ⟨qs, qt, qr⟩ := hq s1 v s' h2
    exact ⟨fun h => (qs h.2).trans (ps h.1), qt, fun h hv => (qr h.2 hv).trans (pr h.1 (by simpa using hv1))⟩

theorem rets_attempt {sp tp rp : Bool} {p : P} (hp : Rets sp tp rp p) : Rets sp tp true (attemptS p) := by
  intro s v s' hr
  obtain ⟨v1, s1, h1, h2⟩ := bindR_ret hr
  obtain ⟨ps, pt, -⟩ := hp s v1 s1 h1
  split at h2 <;> cases h2
  · rename_i hv
    exact ⟨ps, pt, fun _ hf => absurd hv (by simp [hf])⟩
  · exact ⟨fun _ => retreat_idx _ _, pt, fun _ _ => retreat_idx _ _⟩

theorem rets_tryParse {sp tp rp : Bool} {p : P} (hp : Rets sp tp rp p) (rt : Bool) :
    Rets (rt || sp) false true (tryParseS p rt) := by
  intro s v s' hr
  rcases tryParseS_cases p rt s with ⟨v1, s1, h1, e⟩ | ⟨s1, -, e⟩ | ⟨s1, -, e⟩ | ⟨s1, -, e⟩ <;>
    cases hr.symm.trans e
  · refine ⟨fun h => ?_, nofun, fun _ hv => ?_⟩
    · split
      · exact restore_idx s s1
      · -- truthy and `retreat=False`: `p`'s own state with the level put back
        rename_i hn
        rcases Bool.or_eq_true_iff.mp h with h | h
        · simp [h] at hn
        · exact (hp.stays h h1 : s1.idx = _)
    · rw [hv]; exact restore_idx s s1
  · exact ⟨fun _ => restore_idx s s1, nofun, fun _ _ => restore_idx s s1⟩

theorem rets_ifTok (toks ts : List Tok) {sp tp rp sq tq rq : Bool} {p q : P} (hp : Rets sp tp rp p)
    (hq : Rets sq tq rq q) : Rets false (tp && tq) (tp && rq) (ifTokS toks ts p q) := by
  intro s v s' hr
  simp only [Bool.and_eq_true]
  unfold ifTokS at hr
  split at hr
  · -- the keyword is consumed before `p` runs: nothing falsy may come back from there
    exact ⟨nofun, fun h => hp.truthy h.1 hr, fun h hv => absurd (hp.truthy h.1 hr) (by simp [hv])⟩
  · obtain ⟨-, qt, qr⟩ := hq s v s' hr
    exact ⟨nofun, fun h => qt h.2, fun h => qr h.2⟩

theorem closeK_val {toks : List Tok} {w : Bool} {v v' : Val} {s2 s' : St}
    (h : closeK toks w v s2 = (.ret v', s')) : v' = v := by
  unfold closeK at h
  split at h
  · split at h
    · cases h; rfl
    · obtain ⟨_, _, _, h2⟩ := bindR_ret h
      cases h2; rfl
  · cases h; rfl

theorem bodyK_val {toks : List Tok} {p : P} {w : Bool} {s1 s' : St} {v : Val}
    (h : bodyK toks p w s1 = (.ret v, s')) : ∃ s2, p s1 = (.ret v, s2) := by
  obtain ⟨v2, s2, h1, h2⟩ := bindR_ret h
  rw [closeK_val h2]
  exact ⟨s2, h1⟩

theorem wrappedS_val {toks : List Tok} {p : P} {o : Bool} {s s' : St} {v : Val}
    (h : wrappedS toks p o s = (.ret v, s')) : ∃ s1 s2, p s1 = (.ret v, s2) := by
  unfold wrappedS at h
  split at h
  · exact ⟨_, bodyK_val h⟩
  · split at h
    · exact ⟨_, bodyK_val h⟩
    · obtain ⟨_, _, _, h2⟩ := bindR_ret h
      exact ⟨_, bodyK_val h2⟩

theorem rets_wrapped (toks : List Tok) (o : Bool) {sp tp rp : Bool} {p : P} (hp : Rets sp tp rp p) :
    Rets false tp false (wrappedS toks p o) := fun _ _ _ hr =>
  let ⟨_, _, h⟩ := wrappedS_val hr
  ⟨nofun, fun ht => hp.truthy ht h, nofun⟩

theorem run_rets (toks : List Tok) (fuel : Nat) (p : Comb) : Rets p.still p.total p.restoring (run toks fuel p) := by
  induction p with
  | eps => exact rets_const .truthy
  | nothing => exact rets_const .none
  | tok | tokSet | pair | anyTok => exact rets_guard (fun _ => rfl) nofun
  | peek => exact rets_guard (fun _ => rfl) fun _ _ => rfl
  | fail => exact rets_fail
  | advance | csv | many | tableLoop | optionLoop => exact Rets.any _
  | andThen p q ihp ihq => exact rets_andThen ihp ihq
  | both p q ihp ihq => exact rets_both ihp ihq
  | orElse p q ihp ihq => exact rets_orElse ihp ihq
  | attempt p ih => exact rets_attempt ih
  | tryParse p rt ih => exact rets_tryParse ih rt
  | wrapped p o ih => exact rets_wrapped toks o ih
  | textSeq ts adv => exact rets_textSeq toks ts adv
  | restOfChunk => intro s v s' hr; cases hr; exact ⟨nofun, fun _ => rfl, fun _ hv => nomatch hv⟩
  | ifTok ts p q ihp ihq => exact rets_ifTok toks ts ihp ihq
  | peekAt k t g => exact rets_peekAt toks k t g

theorem poly_add {r B1 B2 c1 c2 d1 d2 : Nat} (h1 : B1 ≤ c1 * (r + 1) ^ d1) (h2 : B2 ≤ c2 * (r + 1) ^ d2) :
    B1 + B2 ≤ (c1 + c2) * (r + 1) ^ max d1 d2 := by
  rw [Nat.add_mul]
  exact Nat.add_le_add
    (Nat.le_trans h1 (Nat.mul_le_mul_left _ (Nat.pow_le_pow_right (Nat.succ_pos r) (Nat.le_max_left _ _))))
    (Nat.le_trans h2 (Nat.mul_le_mul_left _ (Nat.pow_le_pow_right (Nat.succ_pos r) (Nat.le_max_right _ _))))

theorem poly_const {r B c d : Nat} (k : Nat) (h : B ≤ c * (r + 1) ^ d) : B + k ≤ (c + k) * (r + 1) ^ d := by
  rw [Nat.add_mul]
  exact Nat.add_le_add h (Nat.le_mul_of_pos_right _ (Nat.pow_pos (Nat.succ_pos r)))

theorem poly_loop {r B c d : Nat} (h : B ≤ c * (r + 1) ^ d) : (r + 1) * B ≤ c * (r + 1) ^ (d + 1) := by
  rw [Nat.pow_succ, ← Nat.mul_assoc, Nat.mul_comm (r + 1)]
  exact Nat.mul_le_mul_right _ h

theorem bound_le_poly (p : Comb) (r : Nat) : p.bound r ≤ p.coeff * (r + 1) ^ p.depth := by
  induction p with
  | eps | nothing | peek | fail | peekAt => exact Nat.zero_le _
  | tok | tokSet | pair | anyTok | advance => exact Nat.le_refl _
  | textSeq ts adv => exact Nat.le_of_eq (Nat.mul_one _).symm
  | restOfChunk => show r ≤ 1 * (r + 1) ^ 1; rw [Nat.one_mul, Nat.pow_one]; exact Nat.le_succ r
  | andThen p q ihp ihq | both p q ihp ihq | orElse p q ihp ihq => exact poly_add ihp ihq
  | ifTok ts p q ihp ihq => exact poly_const 1 (poly_add ihp ihq)
  | attempt p ih | tryParse p rt ih => exact poly_const 1 ih
  | wrapped p o ih => exact poly_const 2 ih
  | many p ih => exact poly_loop ih
  | csv p sep ih | optionLoop cl p mode ih | tableLoop keys p cns ih => exact poly_loop (poly_const 1 ih)

end SqlglotModel.Cursor
