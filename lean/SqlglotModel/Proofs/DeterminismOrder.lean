/-
  C15, order independence of the canonicalising algorithms (core Lean only).  A sort returns a sorted permutation, and
  there is only one when distinct elements never tie (`isortBy_perm`); every other routine reads a set or dict only
  through what a permutation respects.  `tsort` meets dicts that differ in two ways, in the order of the entries (`Perm`)
  and inside the dependency sets (`InnerEq`): `tsortLoop_congr` serves both.
-/
import SqlglotModel.Model.Determinism
import SqlglotModel.Proofs.List
namespace SqlglotModel.Determinism
open List

/-! `perm_f`: what `f` returns is a permutation of its input.  `f_perm`: when the input is permuted, what `f` returns does
    not change or, where `f` returns a set or dict itself (`dedupFirst`, `ready`, `stepDag`, `closeDag`), is permuted;
    `f_innerEq`, `f_aopsEq` likewise for the two other relations. -/

theorem perm_insertByKey (key : Nat → Nat) (a : Nat) (l : List Nat) : (insertByKey key a l).Perm (a :: l) := by
  induction l with
  | nil => exact .refl _
  | cons b l ih =>
    simp only [insertByKey]
    split
    · exact .refl _
    · exact (ih.cons b).trans (.swap a b l)

theorem perm_isortBy (key : Nat → Nat) (l : List Nat) : (isortBy key l).Perm l := by
  induction l with
  | nil => exact .refl _
  | cons a l ih => exact (perm_insertByKey key a _).trans (ih.cons a)

theorem mem_isortBy {key : Nat → Nat} {x : Nat} {l : List Nat} : x ∈ isortBy key l ↔ x ∈ l :=
  (perm_isortBy key l).mem_iff

theorem sorted_insertByKey {key : Nat → Nat} {a : Nat} {l : List Nat} (h : l.Pairwise (key · ≤ key ·)) :
    (insertByKey key a l).Pairwise (key · ≤ key ·) := by
  induction l with
  | nil => simp [insertByKey]
  | cons b l ih =>
    have hb := pairwise_cons.1 h
    simp only [insertByKey]
    split
    · next hab =>
      refine pairwise_cons.2 ⟨fun x hx => ?_, h⟩
      rcases mem_cons.1 hx with rfl | hx
      · exact hab
      · exact Nat.le_trans hab (hb.1 x hx)
    · next hab =>
      refine pairwise_cons.2 ⟨fun x hx => ?_, ih hb.2⟩
      rcases mem_cons.1 ((perm_insertByKey key a l).mem_iff.1 hx) with rfl | hx
      · exact Nat.le_of_not_le hab
      · exact hb.1 x hx

theorem sorted_isortBy (key : Nat → Nat) (l : List Nat) : (isortBy key l).Pairwise (key · ≤ key ·) := by
  induction l with
  | nil => exact .nil
  | cons a l ih => exact sorted_insertByKey ih

/-- both results are sorted permutations of the same elements, and elements that tie on the key are equal -/
theorem isortBy_perm (key : Nat → Nat) {xs ys : List Nat} (h : xs.Perm ys)
    (hinj : ∀ a ∈ xs, ∀ b ∈ xs, key a = key b → a = b) : isortBy key xs = isortBy key ys :=
  ((perm_isortBy key xs).trans (h.trans (perm_isortBy key ys).symm)).eq_of_pairwise
    (fun a b ha hb hab hba =>
      hinj a (mem_isortBy.1 ha) b (h.mem_iff.2 (mem_isortBy.1 hb)) (Nat.le_antisymm hab hba))
    (sorted_isortBy key xs) (sorted_isortBy key ys)

theorem isortBy_id (l : List Nat) : isortBy id l = isort l := by
  have ins (a : Nat) (m : List Nat) : insertByKey id a m = insertSorted a m := by
    induction m with
    | nil => rfl
    | cons b m ih => simp only [insertByKey, insertSorted, id, ih]
  induction l with
  | nil => rfl
  | cons a l ih => rw [isortBy, isort, ih, ins]

theorem isort_perm {xs ys : List Nat} (h : xs.Perm ys) : isort xs = isort ys := by
  rw [← isortBy_id, ← isortBy_id]
  exact isortBy_perm id h fun _ _ _ _ e => e

theorem mem_isort {x : Nat} {l : List Nat} : x ∈ isort l ↔ x ∈ l := by
  rw [← isortBy_id]; exact mem_isortBy

theorem strict_isort {l : List Nat} (h : l.Nodup) : (isort l).Pairwise (· < ·) := by
  rw [← isortBy_id]
  exact ((sorted_isortBy id l).and ((perm_isortBy id l).nodup_iff.2 h)).imp fun ⟨h1, h2⟩ => Nat.lt_of_le_of_ne h1 h2

theorem isort_of_ascending {l : List Nat} (h : ascending l = true) : isort l = l := by
  induction l with
  | nil => rfl
  | cons a l ih =>
    cases l with
    | nil => rfl
    | cons b l =>
      simp only [ascending, Bool.and_eq_true, decide_eq_true_eq] at h
      rw [isort, ih h.2]
      simp [insertSorted, h.1]

/-! `uniq_sort`: the dict of distinct keys is a duplicate-free sublist with the same members, so two arrival orders give
    permutations of each other (`dedupFirst_perm`) -/

theorem dedupFirst_sublist (l : List Nat) : dedupFirst l <+ l := by
  induction l with
  | nil => exact .slnil
  | cons a l ih => exact (filter_sublist.trans ih).cons_cons a

theorem mem_dedupFirst {x : Nat} {l : List Nat} : x ∈ dedupFirst l ↔ x ∈ l := by
  induction l with
  | nil => simp [dedupFirst]
  | cons a l ih => simp only [dedupFirst, List.mem_cons, List.mem_filter, ih]; grind

theorem nodup_dedupFirst (l : List Nat) : (dedupFirst l).Nodup := by
  induction l with
  | nil => exact .nil
  | cons a l ih => exact nodup_cons.2 ⟨by simp, ih.sublist filter_sublist⟩

theorem dedupFirst_perm {xs ys : List Nat} (h : xs.Perm ys) : (dedupFirst xs).Perm (dedupFirst ys) :=
  (perm_ext_iff_of_nodup (nodup_dedupFirst xs) (nodup_dedupFirst ys)).2 fun a => by
    rw [mem_dedupFirst, mem_dedupFirst]; exact h.mem_iff

theorem uniqSort_spec (xs : List Nat) :
    uniqSort false xs =
      if (dedupFirst xs).length = 1 ∧ 1 < xs.length then ⟨dedupFirst xs, true⟩ else ⟨isort (dedupFirst xs), false⟩ := by
  have hsub := dedupFirst_sublist xs
  have hle := hsub.length_le
  unfold uniqSort
  simp only [Bool.false_eq_true, if_false]
  cases hasc : ascending (dedupFirst xs)
  · -- a list that is not ascending has at least two elements
    have : (dedupFirst xs).length ≠ 1 := fun h1 => by
      obtain ⟨a, hd⟩ := length_eq_one_iff.1 h1
      rw [hd] at hasc; cases hasc
    simp [this]
  · simp only [Bool.not_true, Bool.false_eq_true, if_false]
    rw [isort_of_ascending hasc]
    by_cases hlen : (dedupFirst xs).length < xs.length
    · by_cases h1 : (dedupFirst xs).length = 1
      · simp [h1, show 1 < xs.length by omega]
      · simp [hlen, h1]
    · -- nothing was dropped: the operands are returned as they came
      have hself := hsub.eq_of_length (by omega)
      have : ¬ ((dedupFirst xs).length = 1 ∧ 1 < xs.length) := by omega
      rw [if_neg hlen, if_neg this, hself]

theorem uniqSort_xor (xs : List Nat) : uniqSort true xs = ⟨isort xs, false⟩ := by
  unfold uniqSort
  simp only [if_true]
  split
  · next h => rw [isort_of_ascending h]
  · rfl

theorem uniqSort_perm (xor : Bool) {xs ys : List Nat} (h : xs.Perm ys) : uniqSort xor xs = uniqSort xor ys := by
  cases xor with
  | true => rw [uniqSort_xor, uniqSort_xor, isort_perm h]
  | false =>
    have hd := dedupFirst_perm h
    rw [uniqSort_spec, uniqSort_spec, isort_perm hd, ← hd.length_eq, ← h.length_eq]
    split
    · next hc =>
      obtain ⟨a, hxs⟩ := length_eq_one_iff.1 hc.1
      rw [hxs] at hd ⊢
      rw [perm_singleton.1 hd.symm]
    · rfl

/-! the routines below read a set through `in` only -/

theorem contains_perm {α} [BEq α] [LawfulBEq α] {c c' : List α} (h : c.Perm c') : c.contains = c'.contains :=
  funext fun _ => h.contains_eq

theorem ready_perm {d d' : Dag} (h : d.Perm d') : (ready d).Perm (ready d') :=
  (h.filter _).map _

theorem stepDag_perm {d d' : Dag} {c c' : List Nat} (h : d.Perm d') (hc : c.Perm c') :
    (stepDag d c).Perm (stepDag d' c') := by
  unfold stepDag
  rw [contains_perm hc]
  exact (h.filter _).map _

/-- the loop sees of the dict only whether it is empty, the sorted layer of ready nodes, and the next dict: any relation between
    dicts that these three respect is respected by the loop -/
theorem tsortLoop_congr {R : Dag → Dag → Prop} (hE : ∀ {d d'}, R d d' → d.isEmpty = d'.isEmpty)
    (hr : ∀ {d d'}, R d d' → (ready d).Perm (ready d'))
    (hs : ∀ {d d'}, R d d' → R (stepDag d (ready d)) (stepDag d' (ready d')))
    (n : Nat) {d d' : Dag} (acc : List Nat) (h : R d d') : tsortLoop n d acc = tsortLoop n d' acc := by
  have zero (d acc) : tsortLoop 0 d acc = if d.isEmpty then some acc else none := by cases d <;> rfl
  have succ (n d acc) : tsortLoop (n + 1) d acc = if d.isEmpty then some acc else
      if (ready d).isEmpty then none else tsortLoop n (stepDag d (ready d)) (acc ++ isort (ready d)) := by
    cases d <;> rfl
  induction n generalizing d d' acc with
  | zero => rw [zero, zero, hE h]
  | succ n ih => rw [succ, succ, hE h, (hr h).isEmpty_eq, isort_perm (hr h), ih _ (hs h)]

theorem tsortLoop_perm (n : Nat) {d d' : Dag} (acc : List Nat) (h : d.Perm d') :
    tsortLoop n d acc = tsortLoop n d' acc :=
  tsortLoop_congr Perm.isEmpty_eq ready_perm (fun h => stepDag_perm h (ready_perm h)) n acc h

/-- the nodes `closeDag` adds -/
def closure (d : Dag) : Dag :=
  (dedupFirst ((d.flatMap (·.2)).filter fun x => !(keys d).contains x)).map fun x => (x, [])

theorem closeDag_eq (d : Dag) : closeDag d = d ++ closure d := rfl

theorem tsort_eq (d : Dag) : tsort d = tsortLoop (closeDag d).length (closeDag d) [] := rfl

/-- `closure` reads the dict through `in` on its keys and through its dependency sets as a multiset -/
theorem closure_congr {d d' : Dag} (hk : (keys d).Perm (keys d')) (hf : (d.flatMap (·.2)).Perm (d'.flatMap (·.2))) :
    (closure d).Perm (closure d') := by
  unfold closure
  rw [contains_perm hk]
  exact (dedupFirst_perm (hf.filter _)).map _

theorem closeDag_perm {d d' : Dag} (h : d.Perm d') : (closeDag d).Perm (closeDag d') := by
  rw [closeDag_eq, closeDag_eq]
  exact h.append (closure_congr (h.map _) (h.flatMap_right _))

theorem tsort_perm {d d' : Dag} (h : d.Perm d') : tsort d = tsort d' := by
  have hc := closeDag_perm h
  rw [tsort_eq, tsort_eq, hc.length_eq]
  exact tsortLoop_perm _ _ hc

/-! `tsort` again, for dicts that differ inside the dependency sets (`InnerEq`): there the layers are equal, and the
    loop is followed entry by entry -/

theorem stepDag_cons (p : Nat × List Nat) (d : Dag) (c : List Nat) :
    stepDag (p :: d) c =
      if c.contains p.1 then stepDag d c else (p.1, p.2.filter fun x => !c.contains x) :: stepDag d c := by
  simp only [stepDag, filter_cons]
  cases c.contains p.1 <;> rfl

theorem stepDag_congr_deps (d : Dag) (c : List Nat) : keys (stepDag d c) = (keys d).filter fun x => !c.contains x := by
  induction d with
  | nil => rfl
  | cons p d ih =>
    rw [stepDag_cons]
    simp only [keys, map_cons, filter_cons] at ih ⊢
    cases c.contains p.1 <;> simp [ih]

/-- same keys in the same order, each dependency set enumerated in a possibly different order -/
def InnerEq : Dag → Dag → Prop
  | [], [] => True
  | p :: d, q :: d' => p.1 = q.1 ∧ p.2.Perm q.2 ∧ InnerEq d d'
  | _, _ => False

/-- induction over two related dicts at once: `induction d, d', h using InnerEq.ind` -/
theorem InnerEq.ind {motive : ∀ d d', InnerEq d d' → Prop} (nil : motive [] [] trivial)
    (cons : ∀ {p q d d'} (e : p.1 = q.1) (hp : p.2.Perm q.2) (h : InnerEq d d'), motive d d' h →
      motive (p :: d) (q :: d') ⟨e, hp, h⟩)
    (d d' : Dag) (h : InnerEq d d') : motive d d' h := by
  induction d generalizing d' with
  | nil => cases d' with
    | nil => exact nil
    | cons => exact False.elim h
  | cons p d ih => cases d' with
    | nil => exact False.elim h
    | cons q d' => exact cons h.1 h.2.1 h.2.2 (ih d' h.2.2)

theorem InnerEq.refl : ∀ d : Dag, InnerEq d d
  | [] => trivial
  | _ :: d => ⟨rfl, Perm.refl _, InnerEq.refl d⟩

theorem InnerEq.length {d d' : Dag} (h : InnerEq d d') : d.length = d'.length := by
  induction d, d', h using InnerEq.ind with
  | nil => rfl
  | cons _ _ _ ih => exact congrArg (· + 1) ih

theorem InnerEq.append {a a' b b' : Dag} (h1 : InnerEq a a') (h2 : InnerEq b b') : InnerEq (a ++ b) (a' ++ b') := by
  induction a, a', h1 using InnerEq.ind with
  | nil => exact h2
  | cons e p _ ih => exact ⟨e, p, ih⟩

theorem keys_innerEq {d d' : Dag} (h : InnerEq d d') : keys d = keys d' := by
  induction d, d', h using InnerEq.ind with
  | nil => rfl
  | cons e _ _ ih => simp only [keys, map_cons, e] at ih ⊢; rw [ih]

theorem ready_innerEq {d d' : Dag} (h : InnerEq d d') : ready d = ready d' := by
  have cons (p : Nat × List Nat) (d : Dag) : ready (p :: d) = if p.2.isEmpty then p.1 :: ready d else ready d := by
    simp only [ready, filter_cons]; split <;> rfl
  induction d, d', h using InnerEq.ind with
  | nil => rfl
  | cons e hp _ ih => rw [cons, cons, hp.isEmpty_eq, e, ih]

theorem stepDag_innerEq {d d' : Dag} (c : List Nat) (h : InnerEq d d') : InnerEq (stepDag d c) (stepDag d' c) := by
  induction d, d', h using InnerEq.ind with
  | nil => trivial
  | cons e hp _ ih =>
    rw [stepDag_cons, stepDag_cons, e]
    split
    · exact ih
    · exact ⟨rfl, hp.filter _, ih⟩

theorem flatMap_innerEq {d d' : Dag} (h : InnerEq d d') : (d.flatMap (·.2)).Perm (d'.flatMap (·.2)) := by
  induction d, d', h using InnerEq.ind with
  | nil => exact .refl _
  | cons _ hp _ ih => simp only [flatMap_cons]; exact hp.append ih

theorem tsortLoop_innerEq (n : Nat) {d d' : Dag} (acc : List Nat) (h : InnerEq d d') :
    tsortLoop n d acc = tsortLoop n d' acc :=
  tsortLoop_congr (R := InnerEq) (fun {d d'} h => by induction d, d', h using InnerEq.ind <;> rfl)
    (fun h => ready_innerEq h ▸ .refl _) (fun h => ready_innerEq h ▸ stepDag_innerEq _ h) n acc h

theorem tsort_innerEq {d d' : Dag} (h : InnerEq d d') : tsort d = tsort d' := by
  -- `closeDag d` is a permutation of `d ++ closure d'`, which is `InnerEq` to `closeDag d'`
  have h1 : (closeDag d).Perm (d ++ closure d') :=
    closeDag_eq d ▸ (closure_congr (keys_innerEq h ▸ .refl _) (flatMap_innerEq h)).append_left d
  have h2 : InnerEq (d ++ closure d') (closeDag d') := closeDag_eq d' ▸ h.append (.refl _)
  rw [tsort_eq, tsort_eq, tsortLoop_perm _ _ h1, h1.length_eq, h2.length]
  exact tsortLoop_innerEq _ _ h2

theorem removeComplements_perm {xs ys : List Opnd} (h : xs.Perm ys) : removeComplements xs = removeComplements ys := by
  unfold removeComplements
  have e : isComplementIn xs = isComplementIn ys := by
    funext o; cases o <;> simp [isComplementIn, h.mem_iff]
  rw [e]
  exact h.any_eq

/-! absorption: `subset < superset` reads both sets through membership, so the operands may enumerate their sub-operand
    sets in any order (`AOpsEq`) -/

theorem properSubset_perm {a a' b b' : List Nat} (ha : a.Perm a') (hb : b.Perm b') :
    properSubset a b = properSubset a' b' := by
  unfold properSubset
  rw [contains_perm ha, contains_perm hb, ha.all_eq, hb.all_eq]

/-- same operands in the same order, each sub-operand set enumerated in a possibly different order -/
def AOpsEq : List AOp → List AOp → Prop
  | [], [] => True
  | o :: os, o' :: os' => o.dual = o'.dual ∧ o.lits.Perm o'.lits ∧ AOpsEq os os'
  | _, _ => False

theorem AOpsEq.ind {motive : ∀ ops ops', AOpsEq ops ops' → Prop} (nil : motive [] [] trivial)
    (cons : ∀ {o o' os os'} (e : o.dual = o'.dual) (hl : o.lits.Perm o'.lits) (h : AOpsEq os os'), motive os os' h →
      motive (o :: os) (o' :: os') ⟨e, hl, h⟩)
    (ops ops' : List AOp) (h : AOpsEq ops ops') : motive ops ops' h := by
  induction ops generalizing ops' with
  | nil => cases ops' with
    | nil => exact nil
    | cons => exact False.elim h
  | cons o os ih => cases ops' with
    | nil => exact False.elim h
    | cons o' os' => exact cons h.1 h.2.1 h.2.2 (ih os' h.2.2)

theorem AOpsEq.refl : ∀ ops : List AOp, AOpsEq ops ops
  | [] => trivial
  | _ :: os => ⟨rfl, .refl _, AOpsEq.refl os⟩

theorem subops_any_aopsEq {ops ops' : List AOp} (h : AOpsEq ops ops') (i : Nat) {sup sup' : List Nat} (hs : sup.Perm sup') :
    ((subopsOf ops i).any fun sub => properSubset sub sup) = ((subopsOf ops' i).any fun sub => properSubset sub sup') := by
  induction ops, ops', h using AOpsEq.ind with
  | nil => rfl
  | cons _ hl _ ih =>
    simp only [subopsOf, filter_cons, hl.contains_eq] at ih ⊢
    split
    · simp only [map_cons, any_cons, ih, properSubset_perm hl hs]
    · exact ih

theorem absorbed_aopsEq {ops ops' : List AOp} (h : AOpsEq ops ops') {sup sup' : List Nat} (hs : sup.Perm sup') :
    absorbed ops sup = absorbed ops' sup' := by
  unfold absorbed
  have e : (fun i => (subopsOf ops i).any fun sub => properSubset sub sup) =
           (fun i => (subopsOf ops' i).any fun sub => properSubset sub sup') := by
    funext i; exact subops_any_aopsEq h i hs
  rw [e]; exact hs.any_eq

theorem absorbPass_aopsEq {ops ops' : List AOp} (h : AOpsEq ops ops') : absorbPass ops = absorbPass ops' := by
  -- the induction is over the operand list that is mapped over; the one inside `absorbed` stays
  have (xs xs' : List AOp) (hx : AOpsEq xs xs') :
      xs.map (fun o => o.dual && absorbed ops o.lits) = xs'.map (fun o => o.dual && absorbed ops' o.lits) := by
    induction xs, xs', hx using AOpsEq.ind with
    | nil => rfl
    | cons hd hl _ ih => simp only [map_cons, hd, absorbed_aopsEq h hl, ih]
  exact this ops ops' h

/-! CTE de-duplication: `taken` is read through `in` and `len`, `existing_ctes` through `get` -/

theorem findFrom_perm {t t' : List Name} (h : t.Perm t') (base : Name) (fuel i : Nat) :
    findFrom t base fuel i = findFrom t' base fuel i := by
  induction fuel generalizing i with
  | zero => rfl
  | succ n ih => simp only [findFrom, h.contains_eq, ih]

theorem findNewName_perm {t t' : List Name} (h : t.Perm t') (base : Name) : findNewName t base = findNewName t' base := by
  unfold findNewName; rw [h.contains_eq, h.length_eq, findFrom_perm h]

/-- two states of `existing_ctes` / `taken` that hold the same entries in a different storage order -/
def CteSt.Same (a b : CteSt) : Prop := a.existing.Perm b.existing ∧ a.taken.Perm b.taken

/-- the keys of `existing_ctes` are distinct, as in any dict -/
def CteSt.Ok (a : CteSt) : Prop := (a.existing.map (·.1)).Nodup

theorem newCte_ok {a : CteSt} (ha : a.Ok) (key : Nat) (alias : Name) : (newCte a key alias).2.2.Ok := by
  unfold newCte
  cases hg : dget a.existing key with
  | some dup => exact ha
  | none => exact nodup_cons.2 ⟨find?_fst_eq_none.mp hg, ha⟩

/-- the name, the decision and the next state of one `_new_cte` call -/
theorem newCte_same {a b : CteSt} (hs : a.Same b) (ha : a.Ok) (key : Nat) (alias : Name) :
    (newCte a key alias).1 = (newCte b key alias).1 ∧ (newCte a key alias).2.1 = (newCte b key alias).2.1 ∧
    (newCte a key alias).2.2.Same (newCte b key alias).2.2 := by
  obtain ⟨he, ht⟩ := hs
  have hd : dget a.existing key = dget b.existing key := find?_fst_perm key ha he
  unfold newCte
  simp only [← hd, findNewName_perm ht, ht.contains_eq]
  cases dget a.existing key with
  | some dup => exact ⟨rfl, rfl, he, ht.cons _⟩
  | none => exact ⟨rfl, rfl, he.cons _, ht.cons _⟩

theorem elimAll_same {a b : CteSt} (hs : a.Same b) (ha : a.Ok) (xs : List (Nat × Name)) : elimAll a xs = elimAll b xs := by
  induction xs generalizing a b with
  | nil => rfl
  | cons x xs ih =>
    obtain ⟨k, al⟩ := x
    obtain ⟨e1, e2, hs'⟩ := newCte_same hs ha k al
    simp only [elimAll, e1, e2]
    congr 1
    exact ih hs' (newCte_ok ha k al)

end SqlglotModel.Determinism
