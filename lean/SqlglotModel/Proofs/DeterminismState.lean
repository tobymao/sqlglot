/-
  C15, state kept between calls (core Lean only).  Each table kept between calls has an invariant that every history
  keeps (`Coherent`, `CacheOk`, `HeapOk`), and under it a lookup answers as in a fresh process (`fillGet_after`,
  `cfind_after`, `nextParse_after`).  The three go the same way: the invariant, the table at the start (`.nil`,
  `heapInit_ok`), one call (`fillGet_ok`, `cfind_ok`, `heapStep_ok`), a history (`runFills_ok`, `runFinds_ok`,
  `heapRun_ok`), the lookup after it.  A block of assignments is the last value per field (`setAll_eq`); `runGuarded_*`
  say what a save / force / restore wrapper leaves in the saved field, in the others, and how it exits.
-/
import SqlglotModel.Model.Determinism
import SqlglotModel.Proofs.List
namespace SqlglotModel.Determinism
open List

/-- whatever the table holds is what `build` gives; it says nothing of the keys that are absent -/
def Coherent (build : Nat → Nat) (t : Table) : Prop := ∀ k v, tget t k = some v → v = build k

theorem tget_cons (t : Table) (k k' v : Nat) :
    tget ((k', v) :: t) k = if k' = k then some v else tget t k :=
  find?_fst_cons k k' v t

theorem Coherent.nil (build : Nat → Nat) : Coherent build [] := nofun

theorem Coherent.cons {build : Nat → Nat} {t : Table} (h : Coherent build t) (k : Nat) :
    Coherent build ((k, build k) :: t) := by
  intro k' v' hv
  rw [tget_cons] at hv
  split at hv
  · next e => cases hv; rw [e]
  · exact h k' v' hv

theorem fillGet_ok {build : Nat → Nat} {t : Table} (h : Coherent build t) (k : Nat) :
    Coherent build (fillGet build t k).2 ∧ (fillGet build t k).1 = build k := by
  unfold fillGet
  cases hg : tget t k with
  | some v => exact ⟨h, h k v hg⟩
  | none => exact ⟨h.cons k, rfl⟩

theorem fillGet_present {build : Nat → Nat} {t : Table} {k v : Nat} (h : tget t k = some v) : fillGet build t k = (v, t) := by
  unfold fillGet; rw [h]

theorem tget_fillGet (build : Nat → Nat) (t : Table) (k : Nat) : tget (fillGet build t k).2 k = some (fillGet build t k).1 := by
  unfold fillGet
  cases hg : tget t k with
  | some v => exact hg
  | none => simp [tget_cons]

theorem runFills_ok {build : Nat → Nat} {t : Table} (h : Coherent build t) (ks : List Nat) :
    Coherent build (runFills build t ks) := by
  induction ks generalizing t with
  | nil => exact h
  | cons k ks ih => exact ih (fillGet_ok h k).1

/-- after any history of lookups a lookup answers what it answers in a fresh process -/
theorem fillGet_after (build : Nat → Nat) (hist : List Nat) (k : Nat) :
    (fillGet build (runFills build [] hist) k).1 = build k :=
  (fillGet_ok (runFills_ok (.nil build) hist) k).2

/-- a cached hit is what the mapping holds.  Nothing is asked of a cached `none`: `cfind false` looks such a key up
    again, and the variant that serves it (`cfind true`) does not keep the answers of a fresh schema -/
def CacheOk (m : Nat → Option Nat) (c : FindCache) : Prop := ∀ k v, cget c k = some (some v) → m k = some v

theorem cget_cons (c : FindCache) (k k' : Nat) (x : Option Nat) :
    cget ((k', x) :: c) k = if k' = k then some x else cget c k :=
  find?_fst_cons k k' x c

theorem CacheOk.nil (m : Nat → Option Nat) : CacheOk m [] := nofun

theorem CacheOk.cons {m : Nat → Option Nat} {c : FindCache} (h : CacheOk m c) {k : Nat} {x : Option Nat}
    (hx : ∀ v, x = some v → m k = some v) : CacheOk m ((k, x) :: c) := by
  intro k' v' hv
  rw [cget_cons] at hv
  split at hv
  · next e => exact e ▸ hx v' (Option.some.inj hv)
  · exact h k' v' hv

theorem resolve_found {m : Nat → Option Nat} {strict : Bool} {k v : Nat} (h : resolve m strict k = .found v) :
    m k = some v := by
  unfold resolve at h
  cases hm : m k <;> cases strict <;> simp_all

theorem crecompute_ok {m : Nat → Option Nat} {c : FindCache} (h : CacheOk m c) (k : Nat) (strict : Bool) :
    CacheOk m (crecompute m c k strict).2 ∧ (crecompute m c k strict).1 = resolve m strict k := by
  unfold crecompute
  cases hr : resolve m strict k with
  | found v =>
    exact ⟨h.cons fun v' e => Option.some.inj e ▸ resolve_found hr, rfl⟩
  | missing => exact ⟨h.cons nofun, rfl⟩
  | raised => exact ⟨h, rfl⟩

theorem cfind_ok {m : Nat → Option Nat} {c : FindCache} (h : CacheOk m c) (k : Nat) (strict : Bool) :
    CacheOk m (cfind false m c k strict).2 ∧ (cfind false m c k strict).1 = resolve m strict k := by
  unfold cfind
  cases hg : cget c k with
  | none => exact crecompute_ok h k strict
  | some x =>
    cases x with
    | none => simpa using crecompute_ok h k strict
    | some v => exact ⟨h, by simp [resolve, h k v hg]⟩

theorem runFinds_ok {m : Nat → Option Nat} {c : FindCache} (h : CacheOk m c) (hist : List (Nat × Bool)) :
    CacheOk m (runFinds false m c hist) := by
  induction hist generalizing c with
  | nil => exact h
  | cons x rest ih => obtain ⟨k, s⟩ := x; exact ih (cfind_ok h k s).1

/-- after any history of tolerant and strict lookups a lookup answers what the uncached one answers -/
theorem cfind_after (m : Nat → Option Nat) (hist : List (Nat × Bool)) (k : Nat) (strict : Bool) :
    (cfind false m (runFinds false m [] hist) k strict).1 = resolve m strict k :=
  (cfind_ok (runFinds_ok (.nil m) hist) k strict).2

/-- the constant is intact, and nothing handed out is the constant or a cell not yet allocated -/
structure HeapOk (c0 : Nat) (h : SharedHeap) : Prop where
  const : hget h 0 = some c0
  next : 1 ≤ h.next
  returned : ∀ c ∈ h.returned, 1 ≤ c ∧ c < h.next

/-- `heapStep` writes a cell in two ways, a new heap and a `with` update: `hc` is `rfl` for both -/
theorem hget_zero_cons {h h' : SharedHeap} {c v : Nat} (hc : h'.cells = (c, v) :: h.cells) (hne : c ≠ 0) :
    hget h' 0 = hget h 0 := by
  unfold hget; rw [hc, find?_fst_cons, if_neg hne]

theorem heapStep_ok {c0 : Nat} {h : SharedHeap} (hk : HeapOk c0 h) (op : HeapOp) : HeapOk c0 (heapStep true h op) := by
  obtain ⟨h0, hn, hr⟩ := hk
  cases op with
  | parse =>
    simp only [heapStep, if_true, h0]
    refine ⟨(hget_zero_cons rfl (by omega)).trans h0, Nat.le_succ_of_le hn, fun c hc => ?_⟩
    rcases mem_append.1 hc with hc | hc
    · exact ⟨(hr c hc).1, Nat.lt_succ_of_lt (hr c hc).2⟩
    · rw [mem_singleton.1 hc]; exact ⟨hn, Nat.lt_succ_self _⟩
  | edit i v =>
    simp only [heapStep]
    cases hi : h.returned[i]? with
    | none => exact ⟨h0, hn, hr⟩
    | some c =>
      have hc := hr c (mem_of_getElem? hi)
      exact ⟨(hget_zero_cons rfl (by omega)).trans h0, hn, hr⟩

theorem heapRun_ok {c0 : Nat} {h : SharedHeap} (hk : HeapOk c0 h) (ops : List HeapOp) : HeapOk c0 (heapRun true h ops) := by
  induction ops generalizing h with
  | nil => exact hk
  | cons op ops ih => exact ih (heapStep_ok hk op)

theorem heapInit_ok (c0 : Nat) : HeapOk c0 (heapInit c0) :=
  ⟨rfl, Nat.le_refl 1, nofun⟩

theorem nextParse_of_ok {c0 : Nat} {h : SharedHeap} (hk : HeapOk c0 h) : nextParseRenders true h = some c0 := by
  simp only [nextParseRenders, heapStep, if_true, hk.const]
  simp [hget]

/-- after any history of parses and edits of the nodes handed out, the next parse renders the constant -/
theorem nextParse_after (c0 : Nat) (ops : List HeapOp) : nextParseRenders true (heapRun true (heapInit c0) ops) = some c0 :=
  nextParse_of_ok (heapRun_ok (heapInit_ok c0) ops)

theorem setAll_eq (as : Assigns) (st : State) (f : String) :
    setAll as st f = match lastVal as f with
      | some w => some w
      | none => st f := by
  induction as generalizing st with
  | nil => rfl
  | cons p rest ih =>
    obtain ⟨g, v⟩ := p
    simp only [setAll, lastVal]
    rw [ih]
    cases lastVal rest f with
    | some w => rfl
    | none => simp only [update]; split <;> simp_all

/-- a block read for one field is a lookup from the back: the last assignment wins -/
theorem lastVal_eq_find? (as : Assigns) (f : String) : lastVal as f = (as.reverse.find? (·.1 == f)).map (·.2) :=
  lastMatch_eq_find? (·.1 == f) (·.2) (get := (lastVal · f)) rfl (fun ⟨g, v⟩ l => by
    simp only [lastVal, beq_iff_eq, @eq_comm _ g]; cases lastVal l f <;> rfl) as

theorem lastVal_eq_none {as : Assigns} {f : String} : lastVal as f = none ↔ f ∉ as.map (·.1) := by
  rw [lastVal_eq_find?, find?_fst_eq_none, map_reverse, mem_reverse]

theorem lastVal_mem {as : Assigns} {f w : String} (h : lastVal as f = some w) : (f, w) ∈ as :=
  mem_reverse.1 (mem_of_find?_fst (lastVal_eq_find? as f ▸ h))

theorem setAll_reset_assigned {init reset : Assigns} (h : resetRepeatsInit init reset = true) {f w : String}
    (hl : lastVal reset f = some w) (dirty : State) : setAll reset dirty f = fresh init f := by
  have := (List.all_eq_true.mp h) _ (lastVal_mem hl)
  rw [setAll_eq, hl, fresh, setAll_eq, beq_iff_eq.1 this]

theorem mem_of_writesCovered {reset : Assigns} {written exempt : List String}
    (h : writesCovered reset written exempt = true) {f : String} (hw : f ∈ written) :
    f ∈ reset.map (·.1) ∨ f ∈ exempt := by
  simpa only [Bool.or_eq_true, List.contains_iff_mem] using (List.all_eq_true.mp h) _ hw

/-- both blocks are dicts with distinct keys holding the same entries -/
theorem lastVal_perm {as as' : Assigns} (hn : (as.map (·.1)).Nodup) (h : as.Perm as') (f : String) :
    lastVal as f = lastVal as' f := by
  rw [lastVal_eq_find?, lastVal_eq_find?]
  exact find?_fst_perm f (((reverse_perm as).map _).nodup_iff.2 hn) ((reverse_perm as).trans (h.trans (reverse_perm as').symm))

theorem setAll_perm {as as' : Assigns} (hn : (as.map (·.1)).Nodup) (h : as.Perm as') (st : State) :
    setAll as st = setAll as' st := by
  funext f
  rw [setAll_eq, setAll_eq, lastVal_perm hn h]

theorem runGuarded_finally_restores (f forced : String) (body : State → State × Exit) (st : State) :
    (runGuarded .finallyBlock f forced body st).1 f = st f := by
  unfold runGuarded
  simp only
  split
  · simp
  · next h => cases h  -- the `.afterTry` arm
  · simp

theorem runGuarded_other_fields (place : RestorePlace) (f forced : String) (body : State → State × Exit) (st : State)
    (g : String) (hg : g ≠ f) : (runGuarded place f forced body st).1 g = (body (update st f forced)).1 g := by
  unfold runGuarded
  simp only
  split <;> simp [hg]

theorem runGuarded_exit (place : RestorePlace) (f forced : String) (body : State → State × Exit) (st : State) :
    (runGuarded place f forced body st).2 = if (body (update st f forced)).2 = .otherException then .otherException else .normal := by
  unfold runGuarded
  cases place <;> cases h : (body (update st f forced)).2 <;> simp [h]

end SqlglotModel.Determinism
