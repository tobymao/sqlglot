/- Facts about lists for C20 that mention neither the matching engine nor trees: lists of pairs (`fsts`, `snds`, `lookup`),
   `Aligned`, and `_lcs` is a longest common subsequence (the table of diff.py read over suffixes, `table_induction`). -/
import SqlglotModel.Model.Diff
import SqlglotModel.Proofs.List

namespace SqlglotModel.Diff
open scoped List

def fsts (l : List (Id × Id)) : List Id := l.map (·.1)
def snds (l : List (Id × Id)) : List Id := l.map (·.2)

@[simp] theorem fsts_append (a b : List (Id × Id)) : fsts (a ++ b) = fsts a ++ fsts b := by simp [fsts]
@[simp] theorem snds_append (a b : List (Id × Id)) : snds (a ++ b) = snds a ++ snds b := by simp [snds]
@[simp] theorem fsts_nil : fsts [] = [] := rfl
@[simp] theorem snds_nil : snds [] = [] := rfl
@[simp] theorem fsts_single (p : Id × Id) : fsts [p] = [p.1] := rfl
@[simp] theorem snds_single (p : Id × Id) : snds [p] = [p.2] := rfl

theorem erase_append_perm {l : List Id} {a : Id} (h : a ∈ l) (r : List Id) : l.erase a ++ (r ++ [a]) ~ l ++ r := by
  rw [← List.append_assoc]
  exact (List.perm_append_singleton a _).trans ((List.perm_cons_erase h).symm.append_right r)

theorem lookup_mem {m : List (Id × Id)} {k v : Id} (h : lookup m k = some v) : (k, v) ∈ m :=
  mem_of_find?_fst h

theorem exists_lookup {m : List (Id × Id)} {k v : Id} (h : (k, v) ∈ m) : ∃ v', lookup m k = some v' :=
  Option.ne_none_iff_exists'.mp fun hn => find?_fst_eq_none.mp hn (List.mem_map_of_mem h)

theorem lookup_of_mem {m : List (Id × Id)} (hN : (fsts m).Nodup) {k v : Id} (h : (k, v) ∈ m) : lookup m k = some v :=
  find?_fst_of_mem hN h

theorem lookup_twin {φ : Id → Id} {m : List (Id × Id)} (hm : ∀ p ∈ m, p.2 = φ p.1) {k : Id} (hk : (k, φ k) ∈ m) :
    lookup m k = some (φ k) := by
  obtain ⟨v', h⟩ := exists_lookup hk
  rw [h]; exact congrArg some (hm _ (lookup_mem h))

/-- two lists of the same length related elementwise by `eq` -/
inductive Aligned (eq : Id → Id → Bool) : List Id → List Id → Prop
  | nil : Aligned eq [] []
  | cons {a b l l'} : eq a b = true → Aligned eq l l' → Aligned eq (a :: l) (b :: l')

theorem Aligned.length_eq {eq l l'} (h : Aligned eq l l') : l.length = l'.length := by
  induction h with
  | nil => rfl
  | cons _ _ ih => simp [ih]

theorem Aligned.append {eq a a' b b'} (h1 : Aligned eq a a') (h2 : Aligned eq b b') : Aligned eq (a ++ b) (a' ++ b') := by
  induction h1 with
  | nil => simpa using h2
  | cons h _ ih => exact Aligned.cons h ih

theorem Aligned.reverse {eq l l'} (h : Aligned eq l l') : Aligned eq l.reverse l'.reverse := by
  induction h with
  | nil => exact Aligned.nil
  | cons h _ ih =>
    simp only [List.reverse_cons]
    exact ih.append (Aligned.cons h Aligned.nil)

theorem Aligned.exists_right {eq l l'} (h : Aligned eq l l') {a : Id} (ha : a ∈ l) : ∃ b ∈ l', eq a b = true := by
  induction h with
  | nil => simp at ha
  | cons hab _ ih =>
    simp only [List.mem_cons] at ha
    rcases ha with rfl | ha
    · exact ⟨_, by simp, hab⟩
    · obtain ⟨b, hb, he⟩ := ih ha
      exact ⟨b, by simp [hb], he⟩

theorem Aligned.imp_mem {eq eq' : Id → Id → Bool} {l l'} (h : Aligned eq l l')
    (himp : ∀ a b, a ∈ l → b ∈ l' → eq a b = true → eq' a b = true) : Aligned eq' l l' := by
  induction h with
  | nil => exact Aligned.nil
  | cons hab _ ih =>
    refine Aligned.cons (himp _ _ (by simp) (by simp) hab) (ih ?_)
    intro a b ha hb he
    exact himp a b (by simp [ha]) (by simp [hb]) he

theorem lcsRows_tail (eq : Id → Id → Bool) (xs : List Id) (y : Id) (ys : List Id) :
    (lcsRows eq xs (y :: ys)).tail = lcsRows eq xs ys := by
  induction xs with
  | nil => simp [lcsRows, List.replicate_succ]
  | cons x xs ih => simp only [lcsRows, lcsStep, List.tail_cons, ih]

theorem lcsS_nil_left (eq : Id → Id → Bool) (ys : List Id) : lcsS eq [] ys = [] := by
  simp [lcsS, lcsRows, List.replicate_succ]

theorem lcsS_nil_right (eq : Id → Id → Bool) (xs : List Id) : lcsS eq xs [] = [] := by
  cases xs with
  | nil => exact lcsS_nil_left eq []
  | cons x xs => simp [lcsS, lcsRows, lcsStep]

/-- the recurrence of diff.py's table, on suffixes -/
theorem lcsS_cons (eq : Id → Id → Bool) (x : Id) (xs : List Id) (y : Id) (ys : List Id) :
    lcsS eq (x :: xs) (y :: ys) =
      if eq x y then x :: lcsS eq xs ys
      else if (lcsS eq xs (y :: ys)).length > (lcsS eq (x :: xs) ys).length then lcsS eq xs (y :: ys)
      else lcsS eq (x :: xs) ys := by
  simp only [lcsS, lcsRows, lcsStep, List.headD_cons, lcsRows_tail]
  rfl

theorem table_induction {motive : List Id → List Id → Prop} (nil_left : ∀ ys, motive [] ys)
    (nil_right : ∀ xs, motive xs [])
    (cons : ∀ x xs y ys, motive xs ys → motive xs (y :: ys) → motive (x :: xs) ys → motive (x :: xs) (y :: ys)) :
    ∀ xs ys, motive xs ys := by
  intro xs
  induction xs with
  | nil => exact nil_left
  | cons x xs ihx =>
    intro ys
    induction ys with
    | nil => exact nil_right _
    | cons y ys ihy => exact cons x xs y ys (ihx ys) (ihx (y :: ys)) ihy

theorem lcsS_common (eq : Id → Id → Bool) (xs ys : List Id) :
    lcsS eq xs ys <+ xs ∧ ∃ ys', ys' <+ ys ∧ Aligned eq (lcsS eq xs ys) ys' := by
  induction xs, ys using table_induction with
  | nil_left ys => rw [lcsS_nil_left]; exact ⟨.refl _, [], List.nil_sublist _, .nil⟩
  | nil_right xs => rw [lcsS_nil_right]; exact ⟨List.nil_sublist _, [], .refl _, .nil⟩
  | cons x xs y ys diag up left =>
    rw [lcsS_cons]
    split
    · rename_i h
      obtain ⟨h1, ys', h2, h3⟩ := diag
      exact ⟨h1.cons_cons x, y :: ys', h2.cons_cons y, .cons h h3⟩
    · split
      · obtain ⟨h1, ys', h2, h3⟩ := up
        exact ⟨h1.cons x, ys', h2, h3⟩
      · obtain ⟨h1, ys', h2, h3⟩ := left
        exact ⟨h1, ys', h2.cons y, h3⟩

theorem lcsS_maximal (eq : Id → Id → Bool) (xs ys : List Id) :
    ∀ l l', l <+ xs → l' <+ ys → Aligned eq l l' → l.length ≤ (lcsS eq xs ys).length := by
  induction xs, ys using table_induction with
  | nil_left ys => intro l l' h1 _ _; simp [List.sublist_nil.mp h1]
  | nil_right xs => intro l l' _ h2 h3; cases List.sublist_nil.mp h2; cases h3; simp
  | cons x xs y ys diag up left =>
    intro l l' h1 h2 h3
    rw [lcsS_cons]
    split
    · -- equal heads: drop the heads of `l` and `l'`, wherever they sit
      cases h3 with
      | nil => simp
      | cons _ h3 => exact Nat.succ_le_succ (diag _ _ h1.tail h2.tail h3)
    · rename_i hne
      -- unequal heads: `l` avoids `x`, or `l'` avoids `y`
      have : l.length ≤ (lcsS eq xs (y :: ys)).length ∨ l.length ≤ (lcsS eq (x :: xs) ys).length := by
        cases h1 with
        | cons _ h1 => exact .inl (up l l' h1 h2 h3)
        | cons_cons _ h1 =>
          cases h2 with
          | cons _ h2 => exact .inr (left _ l' (h1.cons_cons x) h2 h3)
          | cons_cons _ _ => cases h3 with | cons hab _ => exact absurd hab hne
      split <;> omega

theorem lcs_is_common_subseq (eq : Id → Id → Bool) (as bs : List Id) :
    lcs eq as bs <+ as ∧ ∃ bs', bs' <+ bs ∧ Aligned eq (lcs eq as bs) bs' := by
  obtain ⟨h1, ys', h2, h3⟩ := lcsS_common eq as.reverse bs.reverse
  refine ⟨by simpa [lcs] using h1.reverse, ys'.reverse, by simpa using h2.reverse, by simpa [lcs] using h3.reverse⟩

theorem lcs_maximal (eq : Id → Id → Bool) (as bs : List Id) (l l' : List Id)
    (h1 : l <+ as) (h2 : l' <+ bs) (h3 : Aligned eq l l') : l.length ≤ (lcs eq as bs).length := by
  have := lcsS_maximal eq as.reverse bs.reverse l.reverse l'.reverse h1.reverse h2.reverse h3.reverse
  simpa [lcs] using this

end SqlglotModel.Diff
