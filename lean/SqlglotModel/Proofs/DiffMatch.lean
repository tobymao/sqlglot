/- The matching engine over arbitrary oracles (layer A of the model).  Both loops move the state by steps of one relation
   (`Matches`) and the whole matching is one run of it (`matchAll_matches`): conservation and the provenance of the pairs are
   facts about that relation.  The heap loop takes, each time, the first candidate whose two nodes are unmatched
   (`greedy_best`).  A tree against its copy: on twin pools that candidate is a twin pair (`best_twin`, the tie-break), so the
   run pairs twins only (`matchAll_twins`).  Last, the edit script of a given matching, which uses nothing of the above: what
   it counts (`countP_script`) and when its delta is empty (`delta_eq_nil_iff`); `delta_twins` joins the two. -/
import SqlglotModel.Proofs.DiffList

namespace SqlglotModel.Diff
open scoped List

/-- `st'` arises from `st` by matching pairs `(s, t)`, one at a time: `s` and `t` leave the unmatched sets, the pair is
    appended.  Whether a step is admissible (`ok`) may depend on the unmatched sets it starts from.  Both loops of
    `_compute_matching_set` move the state this way. -/
inductive Matches (ok : List Id → List Id → Id → Id → Prop) : MState → MState → Prop
  | refl (st) : Matches ok st st
  | step {st st' s t} : s ∈ st.us → t ∈ st.ut → ok st.us st.ut s t →
      Matches ok ⟨st.us.erase s, st.ut.erase t, st.acc ++ [(s, t)]⟩ st' → Matches ok st st'

theorem Matches.perm {ok st st'} (h : Matches ok st st') :
    st'.us ++ fsts st'.acc ~ st.us ++ fsts st.acc ∧ st'.ut ++ snds st'.acc ~ st.ut ++ snds st.acc := by
  induction h with
  | refl => exact ⟨.rfl, .rfl⟩
  | step hs ht _ _ ih =>
    exact ⟨ih.1.trans (by simpa using erase_append_perm hs _), ih.2.trans (by simpa using erase_append_perm ht _)⟩

/-- stated for a condition that does not look at the pools: every use first weakens the run's condition to such a one
    (`Matches.imp`, `Matches.twins`) -/
theorem Matches.mem_acc {ok : Id → Id → Prop} {st st'} (h : Matches (fun _ _ => ok) st st') {p : Id × Id} :
    p ∈ st'.acc → p ∈ st.acc ∨ ok p.1 p.2 := by
  induction h with
  | refl => exact Or.inl
  | step _ _ hok _ ih =>
    intro hp
    rcases ih hp with h | h
    · rcases List.mem_append.mp h with h | h
      · exact Or.inl h
      · exact Or.inr (by rw [List.mem_singleton.mp h]; exact hok)
    · exact Or.inr h

theorem Matches.trans {ok a b c} (h₁ : Matches ok a b) (h₂ : Matches ok b c) : Matches ok a c := by
  induction h₁ with
  | refl => exact h₂
  | step hs ht hok _ ih => exact .step hs ht hok (ih h₂)

theorem Matches.imp {ok ok' : List Id → List Id → Id → Id → Prop} (himp : ∀ us ut s t, ok us ut s t → ok' us ut s t) {a b}
    (h : Matches ok a b) : Matches ok' a b := by
  induction h with
  | refl => exact .refl _
  | step hs ht hok _ ih => exact .step hs ht (himp _ _ _ _ hok) ih

theorem Matches.frame {ok st st'} (h : Matches ok st st') (b : List (Id × Id)) :
    Matches ok ⟨st.us, st.ut, b ++ st.acc⟩ ⟨st'.us, st'.ut, b ++ st'.acc⟩ := by
  induction h with
  | refl => exact .refl _
  | step hs ht hok _ ih => exact .step hs ht hok (by rw [List.append_assoc]; exact ih)

/-- the shape of `matchAll`: the second pass starts with no pairs -/
theorem Matches.andThen {ok st l r} (h₁ : Matches ok st l) (h₂ : Matches ok ⟨l.us, l.ut, []⟩ r) :
    Matches ok st ⟨r.us, r.ut, l.acc ++ r.acc⟩ :=
  h₁.trans (by simpa using h₂.frame l.acc)

/-- a run from twin pools (`ut` the twins of `us`, in the same order) whose steps can, on twin pools, only pair twins: it
    pairs twins only and ends on twin pools -/
theorem Matches.twins {φ : Id → Id} (inj : ∀ a b, φ a = φ b → a = b) {ok : List Id → List Id → Id → Id → Prop}
    (htw : ∀ {us s t}, s ∈ us → t ∈ us.map φ → ok us (us.map φ) s t → t = φ s) {st st'}
    (h : Matches ok st st') (h0 : st.ut = st.us.map φ) :
    Matches (fun _ _ s t => t = φ s) st st' ∧ st'.ut = st'.us.map φ := by
  induction h with
  | refl => exact ⟨.refl _, h0⟩
  | step hs ht hok _ ih =>
    have e := htw hs (h0 ▸ ht) (h0 ▸ hok)
    have := ih (by rw [e, h0, erase_map_inj φ inj])
    exact ⟨.step hs ht e this.1, this.2⟩

theorem greedy_matches {ok : Id → Id → Prop} (L : List Cand) (st : MState) (hL : ∀ c ∈ L, ok c.s c.t) :
    Matches (fun _ _ => ok) st (greedy L st) := by
  induction L generalizing st with
  | nil => exact .refl st
  | cons c rest ih =>
    have ih := fun st => ih st fun c' hc' => hL c' (List.mem_cons_of_mem _ hc')
    simp only [greedy]
    split
    · rename_i h
      simp only [Bool.and_eq_true, List.contains_iff_mem] at h
      exact .step h.1 h.2 (hL c List.mem_cons_self) (ih _)
    · exact ih st

theorem innerLoop_matches (cond : Id → Id → Bool) (os : List Id) (st : MState) (hos : os <+ st.us) :
    Matches (fun _ _ s t => cond s t = true) st (innerLoop cond os st) := by
  induction os generalizing st with
  | nil => exact .refl st
  | cons s os ih =>
    simp only [innerLoop]
    split
    · rename_i t ht
      refine .step (hos.subset List.mem_cons_self) (List.mem_of_find?_eq_some ht) (List.find?_some ht) (ih _ ?_)
      simpa using hos.erase s
    · exact ih st ((List.sublist_cons_self s os).trans hos)

theorem enumFrom_mem (E : Env) (n : Nat) (l : List (Id × Id)) :
    ∀ c ∈ enumFrom E n l, (c.s, c.t) ∈ l ∧ c.score = E.dice c.s c.t ∧ c.psim = E.psim c.s c.t ∧ n ≤ c.idx := by
  induction l generalizing n with
  | nil => intro c hc; simp [enumFrom] at hc
  | cons p rest ih =>
    obtain ⟨s, t⟩ := p
    intro c hc
    simp only [enumFrom, List.mem_cons] at hc
    rcases hc with rfl | hc
    · simp
    · obtain ⟨h1, h2, h3, h4⟩ := ih (n + 1) c hc
      exact ⟨by simp [h1], h2, h3, by omega⟩

/-- the candidates pushed for one source leaf, in push order -/
def row (E : Env) (s : Id) : List (Id × Id) :=
  (E.tgtLeaves.filter fun t => E.sameType s t && decide (E.f ≤ E.dice s t)).map fun t => (s, t)

theorem rawCands_eq (E : Env) : rawCands E = E.srcLeaves.flatMap (row E) := rfl

theorem mem_row {E : Env} {s : Id} {p : Id × Id} : p ∈ row E s ↔
    p.1 = s ∧ p.2 ∈ E.tgtLeaves ∧ E.sameType s p.2 = true ∧ E.f ≤ E.dice s p.2 := by
  obtain ⟨a, b⟩ := p
  simp only [row, List.mem_map, List.mem_filter, Bool.and_eq_true, decide_eq_true_eq, Prod.mk.injEq]
  constructor
  · rintro ⟨t, ⟨ht, h1, h2⟩, rfl, rfl⟩; exact ⟨rfl, ht, h1, h2⟩
  · rintro ⟨rfl, ht, h1, h2⟩; exact ⟨b, ⟨ht, h1, h2⟩, rfl, rfl⟩

theorem mem_rawCands {E : Env} {p : Id × Id} (h : p ∈ rawCands E) :
    p.1 ∈ E.srcLeaves ∧ p.2 ∈ E.tgtLeaves ∧ E.sameType p.1 p.2 = true ∧ E.f ≤ E.dice p.1 p.2 := by
  obtain ⟨s, hs, hp⟩ := List.mem_flatMap.mp (rawCands_eq E ▸ h)
  obtain ⟨rfl, h'⟩ := mem_row.mp hp
  exact ⟨hs, h'⟩

theorem mem_insertCand (c x : Cand) (l : List Cand) : x ∈ insertCand c l ↔ x = c ∨ x ∈ l := by
  induction l with
  | nil => simp [insertCand]
  | cons d ds ih =>
    simp only [insertCand]
    split
    · simp
    · simp only [List.mem_cons, ih]; exact or_left_comm

@[simp] theorem mem_sortCands (x : Cand) (l : List Cand) : x ∈ sortCands l ↔ x ∈ l := by
  induction l with
  | nil => simp [sortCands]
  | cons c l ih =>
    have : sortCands (c :: l) = insertCand c (sortCands l) := rfl
    rw [this, mem_insertCand, ih]; simp

theorem mem_cands {E : Env} {c : Cand} (h : c ∈ cands E) :
    (c.s, c.t) ∈ rawCands E ∧ c.score = E.dice c.s c.t ∧ c.psim = E.psim c.s c.t :=
  have ⟨h1, h2, h3, _⟩ := enumFrom_mem E 0 _ c h
  ⟨h1, h2, h3⟩

theorem leafPass_matches (E : Env) (pre : List (Id × Id)) :
    Matches (fun _ _ s t => (s, t) ∈ rawCands E) ⟨unmatched0 E.srcIndex (fsts pre), unmatched0 E.tgtIndex (snds pre), []⟩
      (leafPass E pre) :=
  greedy_matches _ _ fun c hc => (mem_cands ((mem_sortCands c _).mp hc)).1

theorem matchAll_all (E : Env) (pre : List (Id × Id)) : (matchAll E pre).all = (matchAll E pre).computed ++ pre := rfl

theorem matchAll_matches (E : Env) (pre : List (Id × Id)) :
    Matches (fun _ _ s t => E.sameType s t = true)
      ⟨unmatched0 E.srcIndex (fsts pre), unmatched0 E.tgtIndex (snds pre), []⟩
      ⟨(matchAll E pre).unmatchedS, (matchAll E pre).unmatchedT, (matchAll E pre).computed⟩ :=
  ((leafPass_matches E pre).imp fun _ _ _ _ h => (mem_rawCands h).2.2.1).andThen
    ((innerLoop_matches (innerCond E _) _ _ (.refl _)).imp fun _ _ _ _ h => (Bool.and_eq_true_iff.mp h).1)

theorem matchAll_perm (E : Env) (pre : List (Id × Id)) :
    (matchAll E pre).unmatchedS ++ fsts (matchAll E pre).computed ~ unmatched0 E.srcIndex (fsts pre) ∧
    (matchAll E pre).unmatchedT ++ snds (matchAll E pre).computed ~ unmatched0 E.tgtIndex (snds pre) := by
  simpa using (matchAll_matches E pre).perm

theorem unmatched0_perm {idx pre : List Id} (hN : idx.Nodup) (hpN : pre.Nodup) (hsub : ∀ x ∈ pre, x ∈ idx) :
    unmatched0 idx pre ++ pre ~ idx := by
  refine (List.perm_ext_iff_of_nodup (List.nodup_append.mpr ⟨hN.filter _, hpN, ?_⟩) hN).mpr fun a => ?_
  · intro a ha b hb hab
    simp [hab, hb] at ha
  · by_cases h : a ∈ pre <;> simp [h]
    exact hsub a h

theorem unmatched0_sub (idx pre : List Id) : ∀ x ∈ unmatched0 idx pre, x ∈ idx := by
  intro x hx; exact (List.mem_filter.mp hx).1

/-- caller-supplied matchings the theorems accept: injective, inside the two indexes -/
structure PreOk (E : Env) (pre : List (Id × Id)) : Prop where
  srcNodup : (fsts pre).Nodup
  tgtNodup : (snds pre).Nodup
  srcIn : ∀ x ∈ fsts pre, x ∈ E.srcIndex
  tgtIn : ∀ x ∈ snds pre, x ∈ E.tgtIndex

theorem PreOk.nil (E : Env) : PreOk E [] := ⟨.nil, .nil, nofun, nofun⟩

theorem matchAll_perm_src (E : Env) (pre : List (Id × Id)) (hN : E.srcIndex.Nodup) (hp : PreOk E pre) :
    (matchAll E pre).unmatchedS ++ fsts (matchAll E pre).all ~ E.srcIndex := by
  rw [matchAll_all, fsts_append, ← List.append_assoc]
  exact ((matchAll_perm E pre).1.append_right _).trans (unmatched0_perm hN hp.srcNodup hp.srcIn)

theorem matchAll_perm_tgt (E : Env) (pre : List (Id × Id)) (hN : E.tgtIndex.Nodup) (hp : PreOk E pre) :
    (matchAll E pre).unmatchedT ++ snds (matchAll E pre).all ~ E.tgtIndex := by
  rw [matchAll_all, snds_append, ← List.append_assoc]
  exact ((matchAll_perm E pre).2.append_right _).trans (unmatched0_perm hN hp.tgtNodup hp.tgtIn)

theorem matchAll_fsts_nodup {E : Env} {pre : List (Id × Id)} (hN : E.srcIndex.Nodup) (hp : PreOk E pre) :
    (fsts (matchAll E pre).all).Nodup :=
  (List.nodup_append.mp ((matchAll_perm_src E pre hN hp).nodup_iff.mpr hN)).2.1

theorem matchAll_snds_nodup {E : Env} {pre : List (Id × Id)} (hN : E.tgtIndex.Nodup) (hp : PreOk E pre) :
    (snds (matchAll E pre).all).Nodup :=
  (List.nodup_append.mp ((matchAll_perm_tgt E pre hN hp).nodup_iff.mpr hN)).2.1

theorem matchAll_fst_mem {E : Env} {pre : List (Id × Id)} (hN : E.srcIndex.Nodup) (hp : PreOk E pre) {p : Id × Id}
    (h : p ∈ (matchAll E pre).all) : p.1 ∈ E.srcIndex :=
  (matchAll_perm_src E pre hN hp).mem_iff.mp (List.mem_append_right _ (List.mem_map_of_mem h))

theorem matchAll_snd_mem {E : Env} {pre : List (Id × Id)} (hN : E.tgtIndex.Nodup) (hp : PreOk E pre) {p : Id × Id}
    (h : p ∈ (matchAll E pre).all) : p.2 ∈ E.tgtIndex :=
  (matchAll_perm_tgt E pre hN hp).mem_iff.mp (List.mem_append_right _ (List.mem_map_of_mem h))

theorem matchAll_computed_sameType (E : Env) (pre : List (Id × Id)) :
    ∀ p ∈ (matchAll E pre).computed, E.sameType p.1 p.2 = true :=
  fun _ hp => ((matchAll_matches E pre).mem_acc hp).resolve_left List.not_mem_nil

theorem matchAll_all_sameType {E : Env} {pre : List (Id × Id)} (hpre : ∀ p ∈ pre, E.sameType p.1 p.2 = true) :
    ∀ p ∈ (matchAll E pre).all, E.sameType p.1 p.2 = true :=
  matchAll_all E pre ▸ List.forall_mem_append.mpr ⟨matchAll_computed_sameType E pre, hpre⟩

theorem before_iff (a b : Cand) : a.before b = true ↔
    b.score < a.score ∨ a.score = b.score ∧ (b.psim < a.psim ∨ a.psim = b.psim ∧ a.idx ≤ b.idx) := by
  simp only [Cand.before, Bool.or_eq_true, Bool.and_eq_true, decide_eq_true_eq, beq_iff_eq]

theorem before_trans {a b c : Cand} (h1 : a.before b = true) (h2 : b.before c = true) : a.before c = true := by
  rw [before_iff] at *; omega

theorem before_of_not_before {a b : Cand} (h : ¬a.before b = true) : b.before a = true := by
  rw [before_iff] at *; omega

theorem idx_le_of_before {a b : Cand} (h : a.before b = true) (hs : a.score ≤ b.score) (hp : a.psim ≤ b.psim) :
    a.idx ≤ b.idx := by
  rw [before_iff] at h; omega

theorem pairwise_insertCand (c : Cand) (l : List Cand) (h : l.Pairwise (fun a b => a.before b = true)) :
    (insertCand c l).Pairwise (fun a b => a.before b = true) := by
  induction l with
  | nil => simp [insertCand]
  | cons d ds ih =>
    have hp := List.pairwise_cons.mp h
    simp only [insertCand]
    split
    · rename_i hcd
      refine List.pairwise_cons.mpr ⟨fun x hx => ?_, h⟩
      rcases List.mem_cons.mp hx with rfl | hx
      · exact hcd
      · exact before_trans hcd (hp.1 x hx)
    · rename_i hcd
      refine List.pairwise_cons.mpr ⟨fun x hx => ?_, ih hp.2⟩
      rcases (mem_insertCand c x ds).mp hx with rfl | hx
      · exact before_of_not_before hcd
      · exact hp.1 x hx

theorem popOrder_sorted (E : Env) : (popOrder E).Pairwise (fun a b => a.before b = true) := by
  unfold popOrder
  generalize cands E = l
  induction l with
  | nil => exact .nil
  | cons c l ih => exact pairwise_insertCand c _ ih

theorem before_refl (c : Cand) : c.before c = true :=
  (before_iff c c).mpr (.inr ⟨rfl, .inr ⟨rfl, Nat.le_refl _⟩⟩)

/-- `(s, t)` is the first candidate of the queue `Q`, in heap order, whose two nodes are both still unmatched -/
def Best (Q : List Cand) (us ut : List Id) (s t : Id) : Prop :=
  ∃ c ∈ Q, c.s = s ∧ c.t = t ∧ ∀ d ∈ Q, d.s ∈ us → d.t ∈ ut → c.before d = true

/-- **the law of the `while candidate_matchings:` loop**, for any oracles: each pair it takes is the first candidate in heap
    order whose two nodes are still unmatched, and when it ends no candidate has both nodes unmatched.  `L` is what is left
    of the sorted queue, `Q` all its candidates; one popped earlier has lost a node for good (`hcov`).
    `greedy_matches` is not a corollary of this: it asks neither a sorted queue nor pools without duplicates, and
    `matched_same_type` has neither. -/
theorem greedy_best {Q L : List Cand} {st : MState} (hs : L.Pairwise (fun a b => a.before b = true))
    (hsub : ∀ c ∈ L, c ∈ Q) (hcov : ∀ d ∈ Q, d.s ∈ st.us → d.t ∈ st.ut → d ∈ L) (hnd : st.us.Nodup) :
    Matches (Best Q) st (greedy L st) ∧ ∀ d ∈ Q, d.s ∈ (greedy L st).us → d.t ∉ (greedy L st).ut := by
  induction L generalizing st with
  | nil => exact ⟨.refl st, fun d hd h1 h2 => absurd (hcov d hd h1 h2) List.not_mem_nil⟩
  | cons c rest ih =>
    have hs' := List.pairwise_cons.mp hs
    have hsub' : ∀ c' ∈ rest, c' ∈ Q := fun c' hc' => hsub c' (List.mem_cons_of_mem _ hc')
    simp only [greedy]
    split
    · rename_i hboth
      simp only [Bool.and_eq_true, List.contains_iff_mem] at hboth
      have := ih (st := ⟨st.us.erase c.s, st.ut.erase c.t, st.acc ++ [(c.s, c.t)]⟩) hs'.2 hsub'
        (fun d hd h1 h2 => by
          rcases List.mem_cons.mp (hcov d hd (List.mem_of_mem_erase h1) (List.mem_of_mem_erase h2)) with rfl | hr
          · exact absurd rfl (hnd.mem_erase_iff.mp h1).1
          · exact hr)
        (hnd.erase _)
      refine ⟨.step hboth.1 hboth.2 ⟨c, hsub c List.mem_cons_self, rfl, rfl, fun d hd h1 h2 => ?_⟩ this.1, this.2⟩
      rcases List.mem_cons.mp (hcov d hd h1 h2) with rfl | hr
      · exact before_refl _
      · exact hs'.1 d hr
    · rename_i hboth
      refine ih hs'.2 hsub' (fun d hd h1 h2 => (List.mem_cons.mp (hcov d hd h1 h2)).resolve_left ?_) hnd
      rintro rfl
      exact hboth (by simp [h1, h2])

theorem leafPass_best (E : Env) (pre : List (Id × Id)) (hN : E.srcIndex.Nodup) :
    Matches (Best (cands E)) ⟨unmatched0 E.srcIndex (fsts pre), unmatched0 E.tgtIndex (snds pre), []⟩ (leafPass E pre) ∧
      ∀ d ∈ cands E, d.s ∈ (leafPass E pre).us → d.t ∉ (leafPass E pre).ut :=
  greedy_best (popOrder_sorted E) (fun c h => (mem_sortCands c _).mp h) (fun d h _ _ => (mem_sortCands d _).mpr h)
    (hN.filter _)

theorem mem_row_of_mem_rawCands {E : Env} {p : Id × Id} (h : p ∈ rawCands E) : p ∈ row E p.1 :=
  have h := mem_rawCands h
  mem_row.mpr ⟨rfl, h.2⟩

theorem sublist_rawCands_row {E : Env} {s t₁ t₂ : Id} (ht : [t₁, t₂] <+ E.tgtLeaves) (h₁ : (s, t₁) ∈ rawCands E)
    (h₂ : (s, t₂) ∈ rawCands E) : [(s, t₁), (s, t₂)] <+ rawCands E := by
  refine .trans ?_ (by simpa [rawCands_eq] using sublist_flatMap (row E) (List.singleton_sublist.mpr (mem_rawCands h₁).1))
  have := (ht.filter fun t => E.sameType s t && decide (E.f ≤ E.dice s t)).map fun t => (s, t)
  simpa [row, List.filter_cons, (mem_rawCands h₁).2.2, (mem_rawCands h₂).2.2] using this

theorem sublist_rawCands_rows {E : Env} {s₁ s₂ t₁ t₂ : Id} (hs : [s₁, s₂] <+ E.srcLeaves) (h₁ : (s₁, t₁) ∈ rawCands E)
    (h₂ : (s₂, t₂) ∈ rawCands E) : [(s₁, t₁), (s₂, t₂)] <+ rawCands E :=
  .trans (.append (List.singleton_sublist.mpr (mem_row_of_mem_rawCands h₁))
    (List.singleton_sublist.mpr (mem_row_of_mem_rawCands h₂))) (by simpa [rawCands_eq] using sublist_flatMap (row E) hs)

theorem row_nodup (E : Env) (s : Id) (hT : E.tgtLeaves.Nodup) : (row E s).Nodup :=
  nodup_map_of_inj (fun _ _ e => congrArg Prod.snd e) (hT.filter _)

theorem rawCands_nodup (E : Env) (hS : E.srcLeaves.Nodup) (hT : E.tgtLeaves.Nodup) : (rawCands E).Nodup :=
  nodup_flatMap_map (t := fun s t => (s, t)) (hS.imp fun hne _ _ he => hne (congrArg Prod.fst he))
    fun s _ => row_nodup E s hT

theorem enumFrom_map (E : Env) (n : Nat) (l : List (Id × Id)) : (enumFrom E n l).map (fun c => (c.s, c.t)) = l := by
  induction l generalizing n with
  | nil => rfl
  | cons p rest ih => simp only [enumFrom, List.map_cons, ih]

theorem enumFrom_pairwise (E : Env) (n : Nat) (l : List (Id × Id)) :
    (enumFrom E n l).Pairwise fun c c' => c.idx < c'.idx := by
  induction l generalizing n with
  | nil => exact .nil
  | cons p rest ih => exact .cons (fun c hc => (enumFrom_mem E (n + 1) rest c hc).2.2.2) (ih (n + 1))

theorem idx_order {E : Env} (hN : (rawCands E).Nodup) {c c' : Cand} (hc : c ∈ cands E) (hc' : c' ∈ cands E)
    (h : [(c'.s, c'.t), (c.s, c.t)] <+ rawCands E) : c'.idx < c.idx := by
  rw [← enumFrom_map E 0 (rawCands E)] at h hN
  -- the two pairs were pushed as two candidates, in this order; these are `c'` and `c` since no pair is pushed twice
  obtain ⟨d', d, hl', e', e⟩ := sublist_map_pair h
  obtain rfl := inj_of_nodup_map hN (hl'.subset (by simp)) hc' e'
  obtain rfl := inj_of_nodup_map hN (hl'.subset (by simp)) hc e
  exact (List.pairwise_cons.mp ((enumFrom_pairwise E 0 _).sublist hl')).1 _ (by simp)

/-- the oracle facts that hold for a tree against its copy (`φ` maps a source node to its twin) -/
structure CopyOk (E : Env) (φ : Id → Id) : Prop where
  tgtLeaves : E.tgtLeaves = E.srcLeaves.map φ
  tgtIndex : E.tgtIndex = E.srcIndex.map φ
  inj : ∀ a b, φ a = φ b → a = b
  srcNodup : E.srcIndex.Nodup
  leavesNodup : E.srcLeaves.Nodup
  twinType : ∀ x, E.sameType x (φ x) = true
  /-- `dice x x' = 1`, the largest value there is, and `f ≤ 1` -/
  diceTop : ∀ x s t, E.dice s t ≤ E.dice x (φ x)
  fLe : ∀ x, E.f ≤ E.dice x (φ x)
  /-- a twin pair's parent chains agree all the way up: no other pair has a larger parent similarity -/
  psimTwin : ∀ s y, E.psim s (φ y) ≤ E.psim s (φ s) ∧ E.psim s (φ y) ≤ E.psim y (φ y)
  /-- leaf similarity of twins is 1 once the leaves are matched with their twins -/
  innerTwin : ∀ lm, (∀ l ∈ E.srcLeaves, l ∈ E.srcIndex → (l, φ l) ∈ lm) → ∀ x ∈ E.srcIndex, E.innerSim lm x (φ x) = true

theorem twin_mem_cands {E : Env} {φ : Id → Id} (h : CopyOk E φ) {x : Id} (hx : x ∈ E.srcLeaves) :
    ∃ c ∈ cands E, c.s = x ∧ c.t = φ x := by
  have : (x, φ x) ∈ rawCands E := List.mem_flatMap.mpr ⟨x, hx, mem_row.mpr
    ⟨rfl, by rw [h.tgtLeaves]; exact List.mem_map_of_mem hx, h.twinType x, h.fLe x⟩⟩
  rw [← enumFrom_map E 0 (rawCands E)] at this
  obtain ⟨c, hc, he⟩ := List.mem_map.mp this
  exact ⟨c, hc, congrArg Prod.fst he, congrArg Prod.snd he⟩

/-- **the tie-break argument**: on twin pools the first available candidate pairs twins.  Were it `(s, φ y)` with `y ≠ s`,
    the twin candidates of `s` and of `y` would both be available; it beats neither on score or parent similarity, and one
    of them was pushed earlier: that of `s` in the same row if `s` comes before `y` among the leaves, else that of `y` in an
    earlier row. -/
theorem best_twin {E : Env} {φ : Id → Id} (h : CopyOk E φ) {us : List Id} {s t : Id} (hs : s ∈ us) (ht : t ∈ us.map φ)
    (hb : Best (cands E) us (us.map φ) s t) : t = φ s := by
  obtain ⟨c, hc, rfl, rfl, hmin⟩ := hb
  obtain ⟨hr, hsc, hps⟩ := mem_cands hc
  obtain ⟨y, hyu, hyt⟩ := List.mem_map.mp ht
  refine Decidable.byContradiction fun hn => ?_
  have hys : c.s ≠ y := fun e => hn (e ▸ hyt.symm)
  have hy : y ∈ E.srcLeaves := (mem_map_inj h.inj).mp (h.tgtLeaves ▸ hyt ▸ (mem_rawCands hr).2.1)
  obtain ⟨c1, hc1, h1s, h1t⟩ := twin_mem_cands h (mem_rawCands hr).1
  obtain ⟨c2, hc2, h2s, h2t⟩ := twin_mem_cands h hy
  obtain ⟨hr1, hsc1, hps1⟩ := mem_cands hc1
  obtain ⟨hr2, hsc2, hps2⟩ := mem_cands hc2
  have hp := h.psimTwin c.s y
  rw [h1s, h1t] at hsc1 hps1 hr1
  rw [h2s, h2t] at hsc2 hps2 hr2
  rw [← hyt] at hsc hps hr
  have i1 : c.idx ≤ c1.idx :=
    idx_le_of_before (hmin c1 hc1 (h1s ▸ hs) (h1t ▸ List.mem_map_of_mem hs)) (by rw [hsc, hsc1]; exact h.diceTop _ _ _)
      (by rw [hps, hps1]; exact hp.1)
  have i2 : c.idx ≤ c2.idx :=
    idx_le_of_before (hmin c2 hc2 (h2s ▸ hyu) (h2t ▸ List.mem_map_of_mem hyu)) (by rw [hsc, hsc2]; exact h.diceTop _ _ _)
      (by rw [hps, hps2]; exact hp.2)
  have hN := rawCands_nodup E h.leavesNodup (h.tgtLeaves ▸ nodup_map_of_inj h.inj h.leavesNodup)
  rcases two_mem_order (mem_rawCands hr).1 hy hys with ho | ho
  · have := idx_order hN hc hc1 (by
      rw [h1s, h1t, ← hyt]; exact sublist_rawCands_row (h.tgtLeaves ▸ ho.map φ) hr1 hr)
    omega
  · have := idx_order hN hc hc2 (by rw [h2s, h2t, ← hyt]; exact sublist_rawCands_rows ho hr2 hr)
    omega

/-- the inner pass on a copy: with the unmatched targets the twins of the unmatched sources IN THE SAME ORDER, the first
    qualifying target of every source is its twin, and nothing is left on either side -/
theorem innerLoop_copy (cond : Id → Id → Bool) (φ : Id → Id) (os : List Id) (st : MState)
    (hus : st.us = os) (hut : st.ut = os.map φ) (hcond : ∀ s ∈ os, cond s (φ s) = true) :
    Matches (fun _ _ s t => t = φ s) st (innerLoop cond os st) ∧ (innerLoop cond os st).us = [] ∧
      (innerLoop cond os st).ut = [] := by
  induction os generalizing st with
  | nil => exact ⟨.refl st, hus, hut⟩
  | cons s os ih =>
    have hfind : st.ut.find? (cond s) = some (φ s) := by
      rw [hut]; simp [hcond s (by simp)]
    simp only [innerLoop, hfind]
    have := ih ⟨st.us.erase s, st.ut.erase (φ s), st.acc ++ [(s, φ s)]⟩ (by simp [hus]) (by simp [hut])
      fun x hx => hcond x (by simp [hx])
    exact ⟨.step (by simp [hus]) (by simp [hut]) rfl this.1, this.2⟩

theorem mem_of_twins {φ : Id → Id} {m : List (Id × Id)} (hm : ∀ p ∈ m, p.2 = φ p.1) {x : Id} (hx : x ∈ fsts m) :
    (x, φ x) ∈ m := by
  obtain ⟨⟨a, b⟩, hp, rfl⟩ := List.mem_map.mp hx
  exact hm _ hp ▸ hp

theorem unmatched0_map {φ : Id → Id} (inj : ∀ a b, φ a = φ b → a = b) (idx pre : List Id) :
    unmatched0 (idx.map φ) (pre.map φ) = (unmatched0 idx pre).map φ := by
  rw [unmatched0, unmatched0, List.filter_map]
  congr 2
  funext x
  simp only [Function.comp_apply, List.contains_eq_mem, mem_map_inj inj]

/-- caller matchings under which a copy is still matched to its twins: they pair twins only, and pre-match a leaf only if
    pre-matched leaves count in the leaf similarity of the inner pass (`countPre`, fix 8a55b44: otherwise the ancestors of
    such a leaf fail the similarity test and stay unmatched) -/
structure TwinPre (E : Env) (φ : Id → Id) (pre : List (Id × Id)) : Prop extends PreOk E pre where
  twin : ∀ p ∈ pre, p.2 = φ p.1
  counted : E.countPre = true ∨ ∀ l ∈ E.srcLeaves, l ∉ fsts pre

theorem TwinPre.nil (E : Env) (φ : Id → Id) : TwinPre E φ [] := ⟨.nil E, nofun, .inr fun _ _ => nofun⟩

/-- **the matching of a tree against its copy is the identity**, also on top of caller matchings `TwinPre`.  The leaf pass
    only pairs twins by the tie-break argument and leaves no leaf unmatched; then every twin passes the inner test at its
    turn. -/
theorem matchAll_twins {E : Env} {φ : Id → Id} (h : CopyOk E φ) {pre : List (Id × Id)} (hp : TwinPre E φ pre) :
    (matchAll E pre).unmatchedS = [] ∧ (matchAll E pre).unmatchedT = [] ∧
      (∀ p ∈ (matchAll E pre).all, p.2 = φ p.1) ∧ (∀ x ∈ E.srcIndex, (x, φ x) ∈ (matchAll E pre).all) := by
  have h0 : unmatched0 E.tgtIndex (snds pre) = (unmatched0 E.srcIndex (fsts pre)).map φ := by
    have : snds pre = (fsts pre).map φ := by
      simp only [snds, fsts, List.map_map]
      exact List.map_congr_left hp.twin
    rw [h.tgtIndex, this, unmatched0_map h.inj]
  -- the leaf pass takes the first available candidate each time: on twin pools a twin pair, which leaves twin pools
  obtain ⟨rb, hend⟩ := leafPass_best E pre h.srcNodup
  obtain ⟨rl, hpool⟩ := rb.twins h.inj (best_twin h) h0
  -- a leaf left over would still have its twin, and their candidate, available
  have nl : ∀ x ∈ E.srcLeaves, x ∉ (leafPass E pre).us := fun x hx hu => by
    obtain ⟨c, hc, hcs, hct⟩ := twin_mem_cands h hx
    exact hend c hc (hcs ▸ hu) (by rw [hct, hpool]; exact List.mem_map_of_mem hu)
  have hus : ∀ x, x ∈ (leafPass E pre).us ++ fsts (leafPass E pre).acc ↔ x ∈ unmatched0 E.srcIndex (fsts pre) :=
    fun x => by simpa using rl.perm.1.mem_iff (a := x)
  have hlacc : ∀ p ∈ (leafPass E pre).acc, p.2 = φ p.1 := fun p hp => (rl.mem_acc hp).resolve_left List.not_mem_nil
  -- every leaf is paired with its twin, by the caller or by the leaf pass
  have hleaves : ∀ l ∈ E.srcLeaves, l ∈ E.srcIndex → (l, φ l) ∈ innerLm E pre (leafPass E pre).acc := by
    intro l hl hli
    unfold innerLm
    by_cases hlp : l ∈ fsts pre
    · rw [if_pos (hp.counted.resolve_right fun hn => hn l hl hlp)]
      exact List.mem_append_right _ (mem_of_twins hp.twin hlp)
    · have : (l, φ l) ∈ (leafPass E pre).acc :=
        mem_of_twins hlacc ((List.mem_append.mp ((hus l).mpr (List.mem_filter.mpr ⟨hli, by simpa using hlp⟩))).resolve_left
          (nl l hl))
      split
      · exact List.mem_append_left _ this
      · exact this
  obtain ⟨ri, ni, nt⟩ := innerLoop_copy (innerCond E (innerLm E pre (leafPass E pre).acc)) φ (leafPass E pre).us
    ⟨(leafPass E pre).us, (leafPass E pre).ut, []⟩ rfl hpool fun s hs =>
      Bool.and_eq_true_iff.mpr ⟨h.twinType s, h.innerTwin _ hleaves s
        (unmatched0_sub _ _ s ((hus s).mp (List.mem_append_left _ hs)))⟩
  have run := rl.andThen ri
  have hall : ∀ p ∈ (matchAll E pre).all, p.2 = φ p.1 := matchAll_all E pre ▸ List.forall_mem_append.mpr
    ⟨fun _ hc => (run.mem_acc hc).resolve_left List.not_mem_nil, hp.twin⟩
  refine ⟨ni, nt, hall, fun x hx => mem_of_twins hall ?_⟩
  have := (matchAll_perm_src E pre h.srcNodup hp.toPreOk).mem_iff.mpr hx
  rwa [show (matchAll E pre).unmatchedS = [] from ni, List.nil_append] at this

/-- a test that rejects every Move and every KeyError rejects what `moveToEdit` yields -/
theorem moveToEdit_false {q : Edit → Bool} (hmove : ∀ a b, q (.move a b) = false)
    (hkey : ∀ a, q (.keyError a) = false) : ∀ m, q (moveToEdit m) = false
  | (a, some b) => hmove a b
  | (a, none) => hkey a

theorem moveToEdit_isKeep (m : Id × Option Id) : (moveToEdit m).isKeep = false :=
  moveToEdit_false (fun _ _ => rfl) (fun _ => rfl) m

theorem moveToEdit_ne_keep (m : Id × Option Id) (s t : Id) : moveToEdit m ≠ .keep s t := by
  obtain ⟨a, _ | b⟩ := m <;> nofun

theorem moveToEdit_ne_update (m : Id × Option Id) (s t : Id) : moveToEdit m ≠ .update s t := by
  obtain ⟨a, _ | b⟩ := m <;> nofun

/-- what a test `q` counts in the script, if it rejects Move and KeyError and does not tell Update from Keep -/
theorem countP_script (E : Env) (M : Matching) (q : Edit → Bool) (hmove : ∀ a b, q (.move a b) = false)
    (hkey : ∀ a, q (.keyError a) = false) (hk : ∀ s t, q (.update s t) = q (.keep s t)) :
    (script E M).countP q =
      M.unmatchedS.countP (q ∘ .remove) + M.unmatchedT.countP (q ∘ .insert) + M.all.countP fun p => q (.keep p.1 p.2) := by
  have hp : ∀ p, (pairEdits E M p).countP q = if q (.keep p.1 p.2) then 1 else 0 := by
    intro p
    have h0 : ((E.moves M.all M.unmatchedS p.1 p.2).map moveToEdit).countP q = 0 := by
      simp [moveToEdit_false hmove hkey]
    simp only [pairEdits, List.countP_append, h0]
    split <;> simp [hk, List.countP_cons]
  have hl : ∀ l : List (Id × Id), (l.flatMap (pairEdits E M)).countP q = l.countP fun p => q (.keep p.1 p.2) := by
    intro l
    induction l with
    | nil => rfl
    | cons p l ih => simp only [List.flatMap_cons, List.countP_append, List.countP_cons, hp, ih, Nat.add_comm]
  simp only [script, List.countP_append, List.countP_map, hl]

theorem countP_removes_script (E : Env) (M : Matching) (n : Id) :
    (script E M).countP (Edit.removes n) = M.unmatchedS.count n := by
  simp [countP_script E M (Edit.removes n) (fun _ _ => rfl) (fun _ => rfl) (fun _ _ => rfl), Function.comp_def,
    Edit.removes, List.count_eq_countP]

theorem countP_inserts_script (E : Env) (M : Matching) (n : Id) :
    (script E M).countP (Edit.inserts n) = M.unmatchedT.count n := by
  simp [countP_script E M (Edit.inserts n) (fun _ _ => rfl) (fun _ => rfl) (fun _ _ => rfl), Function.comp_def,
    Edit.inserts, List.count_eq_countP]

theorem countP_pairsSrc_script (E : Env) (M : Matching) (n : Id) :
    (script E M).countP (Edit.pairsSrc n) = (fsts M.all).count n := by
  simp [countP_script E M (Edit.pairsSrc n) (fun _ _ => rfl) (fun _ => rfl) (fun _ _ => rfl), Function.comp_def,
    Edit.pairsSrc, List.count_eq_countP, fsts, List.countP_map]

theorem countP_pairsTgt_script (E : Env) (M : Matching) (n : Id) :
    (script E M).countP (Edit.pairsTgt n) = (snds M.all).count n := by
  simp [countP_script E M (Edit.pairsTgt n) (fun _ _ => rfl) (fun _ => rfl) (fun _ _ => rfl), Function.comp_def,
    Edit.pairsTgt, List.count_eq_countP, snds, List.countP_map]

theorem update_mem_pairEdits (E : Env) (M : Matching) (s t : Id) :
    Edit.update s t ∈ pairEdits E M (s, t) ↔ E.isUpdate s t = true := by
  cases h : E.isUpdate s t <;> simp [pairEdits, h, moveToEdit_ne_update]

theorem keep_mem_pairEdits (E : Env) (M : Matching) (s t : Id) :
    Edit.keep s t ∈ pairEdits E M (s, t) ↔ E.isUpdate s t = false := by
  cases h : E.isUpdate s t <;> simp [pairEdits, h, moveToEdit_ne_keep]

theorem forall_mem_script {E : Env} {M : Matching} {P : Edit → Prop} : (∀ e ∈ script E M, P e) ↔
    (∀ s ∈ M.unmatchedS, P (.remove s)) ∧ (∀ t ∈ M.unmatchedT, P (.insert t)) ∧
      ∀ p ∈ M.all, ∀ e ∈ pairEdits E M p, P e := by
  simp only [script, List.forall_mem_append, List.forall_mem_map, List.forall_mem_flatMap, and_assoc]

theorem pairEdits_all_keep (E : Env) (M : Matching) (p : Id × Id) : (∀ e ∈ pairEdits E M p, e.isKeep = true) ↔
    E.isUpdate p.1 p.2 = false ∧ E.moves M.all M.unmatchedS p.1 p.2 = [] := by
  simp only [pairEdits, List.forall_mem_append, List.forall_mem_map, moveToEdit_isKeep,
    List.forall_mem_singleton]
  cases E.isUpdate p.1 p.2 <;> simp [Edit.isKeep, List.eq_nil_iff_forall_not_mem]

theorem delta_eq_nil_iff (E : Env) (M : Matching) : delta E M = [] ↔
    M.unmatchedS = [] ∧ M.unmatchedT = [] ∧
      ∀ p ∈ M.all, E.isUpdate p.1 p.2 = false ∧ E.moves M.all M.unmatchedS p.1 p.2 = [] := by
  have : delta E M = [] ↔ ∀ e ∈ script E M, e.isKeep = true := by simp [delta]
  rw [this, forall_mem_script]
  refine and_congr ?_ (and_congr ?_ (forall₂_congr fun p _ => pairEdits_all_keep E M p)) <;>
    simp [List.eq_nil_iff_forall_not_mem, Edit.isKeep]

/-- the delta of a tree against its copy is empty, given the two oracle facts about the script: a twin pair is no Update
    (`hupd`), and gets no Move under any matching that pairs twins only and contains every twin pair (`hmov`) -/
theorem delta_twins {E : Env} {φ : Id → Id} (h : CopyOk E φ) {pre : List (Id × Id)} (hp : TwinPre E φ pre)
    (hupd : ∀ x ∈ E.srcIndex, E.isUpdate x (φ x) = false)
    (hmov : ∀ m u x, (∀ p ∈ m, p.2 = φ p.1) → (∀ y ∈ E.srcIndex, (y, φ y) ∈ m) → x ∈ E.srcIndex →
      E.moves m u x (φ x) = []) :
    delta E (matchAll E pre) = [] := by
  obtain ⟨h1, h2, h3, h4⟩ := matchAll_twins h hp
  refine (delta_eq_nil_iff E _).mpr ⟨h1, h2, fun p hp' => ?_⟩
  have hpi := matchAll_fst_mem h.srcNodup hp.toPreOk hp'
  rw [h3 p hp']
  exact ⟨hupd p.1 hpi, hmov _ _ p.1 h3 h4 hpi⟩

end SqlglotModel.Diff
