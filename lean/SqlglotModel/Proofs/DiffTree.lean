/- Trees (layer B of the model) without the matching: well-formed trees (`TreeWF`, induction from the children), what the
   edit script decides for one matched pair (`movesOf`, `parentMoved`, `isUpdateOf`), and the core of "delta empty ⇒ equal":
   what an empty delta says of one matched pair is `Kept`, and a total injective matching of kept pairs pairs only `==`
   nodes (`kept_pairs_identical`). -/
import SqlglotModel.Proofs.DiffList

namespace SqlglotModel.Diff
open scoped List

/-- `Tree.wf` as a proposition, one field per conjunct of `Tree.wfWith` (`wf_imp`) -/
structure TreeWF (S : Tree) : Prop where
  bfsNodup : S.bfs.Nodup
  rootLeavesNodup : (S.leaves S.root).Nodup
  leavesNodup : ∀ x ∈ S.index, (S.leaves x).Nodup
  kidsNodup : ∀ x ∈ S.index, (S.exprArgs x).Nodup
  leavesClosed : ∀ x ∈ S.index, ∀ l ∈ S.leaves x, l ∈ S.leaves S.root ∧ l ∈ S.index
  kids : ∀ x ∈ S.index, ∀ c ∈ S.exprArgs x,
    S.parent c = some x ∧ c ∈ S.index ∧ S.bfs.idxOf x < S.bfs.idxOf c
  parent : ∀ x ∈ S.index, (∃ p, S.parent x = some p ∧ p ∈ S.index ∧ x ∈ S.exprArgs p) ∨ (S.parent x = none ∧ x = S.root)
  rootParent : S.parent S.root = none

/-- the decidable check the driver runs on every shipped tree implies the propositional form -/
theorem wf_imp (S : Tree) (h : S.wf = true) : TreeWF S := by
  simp only [Tree.wf, Tree.wfWith, Bool.and_eq_true, decide_eq_true_eq, List.all_eq_true,
    List.contains_eq_mem, beq_iff_eq] at h
  obtain ⟨⟨⟨h1, h2⟩, h4⟩, h3⟩ := h
  refine ⟨h1, h2, ?_, ?_, ?_, ?_, ?_, h4⟩
  · intro x hx; exact (h3 x hx).1.1.1.1
  · intro x hx; exact (h3 x hx).1.1.1.2
  · intro x hx l hl; exact (h3 x hx).1.1.2 l hl
  · intro x hx c hc
    obtain ⟨⟨a, b⟩, c'⟩ := (h3 x hx).1.2 c hc
    exact ⟨a, b, c'⟩
  · intro x hx
    have := (h3 x hx).2
    cases hp : S.parent x with
    | none => rw [hp] at this; exact Or.inr ⟨rfl, by simpa using this⟩
    | some p => rw [hp] at this; exact Or.inl ⟨p, rfl, by simpa using this⟩

theorem TreeWF.indexNodup {S : Tree} (hw : TreeWF S) : S.index.Nodup := hw.bfsNodup.filter _

theorem TreeWF.child_of_parent {S : Tree} (hw : TreeWF S) {x p : Id} (hx : x ∈ S.index) (hp : S.parent x = some p) :
    p ∈ S.index ∧ x ∈ S.exprArgs p := by
  rcases hw.parent x hx with ⟨p', hp', h⟩ | ⟨hn, _⟩
  · rw [hp] at hp'; cases hp'; exact h
  · rw [hp] at hn; cases hn

theorem TreeWF.root_of_no_parent {S : Tree} (hw : TreeWF S) {x : Id} (hx : x ∈ S.index) (hp : S.parent x = none) :
    x = S.root := by
  rcases hw.parent x hx with ⟨p', hp', _⟩ | ⟨_, h⟩
  · rw [hp] at hp'; cases hp'
  · exact h

/-- induction from the children: in a well-formed tree they come later in BFS order -/
theorem TreeWF.child_induction {T : Tree} (hw : TreeWF T) {motive : Id → Prop}
    (step : ∀ t ∈ T.index, (∀ c ∈ T.exprArgs t, motive c) → motive t) : ∀ t ∈ T.index, motive t := by
  have main : ∀ n, ∀ t ∈ T.index, T.bfs.length - T.bfs.idxOf t ≤ n → motive t := by
    intro n
    induction n with
    | zero =>
      intro t ht hle
      have := List.idxOf_lt_length_of_mem (List.mem_filter.mp ht).1
      omega
    | succ n ih =>
      intro t ht hle
      refine step t ht fun c hc => ?_
      have hk := hw.kids t ht c hc
      have := List.idxOf_lt_length_of_mem (List.mem_filter.mp hk.2.1).1
      exact ih c hk.2.1 (by omega)
  exact fun t ht => main _ t ht (Nat.le_refl _)

theorem move_iff_not_in_lcs (S T : Tree) (m : List (Id × Id)) (u : List Id) (s t a : Id) (b : Option Id) :
    (a, b) ∈ moveEdits S T m u s t ↔
      a ∈ S.exprArgs s ∧ a ∉ lcs (fun l r => lookup m l == some r) (S.exprArgs s) (T.exprArgs t) ∧ a ∉ u ∧
        b = lookup m a := by
  simp only [moveEdits, List.mem_flatMap, List.mem_ite_nil_right, List.mem_singleton, Prod.mk.injEq, Bool.and_eq_true,
    Bool.not_eq_true', List.contains_eq_mem, decide_eq_false_iff_not]
  constructor
  · rintro ⟨x, hx, hc, rfl, rfl⟩; exact ⟨hx, hc.1, hc.2, rfl⟩
  · rintro ⟨hx, h1, h2, rfl⟩; exact ⟨a, hx, ⟨h1, h2⟩, rfl, rfl⟩

theorem lcs_of_no_moves {S T : Tree} {m : List (Id × Id)} {s t : Id} (hN : (S.exprArgs s).Nodup)
    (h : moveEdits S T m [] s t = []) :
    lcs (fun l r => lookup m l == some r) (S.exprArgs s) (T.exprArgs t) = S.exprArgs s := by
  refine (lcs_is_common_subseq _ _ _).1.eq_of_length_le (hN.length_le_of_subset fun a ha => ?_)
  refine Decidable.byContradiction fun hin => ?_
  have := (move_iff_not_in_lcs S T m [] s t a _).mpr ⟨ha, hin, List.not_mem_nil, rfl⟩
  rw [h] at this; cases this

theorem movesOf_identical {S T : Tree} (m : List (Id × Id)) (u : List Id) {s t : Id} (h : S.eqc s = T.eqc t) :
    movesOf S T m u s t = if parentMoved S T m s t then [(s, some t)] else [] := by
  simp [movesOf, identical, h]

theorem movesOf_not_identical {S T : Tree} (m : List (Id × Id)) (u : List Id) {s t : Id} (h : S.eqc s ≠ T.eqc t) :
    movesOf S T m u s t = if S.updatable s then [] else moveEdits S T m u s t := by
  cases hu : S.updatable s <;> simp [movesOf, identical, h, hu]

theorem parentMoved_eq_false {S T : Tree} {m : List (Id × Id)} {s t : Id} :
    parentMoved S T m s t = false ↔
      match S.parent s, T.parent t with
      | some ps, some pt => lookup m ps = some pt
      | none, none => True
      | _, _ => False := by
  unfold parentMoved
  cases S.parent s <;> cases T.parent t <;> simp

/-- an `==` pair that gets no Move: the parent of the target node is the partner of the parent of the source node, and
    there is none if the source node has none -/
theorem parent_of_no_move {S T : Tree} {m : List (Id × Id)} {u : List Id} {s t : Id} (h : S.eqc s = T.eqc t)
    (hm : movesOf S T m u s t = []) : T.parent t = (S.parent s).bind (lookup m) := by
  have hpm : parentMoved S T m s t = false := by
    cases hp : parentMoved S T m s t
    · rfl
    · rw [movesOf_identical m u h, hp] at hm; cases hm
  rw [parentMoved_eq_false] at hpm
  cases hs : S.parent s <;> cases ht : T.parent t <;> rw [hs, ht] at hpm
  · rfl
  · exact hpm.elim
  · exact hpm.elim
  · exact hpm.symm

theorem identsEq_lists {P : Params} (hdict : P.identsAsDict = false) (S T : Tree) (s t : Id) :
    identsEq P S T s t = true ↔ S.idk s = T.idk t := by
  simp [identsEq, hdict]

theorem isUpdateOf_eq_false {P : Params} {S T : Tree} {s t : Id} : isUpdateOf P S T s t = false ↔
    (S.updatable s = true → S.eqc s = T.eqc t) ∧ S.nel s = T.nel t ∧
      (P.cmpIdents = true → S.eqc s = T.eqc t ∨ identsEq P S T s t = true) := by
  unfold isUpdateOf identical
  by_cases hu : S.updatable s <;> by_cases he : S.eqc s = T.eqc t <;> simp [hu, he]

/-- with the Identifier children compared as lists, as diff.py does -/
theorem isUpdateOf_eq_false_lists {P : Params} {S T : Tree} {s t : Id} (hdict : P.identsAsDict = false) :
    isUpdateOf P S T s t = false ↔
      (S.updatable s = true → S.eqc s = T.eqc t) ∧ S.nel s = T.nel t ∧
        (P.cmpIdents = true → S.eqc s = T.eqc t ∨ S.idk s = T.idk t) := by
  rw [isUpdateOf_eq_false, identsEq_lists hdict]

/-- structural congruence of `Expr.__eq__` (validated by the harness on every shipped pair of nodes): same class, equal
    non-expression leaves, equal Identifier children, equal child layout and pairwise `==` expression children make two
    nodes `==` -/
structure EqcCongr (S T : Tree) : Prop where
  congr : ∀ s t, S.cls s = T.cls t → S.nel s = T.nel t → S.idk s = T.idk t → S.lay s = T.lay t →
    Aligned (fun a b => S.eqc a == T.eqc b) (S.exprArgs s) (T.exprArgs t) → S.eqc s = T.eqc t

/-- what an empty delta says of one pair `p` of the matching `m`: a Keep, and no Move -/
structure Kept (S T : Tree) (m : List (Id × Id)) (p : Id × Id) : Prop where
  cls : S.cls p.1 = T.cls p.2
  nel : S.nel p.1 = T.nel p.2
  upd : S.updatable p.1 = true → S.eqc p.1 = T.eqc p.2
  idk : S.eqc p.1 = T.eqc p.2 ∨ S.idk p.1 = T.idk p.2
  lay : S.lay p.1 = T.lay p.2
  noMove : movesOf S T m [] p.1 p.2 = []

/-- a kept pair that is not `==` is not updatable, so `_generate_move_edits` ran on its children and moved none -/
theorem Kept.moveEdits_nil {S T : Tree} {m : List (Id × Id)} {p : Id × Id} (h : Kept S T m p)
    (hid : S.eqc p.1 ≠ T.eqc p.2) : moveEdits S T m [] p.1 p.2 = [] := by
  have := h.noMove
  rwa [movesOf_not_identical m [] hid, Bool.eq_false_iff.mpr fun hu => hid (h.upd hu), if_neg nofun] at this

/-- **the core of `delta_empty_imp_equal`**: a total injective matching of kept pairs pairs only `==` nodes.  Induction
    from the children of the target node: were the pair not `==`, absence of Moves forces the two child lists to
    correspond one-to-one in order (`lcs_is_common_subseq`, no target child left over because its partner would have
    changed parent), the children are `==` by induction, so congruence makes the pair `==`. -/
theorem kept_pairs_identical {S T : Tree} {m : List (Id × Id)} (hwS : TreeWF S) (hwT : TreeWF T)
    (hm1 : (fsts m).Nodup) (hm2 : (snds m).Nodup) (hidx : ∀ p ∈ m, p.1 ∈ S.index ∧ p.2 ∈ T.index)
    (hsurjT : ∀ y ∈ T.index, y ∈ snds m) (hk : ∀ p ∈ m, Kept S T m p) (hcg : EqcCongr S T) :
    ∀ p ∈ m, S.eqc p.1 = T.eqc p.2 := by
  suffices ∀ t ∈ T.index, ∀ s, (s, t) ∈ m → S.eqc s = T.eqc t from fun p hp => this p.2 (hidx p hp).2 p.1 hp
  refine hwT.child_induction fun t htI ih s hp => Decidable.byContradiction fun hid => hid ?_
  have hsI := (hidx _ hp).1
  obtain ⟨_, ys', hys, hal⟩ :=
    lcs_is_common_subseq (fun l r => lookup m l == some r) (S.exprArgs s) (T.exprArgs t)
  rw [lcs_of_no_moves (hwS.kidsNodup s hsI) ((hk _ hp).moveEdits_nil hid)] at hal
  -- no target child is left over: its partner is `==` to it, so kept its parent, so is a child of `s`
  have hys_all : ∀ c' ∈ T.exprArgs t, c' ∈ ys' := by
    intro c' hc'
    have hk' := hwT.kids t htI c' hc'
    obtain ⟨⟨c, _⟩, hq, rfl⟩ := List.mem_map.mp (hsurjT c' hk'.2.1)
    obtain ⟨ps, hps, hpm⟩ := Option.bind_eq_some_iff.mp
      ((parent_of_no_move (ih _ hc' c hq) (hk _ hq).noMove).symm.trans hk'.1)
    obtain rfl : ps = s := congrArg Prod.fst (inj_of_nodup_map hm2 (lookup_mem hpm) hp rfl)
    obtain ⟨b, hb, hbe⟩ := hal.exists_right (hwS.child_of_parent (hidx _ hq).1 hps).2
    rw [beq_iff_eq, lookup_of_mem hm1 hq] at hbe
    cases hbe; exact hb
  rw [hys.eq_of_length_le ((hwT.kidsNodup t htI).length_le_of_subset hys_all)] at hal
  have k := hk _ hp
  refine hcg.congr s t k.cls k.nel (k.idk.resolve_left hid) k.lay (hal.imp_mem ?_)
  exact fun a b _ hb he => beq_iff_eq.mpr (ih b hb a (lookup_mem (beq_iff_eq.mp he)))

theorem partner_of_root {S T : Tree} {m : List (Id × Id)} {u : List Id} {t : Id} (hwS : TreeWF S) (hwT : TreeWF T)
    (ht : t ∈ T.index) (hid : S.eqc S.root = T.eqc t) (hm : movesOf S T m u S.root t = []) : t = T.root := by
  have h := parent_of_no_move hid hm
  rw [hwS.rootParent] at h
  exact hwT.root_of_no_parent ht h

end SqlglotModel.Diff
