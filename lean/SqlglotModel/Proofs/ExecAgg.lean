/-
  C11, aggregation.  aggregate()'s index loop emits the maximal runs of equal keys (`aggLoop_cont`, for any cap); on a
  list in which every key forms one run (`Clustered`, which sorting by the group key establishes) the runs are the
  groups of the reference GROUP BY; so aggregate() as a whole is the GROUP BY of the key-sorted rows (`aggregate_eq`).
  The ENV aggregates behind filter_nulls are the reference aggregates (`envCount_eq` … `envMax_eq`), and these depend on
  the bag of their inputs only (`aggFn_perm`).
-/
import SqlglotModel.Proofs.ExecOrder

namespace SqlglotModel.Exec
open SqlglotModel.Sem

/-- maximal runs of consecutive rows with equal key, left to right; `cur` is the run being collected -/
def runsFrom (keyOf : Row → Key) (cur : List Row) (k : Key) : List Row → List (Key × List Row)
  | [] => [(k, cur)]
  | r :: rs => if keyOf r = k then runsFrom keyOf (cur ++ [r]) k rs else (k, cur) :: runsFrom keyOf [r] (keyOf r) rs

/-- the maximal runs of a list of rows, each with its key -/
def runs (keyOf : Row → Key) : List Row → List (Key × List Row)
  | [] => []
  | r :: rs => runsFrom keyOf [r] (keyOf r) rs

/-- one output row per run: the key, then the aggregates of the run's rows -/
def emitRuns (agg : List Row → Row) (rs : List (Key × List Row)) : List Row := rs.map fun p => p.1 ++ agg p.2

theorem slice_succ {rows : List Row} {s i : Nat} {r : Row} {rest : List Row}
    (hd : rows.drop i = r :: rest) (hs : s ≤ i) : slice rows s (i + 1) = slice rows s i ++ [r] := by
  have hi : rows[i]? = some r := by rw [← Nat.add_zero i, ← List.getElem?_drop, hd]; rfl
  unfold slice
  rw [Nat.succ_sub hs, List.take_add_one, List.getElem?_drop, Nat.add_sub_cancel' hs, hi]
  rfl

theorem slice_one {rows : List Row} {i : Nat} {r : Row} {rest : List Row}
    (hd : rows.drop i = r :: rest) : slice rows i (i + 1) = [r] := by
  unfold slice
  rw [hd]; simp

/-- the loop's `i == length - 1` test asks whether rows remain -/
theorem drop_last_iff {α} {rows : List α} {i : Nat} {r : α} {rest : List α} (hd : rows.drop i = r :: rest) :
    i = rows.length - 1 ↔ rest = [] := by
  have hlen : rows.length = i + rest.length + 1 := by
    have := congrArg List.length hd
    rw [List.length_drop, List.length_cons] at this
    omega
  rw [hlen, Nat.add_sub_cancel, Nat.left_eq_add, List.length_eq_zero_iff]

theorem aggLoop_same {c : Cfg} (ok : c.Ok) {keyOf : Row → Key} {agg : List Row → Row} {rows : List Row} {cap : Option Nat} {i : Nat} {r : Row}
    {rest : List Row} {k : Key} {s : Nat} {out : List Row} (hk : keyOf r = k) :
    aggLoop c keyOf agg rows cap i (r :: rest) ⟨some k, s, i + 1, out⟩ =
      if capReached cap out then out
      else aggLoop c keyOf agg rows cap (i + 1) rest
        ⟨some k, s, i + 2, if i = rows.length - 1 then out ++ [k ++ agg (slice rows s (i + 1))] else out⟩ := by
  rw [aggLoop]
  simp only [ok.aggLastOff, Option.getD_some, hk, ne_eq, not_true, if_false, Nat.add_sub_cancel]

theorem aggLoop_new {c : Cfg} (ok : c.Ok) {keyOf : Row → Key} {agg : List Row → Row} {rows : List Row} {cap : Option Nat} {i : Nat} {r : Row}
    {rest : List Row} {k : Key} {s : Nat} {out : List Row} (hk : keyOf r ≠ k) :
    aggLoop c keyOf agg rows cap i (r :: rest) ⟨some k, s, i + 1, out⟩ =
      if capReached cap (out ++ [k ++ agg (slice rows s i)]) then out ++ [k ++ agg (slice rows s i)]
      else aggLoop c keyOf agg rows cap (i + 1) rest
        ⟨some (keyOf r), i, i + 2,
          if i = rows.length - 1 then out ++ [k ++ agg (slice rows s i)] ++ [keyOf r ++ agg (slice rows i (i + 1))]
          else out ++ [k ++ agg (slice rows s i)]⟩ := by
  have e : i + 1 + 1 - 2 = i := rfl
  rw [aggLoop]
  simp only [ok.aggEmitOff, ok.aggStartOff, ok.aggLastOff, Option.getD_some, ne_eq, hk, not_false_eq_true, if_true,
    Nat.add_sub_cancel, e]

theorem emitRuns_runsFrom_cons (keyOf : Row → Key) (agg : List Row → Row) (cur : List Row) (k : Key) (r : Row) (rest : List Row) :
    emitRuns agg (runsFrom keyOf cur k (r :: rest))
      = if keyOf r = k then emitRuns agg (runsFrom keyOf (cur ++ [r]) k rest)
        else [k ++ agg cur] ++ emitRuns agg (runsFrom keyOf [r] (keyOf r) rest) := by
  rw [runsFrom]; split <;> rfl

/-- after row `i`, with the run `rows[s:i+1]` of key `k` current (and already emitted if row `i` was the last), the loop
    emits the remaining maximal runs, stopping as soon as the cap is reached -/
theorem aggLoop_cont {c : Cfg} (ok : c.Ok) (keyOf : Row → Key) (agg : List Row → Row) (rows : List Row) (cap : Option Nat) (rest : List Row) :
    ∀ (r : Row) (i s : Nat) (k : Key) (out : List Row), rows.drop i = r :: rest → s ≤ i → capReached cap out = false →
    aggLoop c keyOf agg rows cap (i + 1) rest
        ⟨some k, s, i + 2, if i = rows.length - 1 then out ++ [k ++ agg (slice rows s (i + 1))] else out⟩
      = takeCap cap (out ++ emitRuns agg (runsFrom keyOf (slice rows s (i + 1)) k rest)) := by
  induction rest with
  | nil =>
    intro r i s k out hd _ hcap
    have hlast := (drop_last_iff hd).2 rfl
    rw [if_pos hlast, aggLoop]
    exact (takeCap_of_le (length_snoc_le hcap _)).symm
  | cons r' rest' ih =>
    intro r i s k out hd hs hcap
    have hlast : ¬ i = rows.length - 1 := fun e => List.cons_ne_nil _ _ ((drop_last_iff hd).1 e)
    have hd' : rows.drop (i + 1) = r' :: rest' := by rw [← List.drop_drop, hd]; rfl
    rw [if_neg hlast, emitRuns_runsFrom_cons]
    by_cases hk : keyOf r' = k
    · rw [aggLoop_same ok (i := i + 1) hk, hcap, if_neg Bool.false_ne_true, if_pos hk,
        ih r' (i + 1) s k out hd' (Nat.le_succ_of_le hs) hcap, slice_succ hd' (Nat.le_succ_of_le hs)]
    · rw [aggLoop_new ok (i := i + 1) hk, if_neg hk]
      by_cases hc : capReached cap (out ++ [k ++ agg (slice rows s (i + 1))]) = true
      · rw [if_pos hc, ← List.append_assoc]
        exact (takeCap_reached _ hc (length_snoc_le hcap _)).symm
      · rw [if_neg hc, ih r' (i + 1) (i + 1) (keyOf r') _ hd' (Nat.le_refl _) (Bool.eq_false_iff.2 hc),
          slice_one hd', List.append_assoc]

/-- aggregate()'s index loop emits every maximal run of equal keys exactly once, in order, up to the cap
    (`offset + limit` when the limit break applies) -/
theorem aggregateSorted_runs {c : Cfg} (ok : c.Ok) (keyOf : Row → Key) (agg : List Row → Row) (rows : List Row) (hne : rows ≠ []) (g : Bool)
    (cap lim : Option Nat) :
    aggregateSorted c keyOf agg g cap lim rows = takeCap cap (emitRuns agg (runs keyOf rows)) := by
  cases rows with
  | nil => exact absurd rfl hne
  | cons r rest =>
    unfold aggregateSorted
    have hlen : (r :: rest).length ≠ 0 := Nat.succ_ne_zero _
    rw [if_pos hlen, ok.aggStart, ok.aggEnd]
    -- the first iteration takes the first row's key as the current group
    show aggLoop c keyOf agg (r :: rest) cap 0 (r :: rest) ⟨some (keyOf r), 0, 0 + 1, []⟩ = _
    rw [aggLoop_same ok rfl]
    cases hc : capReached cap [] with
    | false => exact aggLoop_cont ok keyOf agg (r :: rest) cap rest r 0 0 (keyOf r) [] rfl (Nat.le_refl 0) hc
    | true => exact (takeCap_reached (l := []) _ hc (fun _ _ => Nat.zero_le _)).symm

theorem aggregate_runs_spec (keyOf : Row → Key) (agg : List Row → Row) (rows : List Row) (hne : rows ≠ []) (g : Bool) (lim : Option Nat) :
    aggregateSorted stdCfg keyOf agg g none lim rows = emitRuns agg (runs keyOf rows) :=
  aggregateSorted_runs stdCfg_ok keyOf agg rows hne g none lim

/-- aggregate() over an empty input, for a step without LIMIT: one row of aggregates over nothing when there is no
    GROUP BY, no row at all under GROUP BY -/
theorem aggregate_empty_spec (keyOf : Row → Key) (agg : List Row → Row) (cap : Option Nat) :
    aggregateSorted stdCfg keyOf agg false cap none [] = globalAgg agg []
    ∧ aggregateSorted stdCfg keyOf agg true cap none [] = groupAgg keyOf agg [] := by
  constructor <;> rfl

/-- every run is non-empty and its rows carry its key -/
def RunsOk (keyOf : Row → Key) (rs : List (Key × List Row)) : Prop :=
  ∀ p ∈ rs, p.2 ≠ [] ∧ ∀ r ∈ p.2, keyOf r = p.1

theorem runsFrom_flat (keyOf : Row → Key) (rest : List Row) : ∀ (cur : List Row) (k : Key),
    (runsFrom keyOf cur k rest).flatMap (·.2) = cur ++ rest := by
  induction rest with
  | nil => intro cur k; simp [runsFrom]
  | cons r rest ih =>
    intro cur k
    simp only [runsFrom]
    split
    · rw [ih]; simp
    · simp [ih]

theorem runsFrom_ok (keyOf : Row → Key) (rest : List Row) : ∀ (cur : List Row) (k : Key),
    cur ≠ [] → (∀ r ∈ cur, keyOf r = k) → RunsOk keyOf (runsFrom keyOf cur k rest) := by
  induction rest with
  | nil => exact fun cur k hne hk => List.forall_mem_singleton.2 ⟨hne, hk⟩
  | cons r rest ih =>
    intro cur k hne hk
    rw [runsFrom]
    split
    · next h =>
      refine ih _ k (List.append_ne_nil_of_left_ne_nil hne _) fun x hx => ?_
      rcases List.mem_append.1 hx with hx | hx
      · exact hk x hx
      · rw [List.mem_singleton.1 hx]; exact h
    · exact List.forall_mem_cons.2
        ⟨⟨hne, hk⟩, ih [r] (keyOf r) (List.cons_ne_nil _ _) fun x hx => by rw [List.mem_singleton.1 hx]⟩

theorem groupAgg_run_append (keyOf : Row → Key) (agg : List Row → Row) (k : Key) (run rest : List Row) (hne : run ≠ [])
    (hrun : ∀ r ∈ run, keyOf r = k) (hrest : ∀ r ∈ rest, keyOf r ≠ k) :
    groupAgg keyOf agg (run ++ rest) = (k ++ agg run) :: groupAgg keyOf agg rest := by
  have hk : ¬ k ∈ rest.map keyOf := fun h => by
    obtain ⟨r, hr, e⟩ := List.mem_map.1 h
    exact hrest r hr e
  unfold groupAgg
  rw [List.map_append, dedup_const_prefix k (run.map keyOf) _ (fun x hx => by
        obtain ⟨r, hr, rfl⟩ := List.mem_map.1 hx
        exact hrun r hr) (by simpa using hne) hk, List.map_cons]
  congr 1
  · rw [List.filter_append, List.filter_eq_self.2 fun r hr => decide_eq_true (hrun r hr),
      List.filter_eq_nil_iff.2 fun r hr => by simpa using hrest r hr, List.append_nil]
  · apply List.map_congr_left
    intro k' hk'
    have hne' : k ≠ k' := fun e => hk (e ▸ (mem_dedup _ _).1 hk')
    rw [List.filter_append, List.filter_eq_nil_iff.2 fun r hr => by simpa [hrun r hr] using hne', List.nil_append]

theorem groupAgg_of_runs (keyOf : Row → Key) (agg : List Row → Row) (rs : List (Key × List Row))
    (hok : RunsOk keyOf rs) (hnd : (rs.map (·.1)).Nodup) :
    groupAgg keyOf agg (rs.flatMap (·.2)) = emitRuns agg rs := by
  induction rs with
  | nil => rfl
  | cons p rs ih =>
    obtain ⟨hp, hok'⟩ := List.forall_mem_cons.1 hok
    rw [List.map_cons, List.nodup_cons] at hnd
    rw [List.flatMap_cons, groupAgg_run_append keyOf agg p.1 p.2 _ hp.1 hp.2, ih hok' hnd.2]
    · rfl
    · -- the rows of the later runs carry the other keys
      intro r hr e
      obtain ⟨q, hq, hrq⟩ := List.mem_flatMap.1 hr
      exact hnd.1 (List.mem_map.2 ⟨q, hq, ((hok' q hq).2 r hrq).symm.trans e⟩)

/-- every key forms exactly one run (what sorting by the group key establishes) -/
def Clustered (keyOf : Row → Key) (rows : List Row) : Prop := ((runs keyOf rows).map (·.1)).Nodup

theorem runs_groups (keyOf : Row → Key) (agg : List Row → Row) (rows : List Row) (h : Clustered keyOf rows) :
    emitRuns agg (runs keyOf rows) = groupAgg keyOf agg rows := by
  cases rows with
  | nil => rfl
  | cons r rest =>
    have hflat : (runs keyOf (r :: rest)).flatMap (·.2) = r :: rest := by
      simp only [runs]; rw [runsFrom_flat]; rfl
    have hok : RunsOk keyOf (runs keyOf (r :: rest)) := by
      simp only [runs]; exact runsFrom_ok keyOf rest [r] (keyOf r) (by simp) (by simp)
    have := groupAgg_of_runs keyOf agg _ hok h
    rw [hflat] at this
    exact this.symm

/-- on a list sorted by a lawful comparison of the keys, the run keys are strictly increasing -/
theorem runsFrom_sorted {c : Key → Key → Ordering} [Std.TransCmp c] [Std.LawfulEqCmp c] (keyOf : Row → Key)
    (rest : List Row) : ∀ (cur : List Row) (k : Key),
    (∀ r ∈ rest, c k (keyOf r) ≠ .gt) →
    List.Pairwise (fun a b => c (keyOf a) (keyOf b) ≠ .gt) rest →
    ∃ ks, (runsFrom keyOf cur k rest).map (·.1) = k :: ks ∧ List.Pairwise (fun a b => c a b = .lt) (k :: ks) := by
  induction rest with
  | nil => intro cur k _ _; exact ⟨[], by simp [runsFrom], by simp⟩
  | cons r rest ih =>
    intro cur k h1 h2
    rw [List.pairwise_cons] at h2
    simp only [runsFrom]
    by_cases hk : keyOf r = k
    · rw [if_pos hk]
      exact ih _ k (fun x hx => h1 x (by simp [hx])) h2.2
    · rw [if_neg hk]
      obtain ⟨ks, e, hp⟩ := ih [r] (keyOf r) (fun x hx => h2.1 x hx) h2.2
      refine ⟨keyOf r :: ks, by simp [e], ?_⟩
      rw [List.pairwise_cons]
      refine ⟨?_, hp⟩
      have hlt : c k (keyOf r) = .lt := by
        cases h : c k (keyOf r) with
        | lt => rfl
        | eq => exact absurd (Std.LawfulEqCmp.eq_of_compare h).symm hk
        | gt => exact absurd h (h1 r (by simp))
      intro k' hk'
      simp only [List.mem_cons] at hk'
      rcases hk' with rfl | hk'
      · exact hlt
      · rw [List.pairwise_cons] at hp
        exact Std.TransCmp.lt_trans hlt (hp.1 k' hk')

theorem sorted_clustered {c : Key → Key → Ordering} [Std.TransCmp c] [Std.LawfulEqCmp c] (keyOf : Row → Key)
    (rows : List Row) (hs : List.Pairwise (fun a b => c (keyOf a) (keyOf b) ≠ .gt) rows) : Clustered keyOf rows := by
  unfold Clustered
  cases rows with
  | nil => simp [runs]
  | cons r rest =>
    rw [List.pairwise_cons] at hs
    obtain ⟨ks, e, hp⟩ := runsFrom_sorted (c := c) keyOf rest [r] (keyOf r) hs.1 hs.2
    simp only [runs]
    rw [e]
    exact hp.imp fun {a b} (h : c a b = .lt) (e : a = b) => by
      subst e; rw [Std.ReflCmp.compare_self (cmp := c)] at h; cases h

theorem sortByGroupKey_clustered (keyOf : Row → Key) (rows : List Row) : Clustered keyOf (sortByGroupKey keyOf rows) :=
  haveI := transCmp_on groupKeyCmp keyOf
  sorted_clustered (c := groupKeyCmp) keyOf _ (stableSort_sorted (fun a b => groupKeyCmp (keyOf a) (keyOf b)) rows)

theorem sortByGroupKey_perm (keyOf : Row → Key) (rows : List Row) : List.Perm (sortByGroupKey keyOf rows) rows :=
  stableSort_perm _ _

theorem groupAgg_perm (keyOf : Row → Key) (agg : List Row → Row) (hagg : ∀ a b, List.Perm a b → agg a = agg b)
    (r1 r2 : List Row) (h : List.Perm r1 r2) : List.Perm (groupAgg keyOf agg r1) (groupAgg keyOf agg r2) := by
  unfold groupAgg
  have hF : ∀ k, k ++ agg (r1.filter fun r => keyOf r = k) = k ++ agg (r2.filter fun r => keyOf r = k) := by
    intro k; rw [hagg _ _ (h.filter _)]
  simp only [hF]
  exact (dedup_perm _ _ (h.map keyOf)).map _

/-- what aggregate() returns for a table: the GROUP BY of the key-sorted rows; one row of aggregates over nothing for an
    empty input without GROUP BY -/
def aggTbl (keyOf : Row → Key) (aggF : List Row → Row) (hasGroup : Bool) (R : List Row) : List Row :=
  if R = [] then (if hasGroup then [] else [aggF []]) else groupAgg keyOf aggF (sortByGroupKey keyOf R)

theorem aggregate_eq {c : Cfg} (ok : c.Ok) (keyOf : Row → Key) (aggF : List Row → Row) (hasGroup : Bool) (R : List Row) :
    aggregate c keyOf aggF hasGroup none none R = aggTbl keyOf aggF hasGroup R := by
  unfold aggregate aggTbl
  by_cases hR : R = []
  · subst hR
    cases hasGroup <;> rfl
  · rw [if_neg hR]
    have hs : sortByGroupKey keyOf R ≠ [] := fun e => hR (e ▸ (sortByGroupKey_perm keyOf R).symm).eq_nil
    rw [aggregateSorted_runs ok keyOf aggF _ hs hasGroup none none]
    exact runs_groups keyOf aggF _ (sortByGroupKey_clustered keyOf R)

/-- grouping does not depend on the order of the rows, so as a bag aggregate()'s sort may be forgotten -/
theorem aggTbl_perm (keyOf : Row → Key) (aggF : List Row → Row) (hagg : ∀ a b, List.Perm a b → aggF a = aggF b)
    (hasGroup : Bool) (R : List Row) (hR : R ≠ []) :
    List.Perm (aggTbl keyOf aggF hasGroup R) (groupAgg keyOf aggF R) := by
  unfold aggTbl
  rw [if_neg hR]
  exact groupAgg_perm keyOf aggF hagg _ R (sortByGroupKey_perm keyOf R)

theorem foldl_count {α} (vs : List α) (n : Int) : vs.foldl (fun acc _ => acc + 1) n = n + vs.length := by
  induction vs generalizing n with
  | nil => simp
  | cons v vs ih => simp [List.foldl, ih]; omega

theorem foldl_sum (vs : List Val) (n : Int) : vs.foldl (fun acc v => acc + v.toInt) n = n + (vs.map Val.toInt).sum := by
  induction vs generalizing n with
  | nil => simp
  | cons v vs ih => simp [List.foldl, ih]; omega

theorem cmp_dir_trans (dir : Ordering) (hd : dir = .lt ∨ dir = .gt) (a b c : Val)
    (h1 : Val.cmp a b = dir) (h2 : Val.cmp b c = dir) : Val.cmp a c = dir := by
  rcases hd with rfl | rfl
  · exact Std.TransCmp.lt_trans h1 h2
  · exact Std.TransCmp.gt_trans h1 h2

theorem cmp_self_ne_dir {dir : Ordering} (hd : dir = .lt ∨ dir = .gt) (x : Val) : Val.cmp x x ≠ dir := by
  rw [(cmp_eq_iff x x).2 rfl]; rcases hd with rfl | rfl <;> decide

/-- the fold keeps an extremum of what it has seen -/
theorem extremum_foldl (dir : Ordering) (hd : dir = .lt ∨ dir = .gt) (vs : List Val) (m : Val) (seen : List Val)
    (hm : m ∈ seen) (hs : ∀ x ∈ seen, Val.cmp x m ≠ dir) :
    let r := vs.foldl (fun m x => if Val.cmp x m = dir then x else m) m
    r ∈ seen ++ vs ∧ ∀ x ∈ seen ++ vs, Val.cmp x r ≠ dir := by
  induction vs generalizing m seen with
  | nil => rw [List.append_nil]; exact ⟨hm, hs⟩
  | cons v vs ih =>
    rw [List.foldl_cons, List.append_cons]
    by_cases hv : Val.cmp v m = dir
    · -- `v` replaces `m`: whatever was not beyond `m` is not beyond `v`
      rw [if_pos hv]
      refine ih v (seen ++ [v]) (List.mem_append_right _ List.mem_cons_self) fun x hx => ?_
      rcases List.mem_append.1 hx with hx | hx
      · exact fun hxv => hs x hx (cmp_dir_trans dir hd x v m hxv hv)
      · rw [List.mem_singleton.1 hx]; exact cmp_self_ne_dir hd v
    · rw [if_neg hv]
      refine ih m (seen ++ [v]) (List.mem_append_left _ hm) fun x hx => ?_
      rcases List.mem_append.1 hx with hx | hx
      · exact hs x hx
      · rw [List.mem_singleton.1 hx]; exact hv

theorem pyExtremum_spec (dir : Ordering) (hd : dir = .lt ∨ dir = .gt) (vs : List Val) (hne : vs ≠ []) :
    IsExtremum dir vs (pyExtremum dir vs) := by
  cases vs with
  | nil => exact absurd rfl hne
  | cons v vs =>
    exact extremum_foldl dir hd vs v [v] List.mem_cons_self fun x hx => by
      rw [List.mem_singleton.1 hx]; exact cmp_self_ne_dir hd v

theorem pyExtremum_eq (dir : Ordering) (vs : List Val) : pyExtremum dir vs = extremum dir vs := by
  cases vs <;> rfl

theorem filterNulls_extremum (dir : Ordering) (vs : List Val) :
    filterNulls (pyExtremum dir) true vs = extremum dir (nonNull vs) := by
  simp only [filterNulls, nonNull, and_true, pyExtremum_eq]
  split
  · next h => rw [h]; rfl
  · rfl

theorem envCount_eq {c : Cfg} (ok : c.Ok) (vs : List Val) : envCount c vs = aggCount vs := by
  simp [envCount, filterNulls, ok.countEmptyNull, pyCount, aggCount, nonNull, foldl_count]

theorem envSum_eq {c : Cfg} (ok : c.Ok) (vs : List Val) : envSum c vs = aggSum vs := by
  simp only [envSum, filterNulls, ok.sumEmptyNull, pySum, aggSum, nonNull, foldl_sum, and_true]
  by_cases h : List.filter (fun x => !x.isNull) vs = [] <;> simp [h]

theorem envMin_eq {c : Cfg} (ok : c.Ok) (vs : List Val) : envMin c vs = extremum .lt (nonNull vs) := by
  rw [envMin, ok.minEmptyNull, filterNulls_extremum]

theorem envMax_eq {c : Cfg} (ok : c.Ok) (vs : List Val) : envMax c vs = extremum .gt (nonNull vs) := by
  rw [envMax, ok.maxEmptyNull, filterNulls_extremum]

/-- the ENV aggregates ignore NULLs; COUNT of nothing is 0, SUM / MIN / MAX of nothing is NULL -/
theorem env_aggs_spec {c : Cfg} (ok : c.Ok) (vs : List Val) :
    envCount c vs = aggCount vs
    ∧ envSum c vs = aggSum vs
    ∧ (nonNull vs = [] → envMin c vs = .null ∧ envMax c vs = .null)
    ∧ (nonNull vs ≠ [] → IsExtremum .lt (nonNull vs) (envMin c vs) ∧ IsExtremum .gt (nonNull vs) (envMax c vs)) := by
  rw [envMin_eq ok, envMax_eq ok]
  refine ⟨envCount_eq ok vs, envSum_eq ok vs, fun h => by rw [h]; exact ⟨rfl, rfl⟩, fun h => ?_⟩
  rw [← pyExtremum_eq, ← pyExtremum_eq]
  exact ⟨pyExtremum_spec .lt (Or.inl rfl) _ h, pyExtremum_spec .gt (Or.inr rfl) _ h⟩

theorem agg_functions_spec (vs : List Val) :
    envCount stdCfg vs = aggCount vs
    ∧ envSum stdCfg vs = aggSum vs
    ∧ (nonNull vs = [] → envMin stdCfg vs = .null ∧ envMax stdCfg vs = .null)
    ∧ (nonNull vs ≠ [] → IsExtremum .lt (nonNull vs) (envMin stdCfg vs) ∧ IsExtremum .gt (nonNull vs) (envMax stdCfg vs)) :=
  env_aggs_spec stdCfg_ok vs

theorem perm_sum_int (l1 l2 : List Int) (h : List.Perm l1 l2) : l1.sum = l2.sum :=
  h.foldr_eq' (f := (· + ·)) (fun _ _ _ _ _ => Int.add_left_comm ..) 0

theorem extremum_unique (dir : Ordering) (hd : dir = .lt ∨ dir = .gt) (vs : List Val) (m1 m2 : Val)
    (h1 : IsExtremum dir vs m1) (h2 : IsExtremum dir vs m2) : m1 = m2 := by
  have a := h1.2 m2 h2.1   -- cmp m2 m1 ≠ dir
  have b := h2.2 m1 h1.1   -- cmp m1 m2 ≠ dir
  rw [Std.OrientedCmp.eq_swap (cmp := Val.cmp) (a := m2)] at a
  apply (cmp_eq_iff m1 m2).1
  rcases hd with rfl | rfl <;> cases h : Val.cmp m1 m2 <;> simp_all [Ordering.swap]

theorem isExtremum_perm {dir : Ordering} {vs ws : List Val} {m : Val} (h : List.Perm vs ws) (hm : IsExtremum dir ws m) :
    IsExtremum dir vs m :=
  ⟨h.mem_iff.2 hm.1, fun x hx => hm.2 x (h.mem_iff.1 hx)⟩

/-- an extremum of one arrangement is an extremum of the other, and extrema are unique -/
theorem extremum_perm (dir : Ordering) (hd : dir = .lt ∨ dir = .gt) {vs ws : List Val} (h : List.Perm vs ws) :
    extremum dir vs = extremum dir ws := by
  by_cases e : vs = []
  · subst e; rw [h.symm.eq_nil]
  · rw [← pyExtremum_eq, ← pyExtremum_eq]
    exact extremum_unique dir hd vs _ _ (pyExtremum_spec dir hd vs e)
      (isExtremum_perm h (pyExtremum_spec dir hd ws fun e' => e (e' ▸ h).eq_nil))

/-- the reference aggregates depend only on the bag of their inputs -/
theorem aggFn_perm (f : AggFn) (vs ws : List Val) (h : List.Perm vs ws) : f.apply vs = f.apply ws := by
  have hn : List.Perm (nonNull vs) (nonNull ws) := h.filter _
  cases f with
  | count => show aggCount vs = aggCount ws; rw [aggCount, aggCount, hn.length_eq]
  | sum =>
    have hnil : nonNull vs = [] ↔ nonNull ws = [] := ⟨fun e => (e ▸ hn).symm.eq_nil, fun e => (e ▸ hn).eq_nil⟩
    show aggSum vs = aggSum ws
    unfold aggSum
    by_cases e : nonNull vs = []
    · rw [if_pos e, if_pos (hnil.1 e)]
    · rw [if_neg e, if_neg (mt hnil.2 e), perm_sum_int _ _ (hn.map Val.toInt)]
  | min => exact extremum_perm .lt (Or.inl rfl) hn
  | max => exact extremum_perm .gt (Or.inr rfl) hn

/-- and so do the ENV aggregates -/
theorem env_aggs_perm {c : Cfg} (ok : c.Ok) (vs ws : List Val) (h : List.Perm vs ws) :
    envCount c vs = envCount c ws ∧ envSum c vs = envSum c ws
    ∧ envMin c vs = envMin c ws ∧ envMax c vs = envMax c ws := by
  simp only [envCount_eq ok, envSum_eq ok, envMin_eq ok, envMax_eq ok]
  exact ⟨aggFn_perm .count vs ws h, aggFn_perm .sum vs ws h, aggFn_perm .min vs ws h, aggFn_perm .max vs ws h⟩

end SqlglotModel.Exec
