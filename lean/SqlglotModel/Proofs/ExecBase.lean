/-
  C11: what the proofs about the executor's core share.  `Cfg.Ok`: what they use of a configuration, and `stdCfg` has
  it.  Facts about list functions of the reference semantics and of the model that several of the subjects meet:
  `stableSort` permutes and commutes with maps, `dedup`, the cut `takeCap`, the LIMIT / OFFSET slice.
-/
import SqlglotModel.Model.Exec

namespace SqlglotModel.Exec
open SqlglotModel.Sem

/-- what the proofs use of a configuration, and all they use: FIRST sorts before LAST, the constants of aggregate()'s
    loop, the six comparison entries of ENV under the names PythonGenerator emits, the side tuples of
    `_append_unmatched_join_rows`, the empty_null flags of the ENV aggregates -/
structure Cfg.Ok (c : Cfg) : Prop where
  first_lt_last : c.first < c.last
  aggStart : c.aggStart = 0
  aggEnd : c.aggEnd = 1
  aggEmitOff : c.aggEmitOff = 2
  aggStartOff : c.aggStartOff = 2
  aggLastOff : c.aggLastOff = 1
  cmpOps : ∀ op, lookup (cmpName op) c.cmpOps = some op
  leftSides : ∀ side, c.leftSides.contains (sideStr side) = side.keepsLeft
  rightSides : ∀ side, c.rightSides.contains (sideStr side) = side.keepsRight
  countEmptyNull : c.countEmptyNull = false
  sumEmptyNull : c.sumEmptyNull = true
  minEmptyNull : c.minEmptyNull = true
  maxEmptyNull : c.maxEmptyNull = true

theorem stdCfg_ok : stdCfg.Ok where
  first_lt_last := Nat.zero_lt_one
  aggStart := rfl
  aggEnd := rfl
  aggEmitOff := rfl
  aggStartOff := rfl
  aggLastOff := rfl
  cmpOps op := by cases op <;> decide
  leftSides side := by cases side <;> decide
  rightSides side := by cases side <;> decide
  countEmptyNull := rfl
  sumEmptyNull := rfl
  minEmptyNull := rfl
  maxEmptyNull := rfl

theorem cmp_eq_iff (a b : Val) : Val.cmp a b = .eq ↔ a = b := by
  cases a <;> cases b <;> simp [Val.cmp, Val.tag]

theorem insertSorted_perm {α} (le : α → α → Bool) (x : α) (l : List α) : List.Perm (insertSorted le x l) (x :: l) := by
  induction l with
  | nil => exact List.Perm.refl _
  | cons y ys ih =>
    simp only [insertSorted]
    split
    · exact List.Perm.refl _
    · exact ((List.Perm.cons y ih).trans (List.Perm.swap x y ys))

theorem stableSort_perm {α} (l : List α) (le : α → α → Bool) : List.Perm (stableSort le l) l := by
  induction l with
  | nil => exact List.Perm.refl _
  | cons x xs ih => exact (insertSorted_perm le x _).trans (List.Perm.cons x ih)

theorem map_insertSorted {α β} {r : α → α → Bool} {s : β → β → Bool} {f : α → β} (x : α) (l : List α)
    (h : ∀ y ∈ l, r x y = s (f x) (f y)) : (insertSorted r x l).map f = insertSorted s (f x) (l.map f) := by
  induction l with
  | nil => rfl
  | cons y ys ih =>
    simp only [insertSorted, List.map_cons]
    rw [h y (by simp)]
    split
    · rfl
    · simp only [List.map_cons, ih (fun z hz => h z (by simp [hz]))]

theorem map_stableSort {α β} {r : α → α → Bool} {s : β → β → Bool} {f : α → β} {l : List α}
    (hxs : ∀ a ∈ l, ∀ b ∈ l, r a b = s (f a) (f b)) : (stableSort r l).map f = stableSort s (l.map f) := by
  induction l with
  | nil => rfl
  | cons x xs ih =>
    simp only [stableSort, List.map_cons]
    rw [map_insertSorted x _ (fun y hy => hxs x (by simp) y (by simp [(stableSort_perm xs r).mem_iff.1 hy]))]
    rw [ih (fun a ha b hb => hxs a (by simp [ha]) b (by simp [hb]))]

theorem stableSort_of_pairwise {α} {le : α → α → Bool} {l : List α} (h : l.Pairwise fun a b => le a b = true) :
    stableSort le l = l := by
  induction l with
  | nil => rfl
  | cons x xs ih =>
    rw [List.pairwise_cons] at h
    simp only [stableSort, ih h.2]
    cases xs with
    | nil => rfl
    | cons y ys => simp only [insertSorted]; rw [if_pos (h.1 y (by simp))]

theorem mem_dedup {α} [DecidableEq α] (l : List α) (x : α) : x ∈ dedup l ↔ x ∈ l := by
  induction l with
  | nil => simp [dedup]
  | cons a l ih =>
    simp only [dedup, List.mem_cons, List.mem_filter, ih, decide_eq_true_eq]
    constructor
    · rintro (h | ⟨h, _⟩)
      · exact Or.inl h
      · exact Or.inr h
    · rintro (h | h)
      · exact Or.inl h
      · by_cases hx : x = a
        · exact Or.inl hx
        · exact Or.inr ⟨h, hx⟩

theorem nodup_dedup {α} [DecidableEq α] (l : List α) : (dedup l).Nodup := by
  induction l with
  | nil => simp [dedup]
  | cons a l ih =>
    simp only [dedup, List.nodup_cons]
    constructor
    · simp [List.mem_filter]
    · exact List.Pairwise.filter _ ih

theorem dedup_count (l : List Row) (r : Row) : List.count r (dedup l) = if r ∈ l then 1 else 0 := by
  rw [(nodup_dedup l).count]
  simp only [mem_dedup]

theorem dedup_perm {α} [DecidableEq α] (l1 l2 : List α) (h : List.Perm l1 l2) : List.Perm (dedup l1) (dedup l2) := by
  rw [List.perm_ext_iff_of_nodup (nodup_dedup l1) (nodup_dedup l2)]
  intro a
  rw [mem_dedup, mem_dedup]
  exact h.mem_iff

theorem dedup_const_prefix {α} [DecidableEq α] (k : α) (l m : List α) (hl : ∀ x ∈ l, x = k) (hne : l ≠ []) (hk : ¬ k ∈ m) :
    dedup (l ++ m) = k :: dedup m := by
  have hfilter : (dedup m).filter (fun x => decide (x ≠ k)) = dedup m := by
    rw [List.filter_eq_self]
    intro x hx
    rw [mem_dedup] at hx
    simp only [decide_eq_true_eq]
    intro e; subst e; exact hk hx
  induction l with
  | nil => exact absurd rfl hne
  | cons x l ih =>
    have hx : x = k := hl x (by simp)
    subst hx
    cases l with
    | nil => simp only [List.cons_append, List.nil_append, dedup]; rw [hfilter]
    | cons y l' =>
      have := ih (fun z hz => hl z (by simp [hz])) (by simp)
      simp only [List.cons_append, dedup] at this ⊢
      rw [this]
      simp only [List.filter_cons, ne_eq, not_true, decide_false, Bool.false_eq_true, if_false]
      rw [hfilter]

theorem dedup_const {α} [DecidableEq α] (k : α) (l : List α) (hne : l ≠ []) (h : ∀ x ∈ l, x = k) : dedup l = [k] := by
  have := dedup_const_prefix k l [] h hne (by simp)
  simpa [dedup] using this

theorem dedup_of_nodup {α} [DecidableEq α] (l : List α) (h : l.Nodup) : dedup l = l := by
  induction l with
  | nil => rfl
  | cons a l ih =>
    rw [List.nodup_cons] at h
    simp only [dedup, ih h.2]
    congr 1
    rw [List.filter_eq_self]
    intro x hx
    simp only [decide_eq_true_eq]
    intro e; subst e; exact h.1 hx

/-- the rows a loop with the break `len(sink) >= cap` lets through: all of them without a cap -/
def takeCap (cap : Option Nat) (rows : List Row) : List Row :=
  match cap with | none => rows | some n => rows.take n

theorem takeCap_of_le {cap : Option Nat} {l : List Row} (h : ∀ n, cap = some n → l.length ≤ n) : takeCap cap l = l := by
  cases cap with
  | none => rfl
  | some n => exact List.take_of_length_le (h n rfl)

theorem lt_of_not_capReached {cap : Option Nat} {l : List Row} (h : capReached cap l = false) :
    ∀ n, cap = some n → l.length < n := by
  intro n hn; subst hn; simpa [capReached] using h

theorem length_snoc_le {cap : Option Nat} {l : List Row} (h : capReached cap l = false) (x : Row) :
    ∀ n, cap = some n → (l ++ [x]).length ≤ n := fun n hn => by
  rw [List.length_append]; exact lt_of_not_capReached h n hn

theorem takeCap_reached {cap : Option Nat} {l : List Row} (m : List Row) (h : capReached cap l = true)
    (hle : ∀ n, cap = some n → l.length ≤ n) : takeCap cap (l ++ m) = l := by
  cases cap with
  | none => cases h
  | some n =>
    have := hle n rfl
    simp only [capReached, ge_iff_le, decide_eq_true_eq] at h
    exact List.take_left' (Nat.le_antisymm this h)

theorem slice_limit_offset (limit : Option Nat) (offset : Nat) (rows : List Row) :
    sliceLimitOffset limit offset rows = limitOffset limit offset rows := by
  cases limit with
  | none => rfl
  | some n =>
    simp only [sliceLimitOffset, limitOffset]
    rw [List.drop_take, Nat.add_sub_cancel_left]

/-- a step cuts at `offset + limit`, `_execute` then drops `offset` rows: together the LIMIT / OFFSET slice -/
theorem drop_takeCap (limit : Option Nat) (offset : Nat) (rows : List Row) :
    (takeCap (capOf limit offset) rows).drop offset = limitOffset limit offset rows := by
  cases limit with
  | none => rfl
  | some n => exact slice_limit_offset (some n) offset rows

end SqlglotModel.Exec
