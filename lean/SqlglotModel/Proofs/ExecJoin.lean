/-
  C11, joins.  nested_loop_join is the reference join row for row (its index sets say what `any` says).  hash_join's
  buckets hold, for each NULL-free key, the entries of that key (`buildWith` for both builders), so its pairs are a
  permutation of the nested loop's pairs for ON keys equal AND residual.
-/
import SqlglotModel.Proofs.ExecBase
import SqlglotModel.Proofs.List

namespace SqlglotModel.Exec
open SqlglotModel.Sem

theorem enumFrom_eq_zipIdx {α} (n : Nat) (l : List α) : enumFrom n l = (l.zipIdx n).map Prod.swap := by
  induction l generalizing n with
  | nil => rfl
  | cons b l ih => rw [enumFrom, ih]; rfl

theorem mem_enumFrom {α} (l : List α) (n i : Nat) (a : α) :
    (i, a) ∈ enumFrom n l ↔ n ≤ i ∧ l[i - n]? = some a := by
  rw [enumFrom_eq_zipIdx, ← List.mk_mem_zipIdx_iff_le_and_getElem?_sub, List.mem_map]
  exact ⟨fun ⟨⟨x, j⟩, hp, e⟩ => by cases e; exact hp, fun h => ⟨(a, i), h, rfl⟩⟩

theorem enumFrom_fst_inj {α} (l : List α) (n i : Nat) (a b : α)
    (ha : (i, a) ∈ enumFrom n l) (hb : (i, b) ∈ enumFrom n l) : a = b := by
  rw [mem_enumFrom] at ha hb
  have := ha.2.symm.trans hb.2
  simpa using this

theorem enumFrom_map_snd {α} (l : List α) (n : Nat) : (enumFrom n l).map (·.2) = l := by
  rw [enumFrom_eq_zipIdx, List.map_map]
  exact List.zipIdx_map_fst n l

theorem mem_enumFrom_snd {α} (l : List α) (n : Nat) (a : α) : (∃ i, (i, a) ∈ enumFrom n l) ↔ a ∈ l := by
  constructor
  · rintro ⟨i, h⟩
    have : a ∈ (enumFrom n l).map (·.2) := List.mem_map.2 ⟨(i, a), h, rfl⟩
    rwa [enumFrom_map_snd] at this
  · intro h
    rw [← enumFrom_map_snd l n] at h
    obtain ⟨⟨i, b⟩, hm, rfl⟩ := List.mem_map.1 h
    exact ⟨i, hm⟩

theorem nodup_enumFrom {α} (l : List α) (n : Nat) : (enumFrom n l).Nodup := by
  induction l generalizing n with
  | nil => simp [enumFrom]
  | cons b l ih =>
    simp only [enumFrom, List.nodup_cons]
    refine ⟨?_, ih _⟩
    intro h
    rw [mem_enumFrom] at h
    exact Nat.not_succ_le_self n h.1

theorem enum_filter_map {α β} (l : List α) (n : Nat) (p : α → Bool) (f : α → β) :
    ((enumFrom n l).filter (fun e => p e.2)).map (fun e => f e.2) = (l.filter p).map f := by
  induction l generalizing n with
  | nil => rfl
  | cons b l ih =>
    simp only [enumFrom, List.filter_cons]
    split <;> simp [ih]

theorem enum_flatMap {α β} (l : List α) (n : Nat) (f : α → List β) :
    (enumFrom n l).flatMap (fun e => f e.2) = l.flatMap f := by
  induction l generalizing n with
  | nil => rfl
  | cons b l ih => simp [enumFrom, ih]

theorem nestedHits_rows (m : Row → Row → Bool) (L R : List Row) :
    (nestedHits m L R).map (fun h => h.1.2 ++ h.2.2) = matchesOf m L R := by
  unfold nestedHits matchesOf
  rw [List.map_flatMap, ← enum_flatMap L 0]
  congr 1
  funext s
  rw [List.map_map]
  exact enum_filter_map R 0 (m s.2) (fun r => s.2 ++ r)

theorem mem_nestedHits (m : Row → Row → Bool) (L R : List Row) (h : Hit) :
    h ∈ nestedHits m L R ↔ h.1 ∈ enumFrom 0 L ∧ h.2 ∈ enumFrom 0 R ∧ m h.1.2 h.2.2 = true := by
  unfold nestedHits
  simp only [List.mem_flatMap, List.mem_map, List.mem_filter]
  constructor
  · rintro ⟨s, hs, j, ⟨hj, hm⟩, rfl⟩
    exact ⟨hs, hj, hm⟩
  · rintro ⟨h1, h2, h3⟩
    exact ⟨h.1, h1, h.2, ⟨h2, h3⟩, rfl⟩

/-- a left row's index is among the hits iff some right row matches it.  `matchedJn_iff` is the mirror image.  It is
    proved the same way and not from this one: `contains` sees membership only, but the hits of the swapped join are
    these hits swapped, which takes `mem_nestedHits` on both sides to say -/
theorem matchedSrc_iff (m : Row → Row → Bool) (L R : List Row) (i : Nat) (l : Row) (he : (i, l) ∈ enumFrom 0 L) :
    ((nestedHits m L R).map (·.1.1)).contains i = R.any (m l) := by
  rw [Bool.eq_iff_iff]
  simp only [List.contains_iff_mem, List.mem_map, List.any_eq_true, mem_nestedHits]
  constructor
  · rintro ⟨h, ⟨h1, h2, h3⟩, rfl⟩
    have : h.1.2 = l := enumFrom_fst_inj L 0 h.1.1 _ _ h1 he
    rw [this] at h3
    exact ⟨h.2.2, (mem_enumFrom_snd R 0 _).1 ⟨h.2.1, h2⟩, h3⟩
  · rintro ⟨r, hr, hm⟩
    obtain ⟨j, hj⟩ := (mem_enumFrom_snd R 0 r).2 hr
    exact ⟨((i, l), (j, r)), ⟨he, hj, hm⟩, rfl⟩

theorem matchedJn_iff (m : Row → Row → Bool) (L R : List Row) (j : Nat) (r : Row) (he : (j, r) ∈ enumFrom 0 R) :
    ((nestedHits m L R).map (·.2.1)).contains j = L.any (m · r) := by
  rw [Bool.eq_iff_iff]
  simp only [List.contains_iff_mem, List.mem_map, List.any_eq_true, mem_nestedHits]
  constructor
  · rintro ⟨h, ⟨h1, h2, h3⟩, rfl⟩
    have : h.2.2 = r := enumFrom_fst_inj R 0 h.2.1 _ _ h2 he
    rw [this] at h3
    exact ⟨h.1.2, (mem_enumFrom_snd L 0 _).1 ⟨h.1.1, h1⟩, h3⟩
  · rintro ⟨l, hl, hm⟩
    obtain ⟨i, hi⟩ := (mem_enumFrom_snd L 0 l).2 hl
    exact ⟨((i, l), (j, r)), ⟨hi, he, hm⟩, rfl⟩

/-- nested_loop_join (index sets, unmatched rows appended with NULL padding computed from the first row) is the
    reference join, row for row in the same order -/
theorem nestedLoopJoin_eq_join {c : Cfg} (ok : c.Ok) (side : Side) (m : Row → Row → Bool) (wS wJ : Nat) (L R : List Row)
    (hL : ∀ l ∈ L, l.length = wS) (hR : ∀ r ∈ R, r.length = wJ) :
    nestedLoopJoin c (sideStr side) (wS + wJ) m L R = join side m wS wJ L R := by
  unfold nestedLoopJoin finishJoin join appendUnmatched
  rw [nestedHits_rows, List.append_assoc, ok.leftSides, ok.rightSides]
  congr 1
  congr 1
  · cases side.keepsLeft with
    | false => rfl
    | true =>
      rw [if_pos rfl, if_pos rfl, leftUnmatched, ← enum_filter_map L 0 (fun l => !R.any (m l)),
        List.filter_congr fun e he => by rw [matchedSrc_iff m L R e.1 e.2 he]]
      cases L with
      | nil => rfl
      | cons l0 L' =>
        show List.map (fun e : Nat × Row => e.2 ++ nulls (wS + wJ - l0.length)) _ = _
        rw [hL l0 List.mem_cons_self, Nat.add_sub_cancel_left]
  · cases side.keepsRight with
    | false => rfl
    | true =>
      rw [if_pos rfl, if_pos rfl, rightUnmatched, ← enum_filter_map R 0 (fun r => !L.any (m · r)),
        List.filter_congr fun e he => by rw [matchedJn_iff m L R e.1 e.2 he]]
      cases R with
      | nil => rfl
      | cons r0 R' =>
        show List.map (fun e : Nat × Row => nulls (wS + wJ - r0.length) ++ e.2) _ = _
        rw [hR r0 List.mem_cons_self, Nat.add_sub_cancel]

theorem nested_loop_join_spec (side : Side) (m : Row → Row → Bool) (wS wJ : Nat) (L R : List Row)
    (hL : ∀ l ∈ L, l.length = wS) (hR : ∀ r ∈ R, r.length = wJ) :
    nestedLoopJoin stdCfg (sideStr side) (wS + wJ) m L R = join side m wS wJ L R :=
  nestedLoopJoin_eq_join stdCfg_ok side m wS wJ L R hL hR

theorem touch_nodup (d : Buckets) (k : Key) (h : d.keys.Nodup) : (d.touch k).Nodup := by
  unfold Buckets.touch
  by_cases hc : d.keys.contains k = true
  · rw [if_pos hc]; exact h
  · rw [if_neg hc]
    have hn : ¬ k ∈ d.keys := by simpa using hc
    rw [List.nodup_append]
    refine ⟨h, by simp, ?_⟩
    intro a ha b hb
    simp at hb; subst hb
    intro e; subst e; exact hn ha

theorem mem_touch (d : Buckets) (k k' : Key) : k' ∈ d.touch k ↔ k' ∈ d.keys ∨ k' = k := by
  unfold Buckets.touch
  by_cases hc : d.keys.contains k = true
  · rw [if_pos hc]
    have hm : k ∈ d.keys := by simpa using hc
    constructor
    · exact Or.inl
    · rintro (h | rfl)
      · exact h
      · exact hm
  · rw [if_neg hc]; simp

/-- the common shape of `buildSrc` and `buildJn`: every entry with a NULL-free key goes into its key's bucket -/
def buildWith (add : Buckets → Key → Nat × Row → Buckets) (kf : Row → Key) : List (Nat × Row) → Buckets → Buckets
  | [], d => d
  | e :: es, d => buildWith add kf es (if keyOk (kf e.2) then add d (kf e.2) e else d)

theorem buildSrc_eq (ks : Row → Key) (es : List (Nat × Row)) (d : Buckets) :
    buildSrc ks es d = buildWith Buckets.addSrc ks es d := by
  induction es generalizing d with
  | nil => rfl
  | cons e es ih => exact ih _

theorem buildJn_eq (kj : Row → Key) (es : List (Nat × Row)) (d : Buckets) :
    buildJn kj es d = buildWith Buckets.addJn kj es d := by
  induction es generalizing d with
  | nil => rfl
  | cons e es ih => exact ih _

/-- the keys stay duplicate-free, none is lost, and every entry with a NULL-free key finds its key among them (the
    induction needs the three together) -/
theorem buildWith_keys {add : Buckets → Key → Nat × Row → Buckets} (kf : Row → Key)
    (hadd : ∀ d k e, (add d k e).keys = d.touch k) (es : List (Nat × Row)) (d : Buckets)
    (hd : d.keys.Nodup) :
    (buildWith add kf es d).keys.Nodup ∧ (∀ k ∈ d.keys, k ∈ (buildWith add kf es d).keys)
      ∧ ∀ e ∈ es, keyOk (kf e.2) = true → kf e.2 ∈ (buildWith add kf es d).keys := by
  induction es generalizing d with
  | nil => exact ⟨hd, fun _ h => h, nofun⟩
  | cons e es ih =>
    rw [buildWith]
    split
    · obtain ⟨h1, h2, h3⟩ := ih (add d (kf e.2) e) (hadd d _ e ▸ touch_nodup d _ hd)
      have hin : ∀ k, k ∈ d.keys ∨ k = kf e.2 → k ∈ (buildWith add kf es (add d (kf e.2) e)).keys :=
        fun k hk => h2 k (hadd d _ e ▸ (mem_touch d _ k).2 hk)
      refine ⟨h1, fun k hk => hin k (Or.inl hk), fun e' he' hok' => ?_⟩
      rcases List.mem_cons.1 he' with rfl | he'
      · exact hin _ (Or.inr rfl)
      · exact h3 e' he' hok'
    · next hok =>
      obtain ⟨h1, h2, h3⟩ := ih d hd
      refine ⟨h1, h2, fun e' he' hok' => ?_⟩
      rcases List.mem_cons.1 he' with rfl | he'
      · exact absurd hok' hok
      · exact h3 e' he' hok'

theorem buildWith_get {add : Buckets → Key → Nat × Row → Buckets} (kf : Row → Key)
    {f : List (Nat × Row) × List (Nat × Row) → Nat × Row → List (Nat × Row) × List (Nat × Row)}
    (hadd : ∀ d k e k', (add d k e).get k' = if k' = k then f (d.get k) e else d.get k')
    (es : List (Nat × Row)) (d : Buckets) (k : Key) :
    (buildWith add kf es d).get k = (es.filter fun e => keyOk (kf e.2) && (kf e.2 == k)).foldl f (d.get k) := by
  induction es generalizing d with
  | nil => rfl
  | cons e es ih =>
    rw [buildWith, ih, List.filter_cons]
    by_cases hok : keyOk (kf e.2) = true
    · rw [if_pos hok, hadd, hok, Bool.true_and]
      by_cases hk : kf e.2 = k
      · rw [if_pos hk.symm, hk, beq_self_eq_true, if_pos rfl]; rfl
      · rw [if_neg (Ne.symm hk), beq_false_of_ne hk, if_neg Bool.false_ne_true]
    · rw [if_neg hok, Bool.eq_false_iff.2 hok, Bool.false_and, if_neg Bool.false_ne_true]

/-- appending one entry at a time to a component of the bucket appends the list -/
theorem foldl_snoc_fst {α β} (l : List α) (p : List α × β) : l.foldl (fun p e => (p.1 ++ [e], p.2)) p = (p.1 ++ l, p.2) := by
  induction l generalizing p with
  | nil => simp
  | cons e l ih => simp [ih]

theorem foldl_snoc_snd {α β} (l : List β) (p : α × List β) : l.foldl (fun p e => (p.1, p.2 ++ [e])) p = (p.1, p.2 ++ l) := by
  induction l generalizing p with
  | nil => simp
  | cons e l ih => simp [ih]

theorem buildSrc_get (ks : Row → Key) (es : List (Nat × Row)) (d : Buckets) (k : Key) :
    (buildSrc ks es d).get k
      = ((d.get k).1 ++ es.filter (fun e => keyOk (ks e.2) && (ks e.2 == k)), (d.get k).2) := by
  rw [buildSrc_eq, buildWith_get ks (f := fun p e => (p.1 ++ [e], p.2)) (fun _ _ _ _ => rfl), foldl_snoc_fst]

theorem buildJn_get (kj : Row → Key) (es : List (Nat × Row)) (d : Buckets) (k : Key) :
    (buildJn kj es d).get k
      = ((d.get k).1, (d.get k).2 ++ es.filter (fun e => keyOk (kj e.2) && (kj e.2 == k))) := by
  rw [buildJn_eq, buildWith_get kj (f := fun p e => (p.1, p.2 ++ [e])) (fun _ _ _ _ => rfl), foldl_snoc_snd]

theorem mem_product {α β} (a : List α) (b : List β) (x : α × β) : x ∈ product a b ↔ x.1 ∈ a ∧ x.2 ∈ b := by
  unfold product
  simp only [List.mem_flatMap, List.mem_map]
  constructor
  · rintro ⟨y, hy, z, hz, rfl⟩; exact ⟨hy, hz⟩
  · rintro ⟨h1, h2⟩; exact ⟨x.1, h1, x.2, h2, rfl⟩

theorem nodup_flatMap_pair {α β} {a : List α} {g : α → List β} (ha : a.Nodup) (hg : ∀ x, (g x).Nodup) :
    (a.flatMap fun x => (g x).map fun y => (x, y)).Nodup :=
  nodup_flatMap_map (ha.imp fun h _ _ e => h (congrArg Prod.fst e))
    fun x _ => (hg x).map _ fun _ _ h e => h (congrArg Prod.snd e)

theorem nodup_product {α β} (a : List α) (b : List β) (ha : a.Nodup) (hb : b.Nodup) : (product a b).Nodup :=
  nodup_flatMap_pair ha fun _ => hb

theorem nodup_nestedHits (m : Row → Row → Bool) (L R : List Row) : (nestedHits m L R).Nodup :=
  nodup_flatMap_pair (nodup_enumFrom L 0) fun _ => (nodup_enumFrom R 0).filter _

theorem hashPairs_perm (ks kj : Row → Key) (L R : List Row) :
    List.Perm (hashPairs ks kj L R) (nestedHits (keyMatch ks kj) L R) := by
  have hS := buildWith_keys (add := Buckets.addSrc) ks (fun _ _ _ => rfl) (enumFrom 0 L) Buckets.empty
    (by simp [Buckets.empty])
  rw [← buildSrc_eq] at hS
  have hJ := buildWith_keys (add := Buckets.addJn) kj (fun _ _ _ => rfl) (enumFrom 0 R) _ hS.1
  rw [← buildJn_eq] at hJ
  have hget : ∀ k, (buildJn kj (enumFrom 0 R) (buildSrc ks (enumFrom 0 L) Buckets.empty)).get k
      = ((enumFrom 0 L).filter (fun e => keyOk (ks e.2) && (ks e.2 == k)),
         (enumFrom 0 R).filter (fun e => keyOk (kj e.2) && (kj e.2 == k))) := by
    intro k
    rw [buildJn_get, buildSrc_get]
    simp [Buckets.empty]
  rw [List.perm_ext_iff_of_nodup]
  · intro h
    rw [mem_nestedHits]
    unfold hashPairs
    simp only [List.mem_flatMap, hget, mem_product, List.mem_filter, Bool.and_eq_true, beq_iff_eq]
    constructor
    · rintro ⟨k, _, ⟨h1, h2, h3⟩, ⟨h4, h5, h6⟩⟩
      refine ⟨h1, h4, ?_⟩
      simp only [keyMatch, h2, h5, Bool.and_self, Bool.true_and, beq_iff_eq]
      exact h3.trans h6.symm
    · rintro ⟨h1, h2, h3⟩
      simp only [keyMatch, Bool.and_eq_true, beq_iff_eq] at h3
      refine ⟨ks h.1.2, ?_, ⟨h1, h3.1.1, rfl⟩, ⟨h2, h3.1.2, h3.2.symm⟩⟩
      exact hJ.2.1 _ (hS.2.2 h.1 h1 h3.1.1)
  · unfold hashPairs List.Nodup
    rw [List.pairwise_flatMap]
    constructor
    · intro k _
      rw [hget]
      exact nodup_product _ _ (List.Pairwise.filter _ (nodup_enumFrom L 0)) (List.Pairwise.filter _ (nodup_enumFrom R 0))
    · exact List.Pairwise.imp (fun {k1 k2} (hne : k1 ≠ k2) p hp q hq e => by
        rw [hget, mem_product] at hp hq
        simp only [List.mem_filter, Bool.and_eq_true, beq_iff_eq] at hp hq
        subst e
        exact hne (hp.1.2.2.symm.trans hq.1.2.2)) hJ.1
  · exact nodup_nestedHits _ L R

theorem nestedHits_and (a b : Row → Row → Bool) (L R : List Row) :
    nestedHits (fun l r => a l r && b l r) L R = (nestedHits a L R).filter (fun h => b h.1.2 h.2.2) := by
  unfold nestedHits
  rw [List.filter_flatMap]
  congr 1
  funext s
  rw [List.filter_map, List.filter_filter]
  congr 1
  congr 1
  funext j
  simp [Bool.and_comm]

theorem finishJoin_perm (c : Cfg) (side : String) (width : Nat) (L R : List Row) (h1 h2 : List Hit)
    (hp : List.Perm h1 h2) : List.Perm (finishJoin c side width L R h1) (finishJoin c side width L R h2) := by
  unfold finishJoin
  have hc : ∀ (f : Hit → Nat) i, (h1.map f).contains i = (h2.map f).contains i := fun f i => by
    rw [Bool.eq_iff_iff, List.contains_iff_mem, List.contains_iff_mem]; exact (hp.map f).mem_iff
  have : appendUnmatched c side width L R (h1.map (·.1.1)) (h1.map (·.2.1))
       = appendUnmatched c side width L R (h2.map (·.1.1)) (h2.map (·.2.1)) := by
    unfold appendUnmatched
    simp only [hc]
  rw [this]
  exact (hp.map _).append_right _

/-- hash_join returns the rows of nested_loop_join for ON k = k' AND residual, up to order, for every side -/
theorem hash_join_perm_nested (c : Cfg) (side : String) (width : Nat) (ks kj : Row → Key) (cond : Option (Row → Val))
    (L R : List Row) :
    List.Perm (hashJoin c side width ks kj cond L R)
      (nestedLoopJoin c side width (fun l r => keyMatch ks kj l r && joinMatches cond (l ++ r)) L R) := by
  unfold hashJoin nestedLoopJoin
  apply finishJoin_perm
  rw [nestedHits_and]
  exact (hashPairs_perm ks kj L R).filter _

end SqlglotModel.Exec
