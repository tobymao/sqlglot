/-
  C11, three-valued logic.  env.sql_and / sql_or / sql_not / sql_in and the null_if_any comparisons are given as values
  (`triVal` of a Kleene connective of the operands' `toTri`), after which a statement over all of `Tri` is closed by
  `decide`.  The quantified comparisons of the reference semantics (ANY / ALL / IN / NOT IN), with one invariant
  (`subqLoop_eq`) for the loops of `_subquery_comparison` and `sql_in`; the predicates PythonGenerator emits (`eval_spec`).
-/
import SqlglotModel.Proofs.ExecBase

namespace SqlglotModel.Exec
open SqlglotModel.Sem

theorem norm_eq (v : Val) : norm v = triVal (toTri v) := by cases v <;> rfl

theorem toTri_triVal (t : Tri) : toTri (triVal t) = t := by rcases t with _ | _ | _ <;> rfl

theorem truthy_triVal (t : Tri) : truthy (triVal t) = decide (t = some true) := by
  cases t with
  | none => rfl
  | some b => cases b <;> rfl

instance {p : Tri → Prop} [DecidablePred p] : Decidable (∀ t, p t) :=
  decidable_of_iff (p none ∧ p (some true) ∧ p (some false))
    ⟨fun h t => by rcases t with _ | _ | _ <;> simp [h], fun h => ⟨h _, h _, h _⟩⟩

theorem sqlNot_eq (a : Val) : sqlNot a = triVal (not3 (toTri a)) := by cases a <;> rfl

theorem sqlAnd_eq (a b : Val) : sqlAnd a b = triVal (and3 (toTri a) (toTri b)) := by
  simp only [sqlAnd, norm_eq]
  generalize toTri a = x
  generalize toTri b = y
  revert x y
  decide

theorem sqlOr_eq (a b : Val) : sqlOr a b = triVal (or3 (toTri a) (toTri b)) := by
  simp only [sqlOr, norm_eq]
  generalize toTri a = x
  generalize toTri b = y
  revert x y
  decide

theorem sqlNot_spec (a : Val) : toTri (sqlNot a) = not3 (toTri a) := by rw [sqlNot_eq, toTri_triVal]

theorem sqlAnd_spec (a b : Val) : toTri (sqlAnd a b) = and3 (toTri a) (toTri b) := by rw [sqlAnd_eq, toTri_triVal]

theorem sqlOr_spec (a b : Val) : toTri (sqlOr a b) = or3 (toTri a) (toTri b) := by rw [sqlOr_eq, toTri_triVal]

/-- `sql_and(a, b) is True` iff both operands are truthy -/
theorem sqlAnd_is_true (a b : Val) : sqlAnd a b = .bool true ↔ (toTri a = some true ∧ toTri b = some true) := by
  rw [sqlAnd_eq]
  generalize toTri a = x
  generalize toTri b = y
  revert x y
  decide

theorem cmp3_null_left (op : CmpOp) (x : Val) : cmp3 op .null x = none := rfl

theorem cmp3_null_right (op : CmpOp) (v : Val) : cmp3 op v .null = none := by cases v <;> rfl

theorem cmp3_of_ne_null {op : CmpOp} {v x : Val} (hv : v ≠ .null) (hx : x ≠ .null) :
    cmp3 op v x = some (op.test (Val.cmp v x)) := by
  cases v <;> cases x <;> first | rfl | contradiction

theorem cmp3_eq_eq {v x : Val} (hv : v ≠ .null) (hx : x ≠ .null) : cmp3 .eq v x = some (decide (v = x)) := by
  rw [cmp3_of_ne_null hv hx]
  by_cases h : v = x
  · rw [(cmp_eq_iff v x).2 h, decide_eq_true h]; rfl
  · have : Val.cmp v x ≠ .eq := fun e => h ((cmp_eq_iff v x).1 e)
    rw [decide_eq_false h]
    cases hc : Val.cmp v x <;> first | rfl | exact absurd hc this

theorem cmp3_eq_some_iff (v x : Val) (b : Bool) :
    cmp3 .eq v x = some b ↔ (v ≠ .null ∧ x ≠ .null ∧ decide (v = x) = b) := by
  by_cases hv : v = .null
  · subst hv; simp [cmp3_null_left]
  by_cases hx : x = .null
  · subst hx; simp [cmp3_null_right]
  simp [cmp3_eq_eq hv hx, hv, hx]

theorem nullIfAny_cmp (op : CmpOp) (x y : Val) : nullIfAny2 (pyCmp op) x y = triVal (cmp3 op x y) := by
  cases x <;> cases y <;> simp [nullIfAny2, cmp3, triVal, pyCmp]

theorem envBin_of_lookup {c : Cfg} {name : String} {op : CmpOp} (h : lookup name c.cmpOps = some op) (x y : Val) :
    envBin c name x y = some (triVal (cmp3 op x y)) := by
  simp only [envBin, h, nullIfAny_cmp]

/-- whatever name ENV binds to a comparison (not `EQ` alone), the entry computes SQL's three-valued comparison -/
theorem eq_spec (c : Cfg) (name : String) (op : CmpOp) (h : lookup name c.cmpOps = some op) (a b : Val) :
    (envBin c name a b).map toTri = some (cmp3 op a b) := by
  rw [envBin_of_lookup h, Option.map_some, toTri_triVal]

theorem envBin_cmp {c : Cfg} (ok : c.Ok) (op : CmpOp) (x y : Val) :
    envBin c (cmpName op) x y = some (triVal (cmp3 op x y)) :=
  envBin_of_lookup (ok.cmpOps op) x y

theorem in3_eq_any3 (v : Val) (xs : List Val) : in3 v xs = any3 .eq v xs := by
  induction xs with
  | nil => rfl
  | cons x xs ih => rw [in3, any3, ih]

theorem null_probe_unknown (op : CmpOp) (xs : List Val) (h : xs ≠ []) :
    any3 op .null xs = none ∧ all3 op .null xs = none := by
  induction xs with
  | nil => exact absurd rfl h
  | cons x xs ih =>
    simp only [any3, all3, cmp3_null_left]
    cases xs with
    | nil => exact ⟨rfl, rfl⟩
    | cons y ys =>
      have := ih (by simp)
      rw [this.1, this.2]; exact ⟨rfl, rfl⟩

theorem not_in_empty_true (v : Val) : notInSub v [] = some true := rfl

theorem in_empty_false (v : Val) : inSub v [] = some false := rfl

theorem all_empty_true (op : CmpOp) (v : Val) : all3 op v [] = some true := rfl

theorem any_empty_false (op : CmpOp) (v : Val) : any3 op v [] = some false := rfl

theorem or3_eq_true {x y : Tri} : or3 x y = some true ↔ x = some true ∨ y = some true := by revert x y; decide

theorem or3_eq_false {x y : Tri} : or3 x y = some false ↔ x = some false ∧ y = some false := by revert x y; decide

theorem in_true_iff (v : Val) (xs : List Val) : inSub v xs = some true ↔ (v ≠ .null ∧ v ∈ xs) := by
  unfold inSub
  induction xs with
  | nil => simp [any3]
  | cons x xs ih =>
    rw [any3, or3_eq_true, ih, cmp3_eq_some_iff, List.mem_cons, decide_eq_true_eq]
    constructor
    · rintro (⟨hv, _, e⟩ | ⟨hv, hm⟩)
      · exact ⟨hv, Or.inl e⟩
      · exact ⟨hv, Or.inr hm⟩
    · rintro ⟨hv, e | hm⟩
      · exact Or.inl ⟨hv, e ▸ hv, e⟩
      · exact Or.inr ⟨hv, hm⟩

theorem in_false_iff (v : Val) (xs : List Val) : inSub v xs = some false ↔ (xs = [] ∨ (v ≠ .null ∧ ¬ .null ∈ xs ∧ ¬ v ∈ xs)) := by
  unfold inSub
  induction xs with
  | nil => simp [any3]
  | cons x xs ih =>
    rw [any3, or3_eq_false, ih, cmp3_eq_some_iff, decide_eq_false_iff_not]
    simp only [List.cons_ne_nil, false_or, List.mem_cons, not_or]
    constructor
    · rintro ⟨⟨hv, hx, hne⟩, rfl | ⟨_, h2, h3⟩⟩
      · exact ⟨hv, ⟨Ne.symm hx, List.not_mem_nil⟩, hne, List.not_mem_nil⟩
      · exact ⟨hv, ⟨Ne.symm hx, h2⟩, hne, h3⟩
    · rintro ⟨hv, ⟨hx, hn⟩, hne, hnm⟩
      exact ⟨⟨hv, Ne.symm hx, hne⟩, Or.inr ⟨hv, hn, hnm⟩⟩

theorem in_with_null_unknown_unless_match (v : Val) (xs : List Val) (hn : .null ∈ xs) (hm : ¬ v ∈ xs) :
    inSub v xs = none := by
  cases h : inSub v xs with
  | none => rfl
  | some b =>
    cases b with
    | true => exact absurd ((in_true_iff v xs).1 h).2 hm
    | false =>
      rcases (in_false_iff v xs).1 h with rfl | ⟨_, h2, _⟩
      · cases hn
      · exact absurd hn h2

theorem cmp3_ne (v x : Val) : cmp3 .ne v x = not3 (cmp3 .eq v x) := by cases v <;> cases x <;> rfl

/-- NOT IN is ∀ under three-valued logic (De Morgan for Kleene's connectives) -/
theorem not_in_is_all_ne (v : Val) (xs : List Val) : notInSub v xs = all3 .ne v xs := by
  unfold notInSub
  induction xs with
  | nil => rfl
  | cons x xs ih =>
    rw [any3, all3, ← ih, cmp3_ne]
    generalize cmp3 .eq v x = a
    generalize any3 .eq v xs = b
    revert a b
    decide

theorem tri_branch {α} (t : Tri) (isAny : Bool) (A B C : α) :
    (if triVal t = Val.null then A else if truthy (triVal t) = isAny then B else C)
      = match t with
        | none => A
        | some b => if b = isAny then B else C := by
  rcases t with _ | _ | _ <;> simp [triVal, truthy]

/-- the loop of `_subquery_comparison` from any state: a raised saw_null flag counts as one more UNKNOWN operand of the
    quantifier's Kleene connective -/
theorem subqLoop_eq (op : CmpOp) (isAny : Bool) (v : Val) (xs : List Val) (sn : Bool) :
    subqLoop (fun a b => triVal (cmp3 op a b)) isAny v xs sn
      = triVal (if isAny then or3 (any3 op v xs) (if sn then none else some false)
          else and3 (all3 op v xs) (if sn then none else some true)) := by
  induction xs generalizing sn with
  | nil => cases isAny <;> cases sn <;> rfl
  | cons x xs ih =>
    simp only [subqLoop, any3, all3]
    rw [tri_branch, ih true, ih sn]
    generalize cmp3 op v x = t
    generalize any3 op v xs = A
    generalize all3 op v xs = B
    clear ih
    revert t A B sn isAny
    decide

theorem sqlInLoop_eq_subqLoop (v : Val) (hv : v ≠ .null) (cs : List Val) (hn : Bool) :
    sqlInLoop v cs hn = subqLoop (fun a b => triVal (cmp3 .eq a b)) true v cs hn := by
  induction cs generalizing hn with
  | nil => rfl
  | cons c cs ih =>
    rw [sqlInLoop, subqLoop, ih, ih]
    by_cases hc : c = .null
    · subst hc
      rw [if_pos rfl, cmp3_null_right]
      exact (if_pos rfl).symm
    · rw [if_neg hc, cmp3_eq_eq hv hc]
      by_cases hvc : v = c <;> simp [hvc, triVal, truthy]

theorem sqlIn_eq (v : Val) (cs : List Val) (hcs : cs ≠ []) : sqlIn v cs = triVal (in3 v cs) := by
  unfold sqlIn
  by_cases hv : v = .null
  · subst hv
    rw [if_pos rfl, in3_eq_any3, (null_probe_unknown .eq cs hcs).1]; rfl
  · rw [if_neg hv, sqlInLoop_eq_subqLoop v hv, subqLoop_eq, if_pos rfl, in3_eq_any3]
    generalize any3 .eq v cs = x
    revert x
    decide

theorem sqlIn_spec (v : Val) (cs : List Val) (hcs : cs ≠ []) : toTri (sqlIn v cs) = in3 v cs := by
  rw [sqlIn_eq v cs hcs, toTri_triVal]

/-- `v op ANY/ALL (subquery)`: the early-exit loop with its saw_null flag is the Kleene disjunction / conjunction -/
theorem subqueryComparison_eq {c : Cfg} (ok : c.Ok) (op : CmpOp) (v : Val) (xs : List Val) :
    subqueryComparison c (cmpName op) "ANY" v xs = some (triVal (any3 op v xs))
    ∧ subqueryComparison c (cmpName op) "ALL" v xs = some (triVal (all3 op v xs)) := by
  have hf : nullIfAny2 (pyCmp op) = fun a b => triVal (cmp3 op a b) := by
    funext a b; exact nullIfAny_cmp op a b
  have hany : (("ANY" : String) == "ANY") = true := by decide
  have hall : (("ALL" : String) == "ANY") = false := by decide
  simp only [subqueryComparison, ok.cmpOps, hf, hany, hall, subqLoop_eq]
  generalize any3 op v xs = A
  generalize all3 op v xs = B
  revert A B
  decide

theorem subquery_comparison_spec (op : CmpOp) (v : Val) (xs : List Val) :
    subqueryComparison stdCfg (cmpName op) "ANY" v xs = some (triVal (any3 op v xs))
    ∧ subqueryComparison stdCfg (cmpName op) "ALL" v xs = some (triVal (all3 op v xs)) :=
  subqueryComparison_eq stdCfg_ok op v xs

/-- the ENV entry registered bare; `x NOT IN (subquery)` is NOT of `x = ANY (subquery)` -/
theorem subquery_comparison_env_spec {c : Cfg} (ok : c.Ok) (op : CmpOp) (v : Val) (xs : List Val) :
    subqueryComparisonEnv false c (cmpName op) "ANY" v xs = some (triVal (any3 op v xs))
    ∧ subqueryComparisonEnv false c (cmpName op) "ALL" v xs = some (triVal (all3 op v xs))
    ∧ notInSubquery false c v xs = some (triVal (notInSub v xs)) := by
  refine ⟨(subqueryComparison_eq ok op v xs).1, (subqueryComparison_eq ok op v xs).2, ?_⟩
  show (subqueryComparison c (cmpName .eq) "ANY" v xs).map sqlNot = _
  rw [(subqueryComparison_eq ok .eq v xs).1, Option.map_some, sqlNot_eq, toTri_triVal]
  rfl

/-- expressions of the fragment: IN lists are non-empty (SQL has no empty IN list) -/
def wfExpr : Expr → Prop
  | .col _ => True
  | .lit _ => True
  | .cmp _ a b => wfExpr a ∧ wfExpr b
  | .and a b => wfExpr a ∧ wfExpr b
  | .or a b => wfExpr a ∧ wfExpr b
  | .not a => wfExpr a
  | .isNull a _ => wfExpr a
  | .inList a vs => wfExpr a ∧ vs ≠ []

theorem eval_spec {c : Cfg} (ok : c.Ok) (row : Row) (e : Expr) (h : wfExpr e) :
    SqlglotModel.Exec.eval c row e = some (Sem.eval row e) := by
  induction e with
  | col i => rfl
  | lit v => rfl
  | cmp op a b iha ihb => simp only [SqlglotModel.Exec.eval, iha h.1, ihb h.2, envBin_cmp ok, Sem.eval]
  | and a b iha ihb => simp only [SqlglotModel.Exec.eval, iha h.1, ihb h.2, sqlAnd_eq, Sem.eval]
  | or a b iha ihb => simp only [SqlglotModel.Exec.eval, iha h.1, ihb h.2, sqlOr_eq, Sem.eval]
  | not a iha => simp only [SqlglotModel.Exec.eval, iha h, sqlNot_eq, Sem.eval, Option.map]
  | isNull a n iha => simp only [SqlglotModel.Exec.eval, iha h, Sem.eval, Option.map]
  | inList a vs iha => simp only [SqlglotModel.Exec.eval, iha h.1, Sem.eval, Option.map, sqlIn_eq _ vs h.2]

end SqlglotModel.Exec
