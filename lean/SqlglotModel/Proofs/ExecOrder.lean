/-
  C11, orders and sorting.  Every order in use (`Val.cmp`, `cmpKey`, `cmpRows`, `groupKeyCmp`) is a lexicographic
  composition that core knows to be lawful (`Std.TransCmp`), so what a stable sort establishes (a sorted list, the only
  one under a comparison that separates the elements) is proved once, for any such comparison.  The tuples of
  env.ordered compare like ORDER BY items, which gives the Sort step.
-/
import SqlglotModel.Proofs.ExecBase

namespace SqlglotModel.Exec
open SqlglotModel.Sem

theorem ne_gt_trans {α} {c : α → α → Ordering} [Std.TransCmp c] {a b d : α} (h1 : c a b ≠ .gt) (h2 : c b d ≠ .gt) :
    c a d ≠ .gt :=
  Ordering.isLE_iff_ne_gt.1 (Std.TransCmp.isLE_trans (Ordering.isLE_iff_ne_gt.2 h1) (Ordering.isLE_iff_ne_gt.2 h2))

theorem transCmp_on {α β} (c : α → α → Ordering) [Std.TransCmp c] (f : β → α) : Std.TransCmp fun a b => c (f a) (f b) where
  eq_swap := Std.OrientedCmp.eq_swap (cmp := c)
  isLE_trans := Std.TransCmp.isLE_trans (cmp := c)

theorem insertSorted_sorted {α} {c : α → α → Ordering} [Std.TransCmp c] (x : α) (l : List α)
    (h : l.Pairwise fun a b => c a b ≠ .gt) :
    (insertSorted (fun a b => c a b != .gt) x l).Pairwise fun a b => c a b ≠ .gt := by
  induction l with
  | nil => exact List.pairwise_singleton _ _
  | cons y ys ih =>
    rw [List.pairwise_cons] at h
    rw [insertSorted]
    by_cases hxy : c x y = .gt
    · rw [if_neg (by simp [hxy]), List.pairwise_cons]
      refine ⟨fun z hz => ?_, ih h.2⟩
      rcases List.mem_cons.1 ((insertSorted_perm _ x ys).mem_iff.1 hz) with rfl | hz'
      · rw [Std.OrientedCmp.gt_iff_lt.1 hxy]; decide
      · exact h.1 z hz'
    · rw [if_pos (by simpa using hxy), List.pairwise_cons]
      refine ⟨fun z hz => ?_, List.pairwise_cons.2 h⟩
      rcases List.mem_cons.1 hz with rfl | hz'
      · exact hxy
      · exact ne_gt_trans hxy (h.1 z hz')

theorem stableSort_sorted {α} (c : α → α → Ordering) [Std.TransCmp c] (l : List α) :
    (stableSort (fun a b => c a b != .gt) l).Pairwise (fun a b => c a b ≠ .gt) := by
  induction l with
  | nil => exact List.Pairwise.nil
  | cons x xs ih => exact insertSorted_sorted x _ ih

theorem sorted_perm_unique {α} (c : α → α → Ordering) [Std.TransCmp c] (l1 l2 : List α)
    (hsep : ∀ a ∈ l1, ∀ b ∈ l1, c a b = .eq → a = b)
    (h1 : l1.Pairwise (fun a b => c a b ≠ .gt)) (h2 : l2.Pairwise (fun a b => c a b ≠ .gt)) (hp : l1.Perm l2) : l1 = l2 :=
  hp.eq_of_pairwise (fun a b ha hb hab hba => hsep a ha b (hp.mem_iff.2 hb)
    (Std.OrientedCmp.isLE_antisymm (Ordering.isLE_iff_ne_gt.2 hab) (Ordering.isLE_iff_ne_gt.2 hba))) h1 h2

theorem stableSort_perm_unique {α} (c : α → α → Ordering) [Std.TransCmp c] (l1 l2 : List α) (hp : l1.Perm l2)
    (hsep : ∀ a ∈ l1, ∀ b ∈ l1, c a b = .eq → a = b) :
    stableSort (fun a b => c a b != .gt) l1 = stableSort (fun a b => c a b != .gt) l2 := by
  apply sorted_perm_unique c
  · intro a ha b hb
    exact hsep a ((stableSort_perm _ _).mem_iff.1 ha) b ((stableSort_perm _ _).mem_iff.1 hb)
  · exact stableSort_sorted c l1
  · exact stableSort_sorted c l2
  · exact (stableSort_perm _ _).trans (hp.trans (stableSort_perm _ _).symm)

section
attribute [local instance] lexOrd

/-- `Val.cmp` compares these keys lexicographically: the constructor first, then the payload of that constructor -/
def Val.key : Val → Nat × Bool × Int × String
  | .null => (0, false, 0, "")
  | .bool b => (1, b, 0, "")
  | .int i => (2, false, i, "")
  | .str s => (3, false, 0, s)

theorem compare_pair {α β} [Ord α] [Ord β] (a c : α) (b d : β) :
    compare (a, b) (c, d) = (compare a c).then (compare b d) := rfl

theorem cmp_eq_compareOn : Val.cmp = compareOn Val.key := by
  funext a b
  cases a <;> cases b
  case bool.bool | int.int | str.str =>
    simp only [Val.cmp, compareOn, Val.key, compare_pair, Std.ReflOrd.compare_self, Ordering.then_eq, Ordering.eq_then]
  all_goals rfl

instance : Std.TransCmp Val.cmp := cmp_eq_compareOn ▸ inferInstance

end

theorem cmpKey_eq_lex (d nf : Bool) : cmpKey d nf = compareLex
    (fun a b => if nf then compare b.isNull a.isNull else compare a.isNull b.isNull)
    (fun a b => if d then Val.cmp b a else Val.cmp a b) := by
  funext a b
  -- two NULLs compare equal in either direction, which takes the case split on `d`
  cases a <;> cases b <;> cases nf <;> first | rfl | (cases d <;> rfl)

instance (d nf : Bool) : Std.TransCmp (cmpKey d nf) := by
  haveI : Std.TransCmp fun a b : Val => if nf then compare b.isNull a.isNull else compare a.isNull b.isNull := by
    cases nf
    · exact inferInstanceAs (Std.TransCmp (compareOn Val.isNull))
    · exact inferInstanceAs (Std.TransCmp fun a b => compareOn Val.isNull b a)
  haveI : Std.TransCmp fun a b => if d then Val.cmp b a else Val.cmp a b := by
    cases d
    · exact inferInstanceAs (Std.TransCmp Val.cmp)
    · exact inferInstanceAs (Std.TransCmp fun a b => Val.cmp b a)
  rw [cmpKey_eq_lex]
  infer_instance

theorem cmpKey_eq (d nf : Bool) (x y : Val) (h : cmpKey d nf x y = .eq) : x = y := by
  rw [cmpKey_eq_lex, compareLex_eq_eq] at h
  cases d
  · exact (cmp_eq_iff x y).1 h.2
  · exact ((cmp_eq_iff y x).1 h.2).symm

instance (d nf : Bool) : Std.LawfulEqCmp (cmpKey d nf) where
  eq_of_compare := cmpKey_eq d nf _ _

theorem cmpRows_cons (f : Row → Val) (d nf : Bool) (items : List ((Row → Val) × Bool × Bool)) (a b : Row) :
    cmpRows ((f, d, nf) :: items) a b = (cmpKey d nf (f a) (f b)).then (cmpRows items a b) := by
  rw [cmpRows]
  cases cmpKey d nf (f a) (f b) <;> rfl

instance (items : List ((Row → Val) × Bool × Bool)) : Std.TransCmp (cmpRows items) := by
  induction items with
  | nil => exact { eq_swap := rfl, isLE_trans := fun _ _ => rfl }
  | cons it items ih =>
    obtain ⟨f, d, nf⟩ := it
    haveI := transCmp_on (cmpKey d nf) f
    have e : cmpRows ((f, d, nf) :: items) = compareLex (fun a b => cmpKey d nf (f a) (f b)) (cmpRows items) :=
      funext fun a => funext fun b => cmpRows_cons f d nf items a b
    rw [e]
    infer_instance

theorem groupKeyCmp_cons (a b : Val) (as bs : Key) :
    groupKeyCmp (a :: as) (b :: bs) = (cmpKey false false a b).then (groupKeyCmp as bs) := by
  have : ∀ o : Ordering, (match o with | .eq => groupKeyCmp as bs | o => o) = o.then (groupKeyCmp as bs) := by
    intro o; cases o <;> rfl
  cases a <;> cases b <;> first | rfl | exact this _

theorem groupKeyCmp_eq_compareLex : groupKeyCmp = List.compareLex (cmpKey false false) := by
  funext x y
  induction x generalizing y with
  | nil => cases y <;> rfl
  | cons a as ih =>
    cases y with
    | nil => rfl
    | cons b bs => rw [groupKeyCmp_cons, List.compareLex_cons_cons, ih]

instance : Std.TransCmp groupKeyCmp := by rw [groupKeyCmp_eq_compareLex]; infer_instance

instance : Std.LawfulEqCmp groupKeyCmp := by rw [groupKeyCmp_eq_compareLex]; infer_instance

theorem isNull_eq_false {v : Val} (h : v ≠ .null) : v.isNull = false := by
  cases v <;> first | rfl | exact absurd rfl h

theorem tupleCmp_plain (n : Nat) (a b : Val) : tupleCmp (n, .plain a) (n, .plain b) = some (Val.cmp a b) := by
  simp only [tupleCmp, OVal.eq?, OVal.lt?, ne_eq, not_true, if_false]
  by_cases h : a = b
  · rw [decide_eq_true h, (cmp_eq_iff a b).2 h]
  · have := mt (cmp_eq_iff a b).1 h
    rw [decide_eq_false h]
    cases hc : Val.cmp a b <;> first | rfl | exact absurd hc this

theorem tupleCmp_rev (n : Nat) (a b : Val) : tupleCmp (n, .rev a) (n, .rev b) = some (Val.cmp b a) :=
  tupleCmp_plain n b a

theorem ordered_key_cmp (c : Cfg) (hc : c.first < c.last) (a b : Val) (desc nf : Bool) :
    tupleCmp (ordered c a desc nf) (ordered c b desc nf) = some (cmpKey desc nf a b) := by
  have h1 : c.first ≠ c.last := Nat.ne_of_lt hc
  have h2 : ¬ c.last < c.first := Nat.lt_asymm hc
  by_cases ha : a = .null <;> by_cases hb : b = .null
  · subst ha hb
    simp [ordered, tupleCmp, OVal.eq?, cmpKey, Val.isNull]
  · subst ha
    simp only [ordered, if_neg hb, cmpKey, isNull_eq_false hb]
    cases nf <;> simp [tupleCmp, Val.isNull, h1, h1.symm, h2, hc]
  · subst hb
    simp only [ordered, if_neg ha, cmpKey, isNull_eq_false ha]
    cases nf <;> simp [tupleCmp, Val.isNull, h1, h1.symm, h2, hc]
  · simp only [ordered, if_neg ha, if_neg hb, cmpKey, isNull_eq_false ha, isNull_eq_false hb]
    cases desc
    · exact tupleCmp_plain _ a b
    · exact tupleCmp_rev _ a b

theorem ordered_key_spec (a b : Val) (desc nf : Bool) :
    tupleCmp (ordered stdCfg a desc nf) (ordered stdCfg b desc nf) = some (cmpKey desc nf a b) :=
  ordered_key_cmp stdCfg stdCfg_ok.first_lt_last a b desc nf

/-- the ORDER BY items of the reference semantics that a Sort step's items stand for -/
def semItems (items : List OrdItem) : List ((Row → Val) × Bool × Bool) :=
  items.map fun it => ((fun r => Sem.getCol r it.col), it.desc, it.nullsFirst)

theorem sortKeyCmp_cons {c : Cfg} (ok : c.Ok) (it : OrdItem) (items : List OrdItem) (a b : Row) :
    sortKeyCmp c (it :: items) a b
      = (cmpKey it.desc it.nullsFirst (Sem.getCol a it.col) (Sem.getCol b it.col)).then (sortKeyCmp c items a b) := by
  rw [sortKeyCmp, ordered_key_cmp c ok.first_lt_last]
  cases cmpKey it.desc it.nullsFirst (Sem.getCol a it.col) (Sem.getCol b it.col) <;> rfl

theorem sortKeyCmp_spec {c : Cfg} (ok : c.Ok) (items : List OrdItem) (a b : Row) :
    sortKeyCmp c items a b = cmpRows (semItems items) a b := by
  induction items with
  | nil => rfl
  | cons it items ih =>
    rw [sortKeyCmp_cons ok, ih]
    exact (cmpRows_cons (fun r => Sem.getCol r it.col) it.desc it.nullsFirst (semItems items) a b).symm

/-- Sort step (ORDERED keys, Python tuple comparison, `rows[0 : offset + limit]` then `rows[offset:]`) is
    ORDER BY … LIMIT … OFFSET of the reference semantics -/
theorem sortStep_eq_orderBy {c : Cfg} (ok : c.Ok) (items : List OrdItem) (limit : Option Nat) (offset : Nat)
    (rows : List Row) : sortStep c items limit offset rows = orderBy (semItems items) limit offset rows := by
  unfold sortStep orderBy sortRows
  rw [slice_limit_offset]
  congr 2
  funext a b
  rw [sortKeyCmp_spec ok]

theorem sort_step_spec (items : List OrdItem) (limit : Option Nat) (offset : Nat) (rows : List Row) :
    sortStep stdCfg items limit offset rows = orderBy (semItems items) limit offset rows :=
  sortStep_eq_orderBy stdCfg_ok items limit offset rows

theorem sort_rows_perm (c : Cfg) (items : List OrdItem) (rows : List Row) : List.Perm (sortRows c items rows) rows :=
  stableSort_perm _ _

/-- the laws of a three-way comparison in elementary form, `≠ .gt` for `≤`.  No lemma of C11 assumes them: the
    sorting lemmas take core's `Std.TransCmp`, which has them (as `valCmp_laws` reads them off for `Val.cmp`) -/
structure OrdLaws {α} (c : α → α → Ordering) : Prop where
  swap : ∀ a b, c b a = (c a b).swap
  le_trans : ∀ a b d, c a b ≠ .gt → c b d ≠ .gt → c a d ≠ .gt

theorem OrdLaws.flip {α} {c : α → α → Ordering} (h : OrdLaws c) : OrdLaws (fun a b => c b a) :=
  ⟨fun a b => h.swap b a, fun a b d h1 h2 => h.le_trans d b a h2 h1⟩

theorem valCmp_laws : OrdLaws Val.cmp := ⟨fun _ _ => Std.OrientedCmp.eq_swap, fun _ _ _ => ne_gt_trans⟩

end SqlglotModel.Exec
