/-
  C11, single-table fragment, the queries (Model/ExecPlan.lean: planner.Step.from_expression): executing `plan q` gives
  `Sem.Query.eval q` for a well-formed query (`QWF`), as a bag without ORDER BY, as the sequence under a total one
  (`TotalOn`).  Every plan is nothing, DISTINCT or ORDER BY over the final projections over `coreStep`; what these need
  of the table below them is `CoreSpec`, established once for plain and once for grouped queries from the lemmas of
  Proofs/ExecStep about the single steps.
-/
import SqlglotModel.Proofs.ExecStep

namespace SqlglotModel.Exec
open SqlglotModel.Sem

/-- the table column an output reads: the column itself, or the operand of the aggregate -/
def Out.src : Out → Nat
  | .col c _ => c
  | .agg _ c _ => c

/-- a bare column (under GROUP BY: one of the keys), not an aggregate -/
def Out.isCol : Out → Bool
  | .col _ _ => true
  | .agg _ _ _ => false

/-- the aggregate table's column tuple for a grouped query -/
def aggTableCols (q : Query) (keys : List Nat) : List String :=
  aggCols (groupSpec q.cols keys) (aggSpecs q) q.having.isSome

/-- Preconditions of `single_table_query_spec`.  Three of them exclude KNOWN executor / planner defects that are
    expressible in this fragment (each has a `…_counterexample` theorem in Properties/C11.lean):
    `aliasesNodup` (duplicate output names), `noDistinctOrder` (DISTINCT loses ORDER BY), `noShadow` (an output alias
    that re-uses the name of a different table column hijacks ORDER BY in the Sort sink). -/
structure QWF (q : Query) : Prop where
  colsNodup : q.cols.Nodup
  srcInRange : ∀ o ∈ q.outs, Out.src o < q.cols.length
  outsNonempty : q.outs ≠ []
  whereWF : ∀ e, q.where_ = some e → wfExpr e
  aliasesNodup : (q.outs.map Out.alias).Nodup
  noDistinctOrder : q.distinct = true → q.order = []
  limitNeedsOrder : q.order = [] → q.limit = none ∧ q.offset = 0
  orderInRange : ∀ it ∈ q.order, it.1 < q.outs.length
  plainCols : q.group = none → (∀ o ∈ q.outs, Out.isCol o = true) ∧ q.having = none
  noShadow : q.group = none → ∀ o ∈ q.outs, ∀ k (hk : k < q.cols.length), Out.alias o = q.cols[k] → Out.src o = k
  grouped : ∀ keys, q.group = some keys →
    keys.Nodup ∧ (∀ k ∈ keys, k < q.cols.length) ∧ (∀ o ∈ q.outs, Out.isCol o = true → Out.src o ∈ keys)
    ∧ (∀ h, q.having = some h → h.src < q.cols.length) ∧ (aggTableCols q keys).Nodup

theorem QWF.keysInRange {q : Query} (h : QWF q) {keys : List Nat} (hg : q.group = some keys) :
    ∀ k ∈ keys, k < q.cols.length := (h.grouped keys hg).2.1

theorem QWF.colOutsAreKeys {q : Query} (h : QWF q) {keys : List Nat} (hg : q.group = some keys) :
    ∀ o ∈ q.outs, Out.isCol o = true → Out.src o ∈ keys := (h.grouped keys hg).2.2.1

theorem QWF.havingInRange {q : Query} (h : QWF q) {keys : List Nat} (hg : q.group = some keys) :
    ∀ hv, q.having = some hv → hv.src < q.cols.length := (h.grouped keys hg).2.2.2.1

theorem QWF.aggColsNodup {q : Query} (h : QWF q) {keys : List Nat} (hg : q.group = some keys) :
    (aggTableCols q keys).Nodup := (h.grouped keys hg).2.2.2.2

theorem QWF.of_ordered {q : Query} (h : QWF q) (ho : q.order ≠ []) : q.distinct = false ∧ q.order.isEmpty = false := by
  constructor
  · cases hd : q.distinct with
    | false => rfl
    | true => exact absurd (h.noDistinctOrder hd) ho
  · cases hq : q.order with
    | nil => exact absurd hq ho
    | cons _ _ => rfl

theorem finalProjs_plain (q : Query) (hg : q.group = none) :
    finalProjs q = q.outs.map fun o => ⟨colName q.cols (Out.src o), Out.alias o⟩ := by
  simp only [finalProjs, hg]
  apply List.map_congr_left
  intro o _
  cases o <;> rfl

theorem finalProjs_alias (q : Query) : (finalProjs q).map (·.alias) = q.outs.map Out.alias := by
  unfold finalProjs
  cases q.group <;> exact List.map_map.trans (List.map_congr_left fun o _ => by cases o <;> rfl)

theorem finalProjs_isEmpty (q : Query) (h : q.outs ≠ []) : (finalProjs q).isEmpty = false := by
  cases hf : finalProjs q with
  | nil => exact absurd (List.map_eq_nil_iff.1 (hf ▸ finalProjs_alias q).symm) h
  | cons _ _ => rfl

theorem body_len (q : Query) (rows : List Row) (x : Row) (hx : x ∈ q.body rows) : x.length = q.outs.length := by
  unfold Query.body at hx
  split at hx <;> (obtain ⟨_, _, rfl⟩ := List.mem_map.1 hx; exact List.length_map _)

theorem body_plain (q : Query) (h : QWF q) (hg : q.group = none) (rows : List Row) :
    q.body rows = (rows.filter (whereHolds q.where_)).map (pickCols (q.outs.map Out.src)) := by
  simp only [Query.body, hg]
  apply List.map_congr_left
  intro r _
  rw [pickCols_map]
  apply List.map_congr_left
  intro o ho
  have := (h.plainCols hg).1 o ho
  cases o with
  | col c a => rfl
  | agg f c a => cases this

theorem project_plain (q : Query) (h : QWF q) (hg : q.group = none) (r : Row) :
    project q.cols (finalProjs q) r = pickCols (q.outs.map Out.src) r := by
  rw [project, finalProjs_plain q hg, List.map_map, List.map_map, pickCols_map]
  exact List.map_congr_left fun o ho => readCol_colName _ h.colsNodup r _ (h.srcInRange o ho)

theorem mem_aggSpecs {q : Query} {f : AggFn} {c : Nat} {a : String} (h : Out.agg f c a ∈ q.outs) :
    ⟨f, colName q.cols c, a⟩ ∈ aggSpecs q :=
  List.mem_filterMap.2 ⟨_, h, rfl⟩

theorem aggSpecs_src_mem (q : Query) (h : QWF q) : ∀ n ∈ (aggSpecs q).map (·.src), n ∈ q.cols := by
  refine List.forall_mem_map.2 fun a ha => ?_
  obtain ⟨o, ho, e⟩ := List.mem_filterMap.1 ha
  cases o with
  | col _ _ => cases e
  | agg f c al => cases e; exact colName_mem _ _ (h.srcInRange _ ho)

theorem aggSpecs_alias_sublist (q : Query) : ((aggSpecs q).map (·.alias)).Sublist (q.outs.map Out.alias) := by
  unfold aggSpecs
  induction q.outs with
  | nil => exact List.Sublist.slnil
  | cons o outs ih =>
    cases o with
    | col c a => exact List.Sublist.cons _ ih
    | agg f c a => exact List.Sublist.cons_cons _ ih

/-- the aggregations have distinct aliases, so the planner's de-duplication of them changes nothing -/
theorem dedup_aggSpecs (q : Query) (h : QWF q) : dedup (aggSpecs q) = aggSpecs q :=
  dedup_of_nodup _ (List.Pairwise.of_map (S := (· ≠ ·)) (·.alias) (fun _ _ h e => h (congrArg _ e))
    ((aggSpecs_alias_sublist q).nodup h.aliasesNodup))

theorem idxOf_lt {α} [DecidableEq α] (l : List α) (a : α) (h : a ∈ l) : l.idxOf a < l.length :=
  List.idxOf_lt_length_iff.2 h

/-- the name a final projection reads in the aggregate table -/
def srcName (keys : List Nat) : Out → String
  | .col c _ => groupName (posOf keys c)
  | .agg _ _ a => a

theorem finalProjs_grouped (q : Query) (keys : List Nat) (hg : q.group = some keys) :
    (finalProjs q).map (·.src) = q.outs.map (srcName keys) := by
  simp only [finalProjs, hg, List.map_map]
  apply List.map_congr_left
  intro o _
  cases o <;> rfl

theorem posOf_lt (keys : List Nat) (c : Nat) (h : c ∈ keys) : posOf keys c < keys.length := idxOf_lt keys c h

theorem colVals_colName (cols : List String) (hn : cols.Nodup) (g : List Row) (c : Nat) (hc : c < cols.length) :
    (g.map fun r => readCol cols r (colName cols c)) = colVals g c :=
  List.map_congr_left fun r _ => readCol_colName cols hn r c hc

theorem range_map_getD (keys : List Nat) : (List.range keys.length).map (fun i => keys.getD i 0) = keys := by
  apply List.ext_getElem
  · simp
  · intro i h1 h2
    simp [List.getD, List.getElem?_eq_getElem (by simpa using h1 : i < keys.length)]

theorem mem_groupSpec (cols : List String) {keys : List Nat} {c : Nat} (hc : c ∈ keys) :
    (groupName (posOf keys c), colName cols c) ∈ groupSpec cols keys := by
  have hi := posOf_lt keys c hc
  refine List.mem_map.2 ⟨posOf keys c, List.mem_range.2 hi, ?_⟩
  simp only [List.getD, List.getElem?_eq_getElem hi, Option.getD_some]
  rw [show keys[posOf keys c] = c from List.getElem_idxOf hi]

theorem groupSpec_snd (cols : List String) (keys : List Nat) : (groupSpec cols keys).map (·.2) = keys.map (colName cols) := by
  rw [← range_map_getD keys, groupSpec, List.map_map, List.map_map, range_map_getD]
  rfl

theorem groupKey_groupSpec (q : Query) (h : QWF q) (keys : List Nat) (hg : q.group = some keys) :
    groupKey q.cols (groupSpec q.cols keys) = pickCols keys := by
  funext r
  rw [groupKey, groupSpec_snd, List.map_map]
  exact List.map_congr_left fun k hk => readCol_colName _ h.colsNodup r k (h.keysInRange hg k hk)

theorem groupSpec_isEmpty (cols : List String) (keys : List Nat) : (groupSpec cols keys).isEmpty = keys.isEmpty := by
  cases keys <;> simp [groupSpec, List.range_succ]

theorem havingSpec_isSome (q : Query) : (havingSpec q).isSome = q.having.isSome := by
  unfold havingSpec; cases q.having <;> rfl

/-- the row of a group in the aggregate table of a grouped query (`rep` any row of the group) -/
def aggRowOf (q : Query) (keys : List Nat) (rep : Row) (g : List Row) : Row :=
  groupKey q.cols (groupSpec q.cols keys) rep ++ aggVals q.cols (aggSpecs q) (havingSpec q) g

theorem out_mem_zip (q : Query) (h : QWF q) (keys : List Nat) (hg : q.group = some keys) (rep : Row) (g : List Row)
    (o : Out) (ho : o ∈ q.outs) :
    (srcName keys o, Out.eval rep g o) ∈ (aggTableCols q keys).zip (aggRowOf q keys rep g) := by
  rw [aggTableCols, aggRowOf, aggTable_zip, List.append_assoc]
  cases o with
  | col c a =>
    have hc := h.colOutsAreKeys hg _ ho rfl
    refine List.mem_append_left _ (List.mem_map.2 ⟨_, mem_groupSpec q.cols hc, ?_⟩)
    exact congrArg (Prod.mk _) (readCol_colName _ h.colsNodup rep c (h.keysInRange hg c hc))
  | agg f c a =>
    refine List.mem_append_right _ (List.mem_append_left _ (List.mem_map.2 ⟨_, mem_aggSpecs ho, ?_⟩))
    exact congrArg (fun vs => (a, f.apply vs)) (colVals_colName _ h.colsNodup g c (h.srcInRange _ ho))

theorem finalProjs_src_mem (q : Query) (h : QWF q) (keys : List Nat) (hg : q.group = some keys) :
    ∀ p ∈ finalProjs q, p.src ∈ aggTableCols q keys := by
  intro p hp
  have hm : p.src ∈ (finalProjs q).map (·.src) := List.mem_map_of_mem hp
  rw [finalProjs_grouped q keys hg] at hm
  obtain ⟨o, ho, e⟩ := List.mem_map.1 hm
  exact e ▸ (List.of_mem_zip (out_mem_zip q h keys hg [] [] o ho)).1

theorem project_aggRow (q : Query) (h : QWF q) (keys : List Nat) (hg : q.group = some keys) (rep : Row) (g : List Row) :
    project (aggTableCols q keys) (finalProjs q) (aggRowOf q keys rep g) = q.outs.map (Out.eval rep g) := by
  rw [project, finalProjs_grouped q keys hg, List.map_map]
  apply List.map_congr_left
  intro o ho
  show readCol _ _ (srcName keys o) = _
  exact readCol_of_nodup (h.aggColsNodup hg) (out_mem_zip q h keys hg rep g o ho)

theorem aggRowOf_length (q : Query) (keys : List Nat) (rep : Row) (g : List Row) :
    (aggRowOf q keys rep g).length = (aggTableCols q keys).length := by
  simp only [aggRowOf, groupKey, aggVals, havVals, aggTableCols, aggCols, havingSpec, List.length_append, List.length_map]
  cases q.having <;> rfl

theorem keepH_aggRow (q : Query) (h : QWF q) (keys : List Nat) (hg : q.group = some keys) (rep : Row) (g : List Row) :
    keepH (aggTableCols q keys) q.having.isSome (aggRowOf q keys rep g) = havingHolds q.having g := by
  unfold keepH havingHolds
  cases hh : q.having with
  | none => rfl
  | some hv =>
    have hm : ("_h", triVal (cmp3 hv.op (hv.fn.apply (colVals g hv.src)) hv.lit))
        ∈ (aggTableCols q keys).zip (aggRowOf q keys rep g) := by
      rw [aggTableCols, aggRowOf, aggTable_zip, havingSpec, hh,
        ← colVals_colName _ h.colsNodup g _ (h.havingInRange hg hv hh)]
      exact List.mem_append_right _ List.mem_cons_self
    rw [Option.isSome_some, if_pos rfl, readCol_of_nodup (h.aggColsNodup hg) hm, truthy_triVal]

/-- the executor's aggregate table of a grouped query (before the step's own HAVING filter / projection) -/
def execAggRows (q : Query) (keys : List Nat) (R : List Row) : List Row :=
  aggTbl (groupKey q.cols (groupSpec q.cols keys)) (aggVals q.cols (aggSpecs q) (havingSpec q))
    (!(groupSpec q.cols keys).isEmpty) R

theorem execAggregate_grouped {c : Cfg} (ok : c.Ok) (q : Query) (h : QWF q) (keys : List Nat) (hg : q.group = some keys)
    (R : List Row) (projs : List NProj) (hp : ∀ p ∈ projs, p.src ∈ aggTableCols q keys) :
    execAggregate c ⟨q.cols, R⟩ (groupSpec q.cols keys) (aggSpecs q) (havingSpec q) projs none 0
      = some (projTbl projs ⟨aggTableCols q keys,
          (execAggRows q keys R).filter (keepH (aggTableCols q keys) q.having.isSome)⟩) := by
  refine execAggregate_spec ok ⟨q.cols, R⟩ _ _ _ projs (havingSpec_isSome q) ?_ (aggSpecs_src_mem q h) (fun hs e => ?_) hp
  · rw [groupSpec_snd]
    exact List.forall_mem_map.2 fun k hk' => colName_mem _ _ (h.keysInRange hg k hk')
  · obtain ⟨hv, hq, rfl⟩ := Option.map_eq_some_iff.1 e
    exact colName_mem _ _ (h.havingInRange hg hv hq)

theorem execAggRows_perm (q : Query) (h : QWF q) (keys : List Nat) (hg : q.group = some keys) (R : List Row) :
    List.Perm (execAggRows q keys R) ((groupsOf keys R).map fun g => aggRowOf q keys (g.headD []) g) := by
  unfold execAggRows aggRowOf
  rw [groupKey_groupSpec q h keys hg, groupSpec_isEmpty]
  exact aggTbl_perm_sem keys _ (aggVals_perm _ _ _) R

theorem grouped_body_perm (q : Query) (h : QWF q) (keys : List Nat) (hg : q.group = some keys) (rows : List Row) :
    List.Perm
      (((execAggRows q keys (rows.filter (whereHolds q.where_))).filter (keepH (aggTableCols q keys) q.having.isSome)).map
        (project (aggTableCols q keys) (finalProjs q)))
      (q.body rows) := by
  refine (((execAggRows_perm q h keys hg _).filter _).map _).trans (List.Perm.of_eq ?_)
  simp only [Query.body, hg, List.filter_map, List.map_map]
  have hf : (keepH (aggTableCols q keys) q.having.isSome ∘ fun g : List Row => aggRowOf q keys (g.headD []) g)
      = havingHolds q.having := funext fun g => keepH_aggRow q h keys hg _ g
  rw [hf]
  exact List.map_congr_left fun g _ => project_aggRow q h keys hg _ g

/-- the DAG below DISTINCT and ORDER BY: WHERE, then GROUP BY / HAVING; `projs` are the projections of its last step -/
def coreStep (q : Query) (projs : List NProj) : Step :=
  match q.group with
  | none => .join .scan q.where_ projs none 0
  | some keys =>
    .aggregate (.join .scan q.where_ [] none 0) (groupSpec q.cols keys) (aggSpecs q) (havingSpec q) projs none 0

theorem plan_eq (q : Query) (h : QWF q) :
    plan q = if q.order = [] then
        (if q.distinct then
          .aggregate (coreStep q (finalProjs q)) ((dedup (q.outs.map (·.alias))).map fun a => (a, a)) [] none [] none 0
        else coreStep q (finalProjs q))
      else .sort (coreStep q []) (sortKey q) (finalProjs q) q.limit q.offset := by
  by_cases ho : q.order = []
  · obtain ⟨hl, hoff⟩ := h.limitNeedsOrder ho
    cases hg : q.group <;> cases hd : q.distinct <;> simp [plan, coreStep, hg, ho, hd, hl, hoff, dedup_aggSpecs q h]
  · obtain ⟨hd, hoe⟩ := h.of_ordered ho
    cases hg : q.group <;> simp [plan, coreStep, hg, ho, hd, hoe, dedup_aggSpecs q h]

/-- the name the Sort step holds for the ORDER BY position `p` -/
def keyName (q : Query) (p : Nat) : String :=
  match q.group, q.outs[p]? with
  | none, some (.col c _) => colName q.cols c
  | _, some o => o.alias
  | _, none => ""

theorem sortKey_eq (q : Query) : sortKey q = q.order.map fun it => (keyName q it.1, it.2.1, it.2.2) := by
  unfold sortKey
  apply List.map_congr_left
  rintro ⟨p, d, nf⟩ _
  simp only [keyName]
  cases q.group <;> rcases q.outs[p]? with _ | ⟨_ | _⟩ <;> rfl

/-- what DISTINCT and ORDER BY need to know of the table `T` that the steps below them (`coreStep`) compute: its final
    projection is the reference body, and in the Sort sink (`T`'s columns, then the output aliases, the last column of a
    name winning) the key of an ORDER BY position reads the projected value at that position -/
structure CoreSpec (c : Cfg) (q : Query) (rows : List Row) (T : Tbl) : Prop where
  exec : ∀ projs : List NProj, (∀ p ∈ projs, p.src ∈ T.cols) →
    exec c ⟨q.cols, rows⟩ (coreStep q projs) = some (projTbl projs T)
  srcs : ∀ p ∈ finalProjs q, p.src ∈ T.cols
  width : ∀ r ∈ T.rows, r.length = T.cols.length
  body : List.Perm (T.rows.map (project T.cols (finalProjs q))) (q.body rows)
  plain : q.group = none → T.rows.map (project T.cols (finalProjs q)) = q.body rows
  keys : ∀ it ∈ q.order, keyName q it.1 ∈ T.cols ++ q.outs.map Out.alias ∧ ∀ r ∈ T.rows,
    readCol (T.cols ++ q.outs.map Out.alias) (r ++ project T.cols (finalProjs q) r) (keyName q it.1)
      = Sem.getCol (project T.cols (finalProjs q) r) it.1

theorem core_plain {c : Cfg} (ok : c.Ok) (q : Query) (h : QWF q) (rows : List Row)
    (hrows : ∀ r ∈ rows, r.length = q.cols.length) (hg : q.group = none) : CoreSpec c q rows ⟨q.cols, rows.filter (whereHolds q.where_)⟩ := by
  have hbody : (rows.filter (whereHolds q.where_)).map (project q.cols (finalProjs q)) = q.body rows := by
    rw [body_plain q h hg]
    exact List.map_congr_left fun r _ => project_plain q h hg r
  have hw : ∀ r ∈ rows.filter (whereHolds q.where_), r.length = q.cols.length := fun r hr => hrows r (List.mem_filter.1 hr).1
  refine ⟨fun projs hp => ?_, ?_, hw, .of_eq hbody, fun _ => hbody, fun it hit => ?_⟩
  · unfold coreStep
    rw [hg]
    exact exec_join_scan ok ⟨q.cols, rows⟩ q.where_ h.whereWF projs hp
  · rw [finalProjs_plain q hg]
    exact List.forall_mem_map.2 fun o ho => colName_mem _ _ (h.srcInRange o ho)
  · -- the key is a column of the table; an output alias of that name stands for the same column
    have hp := h.orderInRange it hit
    obtain ⟨c, a, ho⟩ : ∃ c a, q.outs[it.1] = .col c a := by
      have := (h.plainCols hg).1 _ (List.getElem_mem hp)
      cases ho : q.outs[it.1] with
      | col c a => exact ⟨c, a, rfl⟩
      | agg f c a => rw [ho] at this; cases this
    have hc : c < q.cols.length := by have := h.srcInRange _ (List.getElem_mem hp); rwa [ho] at this
    have hname : keyName q it.1 = colName q.cols c := by simp only [keyName, hg, List.getElem?_eq_getElem hp, ho]
    rw [hname]
    refine ⟨List.mem_append_left _ (colName_mem _ _ hc), fun r hr => ?_⟩
    rw [project_plain q h hg, getCol_pickCols _ r it.1 (by simpa using hp), List.getElem_map, ho]
    by_cases hm : colName q.cols c ∈ q.outs.map Out.alias
    · obtain ⟨o, hoo, hal⟩ := List.mem_map.1 hm
      rw [readCol_append_right hm (hw r hr)]
      apply readCol_of_nodup h.aliasesNodup
      rw [pickCols_map, List.zip_map']
      refine List.mem_map.2 ⟨o, hoo, ?_⟩
      rw [hal, h.noShadow hg o hoo c hc (hal.trans (colName_get _ _ hc))]
      rfl
    · rw [readCol_append_left (colName_mem _ _ hc) hm (hw r hr), readCol_colName _ h.colsNodup r c hc]
      rfl

theorem core_grouped {c : Cfg} (ok : c.Ok) (q : Query) (h : QWF q) (rows : List Row) (keys : List Nat)
    (hg : q.group = some keys) :
    CoreSpec c q rows
      ⟨aggTableCols q keys, (execAggRows q keys (rows.filter (whereHolds q.where_))).filter
        (keepH (aggTableCols q keys) q.having.isSome)⟩ := by
  have hw : ∀ y ∈ (execAggRows q keys (rows.filter (whereHolds q.where_))).filter (keepH (aggTableCols q keys) q.having.isSome),
      y.length = (aggTableCols q keys).length := by
    intro y hy
    obtain ⟨g, _, rfl⟩ := List.mem_map.1 ((execAggRows_perm q h keys hg _).mem_iff.1 (List.mem_filter.1 hy).1)
    exact aggRowOf_length q keys _ g
  refine ⟨fun projs hp => ?_, finalProjs_src_mem q h keys hg, hw, grouped_body_perm q h keys hg rows,
    (fun hn => by rw [hg] at hn; cases hn), fun it hit => ?_⟩
  · unfold coreStep
    rw [hg]
    show exec c ⟨q.cols, rows⟩ (.aggregate _ _ _ _ _ none 0) = _
    rw [exec, exec_join_scan ok ⟨q.cols, rows⟩ q.where_ h.whereWF [] nofun]
    exact execAggregate_grouped ok q h keys hg _ projs hp
  · -- the key is an output alias: it is read in the projection part of the sink
    have hp := h.orderInRange it hit
    have hname : keyName q it.1 = (q.outs.map Out.alias)[it.1]'(by simpa using hp) := by
      simp only [keyName, hg, List.getElem?_eq_getElem hp, List.getElem_map]
    rw [hname]
    have hm := List.getElem_mem (l := q.outs.map Out.alias) (by simpa using hp : it.1 < _)
    exact ⟨List.mem_append_right _ hm, fun y hy => by
      rw [readCol_append_right hm (hw y hy), readCol_getElem h.aliasesNodup]⟩

/-- ORDER BY separates the rows it sorts (a "total ORDER BY"): needed to speak about THE sequence -/
def TotalOn (q : Query) (l : List Row) : Prop :=
  ∀ a ∈ l, ∀ b ∈ l, cmpRows (orderItems q.order) a b = .eq → a = b

theorem orderBy_perm_total (items : List ((Row → Val) × Bool × Bool)) (limit : Option Nat) (offset : Nat) (l1 l2 : List Row)
    (hp : List.Perm l1 l2) (htot : ∀ a ∈ l1, ∀ b ∈ l1, cmpRows items a b = .eq → a = b) :
    orderBy items limit offset l1 = orderBy items limit offset l2 := by
  unfold orderBy
  rw [stableSort_perm_unique (cmpRows items) l1 l2 hp htot]

theorem cmpRows_eq_all (items : List ((Row → Val) × Bool × Bool)) (a b : Row) (h : cmpRows items a b = .eq) :
    ∀ it ∈ items, it.1 a = it.1 b := by
  induction items with
  | nil => nofun
  | cons it items ih =>
    obtain ⟨f, d, nf⟩ := it
    rw [cmpRows_cons, Ordering.then_eq_eq] at h
    intro it hit
    rcases List.mem_cons.1 hit with rfl | hit
    · exact cmpKey_eq d nf _ _ h.1
    · exact ih h.2 it hit

theorem total_of_all_positions (q : Query) (l : List Row) (hl : ∀ x ∈ l, x.length = q.outs.length)
    (hall : ∀ p, p < q.outs.length → ∃ it ∈ q.order, it.1 = p) : TotalOn q l := by
  intro a ha b hb hc
  have hall' := cmpRows_eq_all _ a b hc
  apply List.ext_getElem
  · rw [hl a ha, hl b hb]
  · intro p h1 h2
    obtain ⟨it, hit, rfl⟩ := hall p (by rw [← hl a ha]; exact h1)
    have := hall' ((fun r => Sem.getCol r it.1), it.2.1, it.2.2) (by
      simp only [orderItems, List.mem_map]
      exact ⟨it, hit, rfl⟩)
    exact (getCol_of_lt h1).symm.trans (this.trans (getCol_of_lt h2))

/-- executing the plan of a well-formed query gives the reference answer, under any configuration that has the
    constants of the source.  Of the table `T` that the steps below DISTINCT and ORDER BY compute, the rest of the
    proof uses `CoreSpec` only -/
theorem exec_plan_spec {c : Cfg} (ok : c.Ok) (q : Query) (rows : List Row) (h : QWF q)
    (hrows : ∀ r ∈ rows, r.length = q.cols.length) :
    ∃ out, exec c ⟨q.cols, rows⟩ (plan q) = some ⟨q.outs.map Out.alias, out⟩
      ∧ (q.order = [] → List.Perm out (q.eval rows))
      ∧ (q.order ≠ [] → TotalOn q (q.body rows) → out = q.eval rows)
      ∧ (q.group = none → q.distinct = false → out = q.eval rows) := by
  obtain ⟨T, hT⟩ : ∃ T, CoreSpec c q rows T := by
    cases hg : q.group with
    | none => exact ⟨_, core_plain ok q h rows hrows hg⟩
    | some keys => exact ⟨_, core_grouped ok q h rows keys hg⟩
  have hne := finalProjs_isEmpty q h.outsNonempty
  have hproj : projTbl (finalProjs q) T = ⟨q.outs.map Out.alias, T.rows.map (project T.cols (finalProjs q))⟩ := by
    rw [projTbl, hne, if_neg Bool.false_ne_true, finalProjs_alias]
  rw [plan_eq q h]
  by_cases ho : q.order = []
  · obtain ⟨hl, hoff⟩ := h.limitNeedsOrder ho
    have heval : q.eval rows = if q.distinct then dedup (q.body rows) else q.body rows := by
      simp only [Query.eval, ho, hl, hoff, orderBy_nil]
    rw [if_pos ho, heval]
    cases hd : q.distinct with
    | false =>
      exact ⟨_, by rw [if_neg Bool.false_ne_true, hT.exec _ hT.srcs, hproj], fun _ => hT.body, fun hn => absurd ho hn,
        fun hg _ => hT.plain hg⟩
    | true =>
      -- the DISTINCT step groups by every output name
      obtain ⟨out, hout, hp⟩ := execAggregate_distinct ok (q.outs.map Out.alias) h.aliasesNodup
        (fun e => h.outsNonempty (List.map_eq_nil_iff.1 e)) (T.rows.map (project T.cols (finalProjs q))) fun x hx => by
          rw [List.length_map]; exact body_len q rows x (hT.body.mem_iff.1 hx)
      refine ⟨out, ?_, fun _ => hp.trans (dedup_perm _ _ hT.body), fun hn => absurd ho hn, nofun⟩
      rw [if_pos rfl, exec, hT.exec _ hT.srcs, hproj]
      exact hout
  · obtain ⟨hd, _⟩ := h.of_ordered ho
    have heval : q.eval rows = orderBy (orderItems q.order) q.limit q.offset (q.body rows) := by
      simp only [Query.eval, hd, Bool.false_eq_true, if_false]
    rw [if_neg ho, exec, hT.exec [] nofun, sortKey_eq,
      show (some (projTbl [] T)).bind _ = execSort c T _ (finalProjs q) q.limit q.offset from rfl,
      execSort_spec ok T q.order (fun it => keyName q it.1) (finalProjs q) q.limit q.offset hT.srcs
        (fun it hit => finalProjs_alias q ▸ (hT.keys it hit).1) hne hT.width
        (fun it hit => finalProjs_alias q ▸ (hT.keys it hit).2),
      finalProjs_alias, heval]
    exact ⟨_, rfl, fun e => absurd e ho,
      fun _ htot => (orderBy_perm_total _ _ _ _ _ hT.body.symm htot).symm, fun hg _ => by rw [hT.plain hg]⟩

end SqlglotModel.Exec
