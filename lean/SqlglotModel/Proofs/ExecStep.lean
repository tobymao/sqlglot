/-
  C11, single-table fragment, the steps (Model/ExecPlan.lean: PythonExecutor._execute, join, aggregate, sort with
  RowReader's by-name column resolution).  Rows are read by name (`readCol`: the last column of a name wins); under
  duplicate-free names a row is the association of the names with its values, and that is how the table of an Aggregate
  step is read.  Each kind of Step has one lemma that says what executing it computes, for any table and any step of
  that kind: nothing here speaks of a `Query`.
-/
import SqlglotModel.Proofs.ExecLogic
import SqlglotModel.Proofs.ExecAgg
import SqlglotModel.Proofs.Exec
import SqlglotModel.Model.ExecPlan

namespace SqlglotModel.Exec
open SqlglotModel.Sem

theorem colIdx_eq_none_iff (cols : List String) (n : String) : colIdx cols n = none ↔ ¬ n ∈ cols := by
  induction cols with
  | nil => simp [colIdx]
  | cons c cs ih =>
    rw [colIdx, List.mem_cons, not_or]
    cases hc : colIdx cs n with
    | some j => exact ⟨nofun, fun h => absurd (ih.2 h.2) (by rw [hc]; nofun)⟩
    | none =>
      by_cases e : c = n
      · simp [e]
      · simp [e, Ne.symm e, ih.1 hc]

theorem colIdx_nodup (cols : List String) (hn : cols.Nodup) (i : Nat) (hi : i < cols.length) :
    colIdx cols cols[i] = some i := by
  induction cols generalizing i with
  | nil => simp at hi
  | cons c cs ih =>
    rw [List.nodup_cons] at hn
    cases i with
    | zero =>
      simp only [List.getElem_cons_zero, colIdx, (colIdx_eq_none_iff cs c).2 hn.1, if_true]
    | succ j =>
      simp only [List.getElem_cons_succ, colIdx]
      rw [ih hn.2 j (by simpa using hi)]

theorem colIdx_append_right (a b : List String) (n : String) (i : Nat) (h : colIdx b n = some i) :
    colIdx (a ++ b) n = some (a.length + i) := by
  induction a with
  | nil => simpa using h
  | cons c cs ih =>
    simp only [List.cons_append, colIdx, ih, List.length_cons, Nat.add_right_comm]

theorem colIdx_append_left (a b : List String) (n : String) (h : ¬ n ∈ b) : colIdx (a ++ b) n = colIdx a n := by
  induction a with
  | nil => simp only [List.nil_append, (colIdx_eq_none_iff b n).2 h, colIdx]
  | cons c cs ih => simp only [List.cons_append, colIdx, ih]

theorem colIdx_lt (cols : List String) (n : String) (i : Nat) (h : colIdx cols n = some i) : i < cols.length := by
  induction cols generalizing i with
  | nil => cases h
  | cons c cs ih =>
    cases hc : colIdx cs n with
    | some j =>
      simp only [colIdx, hc] at h
      cases h
      exact Nat.succ_lt_succ (ih j hc)
    | none =>
      simp only [colIdx, hc] at h
      split at h <;> cases h
      exact Nat.zero_lt_succ _

theorem getCol_of_lt {r : Row} {i : Nat} (h : i < r.length) : Sem.getCol r i = r[i] :=
  (List.getElem_eq_getD Val.null).symm

theorem getCol_append_left (r x : Row) (c : Nat) (h : c < r.length) : Sem.getCol (r ++ x) c = Sem.getCol r c := by
  simp [Sem.getCol, List.getD, List.getElem?_append_left h]

theorem getCol_append_right (r x : Row) (j : Nat) : Sem.getCol (r ++ x) (r.length + j) = Sem.getCol x j := by
  simp [Sem.getCol, List.getD, List.getElem?_append_right]

theorem pickCols_map {α} (xs : List α) (f : α → Nat) (r : Row) : pickCols (xs.map f) r = xs.map fun x => Sem.getCol r (f x) :=
  List.map_map

theorem getCol_pickCols (keys : List Nat) (r : Row) (i : Nat) (hi : i < keys.length) :
    Sem.getCol (pickCols keys r) i = Sem.getCol r keys[i] := by
  rw [getCol_of_lt (by rwa [pickCols, List.length_map])]
  exact List.getElem_map _

/-- RowReader: the position a column name resolves to (the last column of that name) and the value read there -/
def pos (cols : List String) (n : String) : Nat := (colIdx cols n).getD 0

def readCol (cols : List String) (r : Row) (n : String) : Val := Sem.getCol r (pos cols n)

theorem colIdx_pos {cols : List String} {n : String} (h : n ∈ cols) : colIdx cols n = some (pos cols n) := by
  unfold pos
  cases hc : colIdx cols n with
  | none => exact absurd h ((colIdx_eq_none_iff cols n).1 hc)
  | some i => rfl

theorem pos_lt {cols : List String} {n : String} (h : n ∈ cols) : pos cols n < cols.length :=
  colIdx_lt cols n _ (colIdx_pos h)

theorem resolve_eq (cols ns : List String) (h : ∀ n ∈ ns, n ∈ cols) : resolve cols ns = some (ns.map (pos cols)) := by
  induction ns with
  | nil => rfl
  | cons n ns ih =>
    simp only [List.map_cons, resolve, colIdx_pos (h n List.mem_cons_self), ih fun m hm => h m (List.mem_cons_of_mem _ hm)]

theorem readCol_getElem {cols : List String} (hn : cols.Nodup) (r : Row) {i : Nat} (hi : i < cols.length) :
    readCol cols r cols[i] = Sem.getCol r i := by
  rw [readCol, pos, colIdx_nodup cols hn i hi]; rfl

/-- under duplicate-free column names a row is the association of the names with its values -/
theorem readCol_of_nodup {cols : List String} (hn : cols.Nodup) {r : Row} {n : String} {v : Val}
    (h : (n, v) ∈ cols.zip r) : readCol cols r n = v := by
  obtain ⟨i, hi⟩ := List.getElem?_of_mem h
  obtain ⟨hc, hr⟩ := List.getElem?_zip_eq_some.1 hi
  obtain ⟨hlt, rfl⟩ := List.getElem?_eq_some_iff.1 hc
  rw [readCol_getElem hn r hlt]
  exact (congrArg (·.getD Val.null) hr :)

theorem readRow_self {cols : List String} (hn : cols.Nodup) (r : Row) (hr : r.length = cols.length) :
    cols.map (readCol cols r) = r := by
  apply List.ext_getElem
  · rw [List.length_map, hr]
  · intro i h1 h2
    rw [List.getElem_map, readCol_getElem hn r (by simpa using h1)]
    exact getCol_of_lt h2

theorem readCol_append_right {a b : List String} {n : String} (h : n ∈ b) {ra : Row} (hl : ra.length = a.length) (rb : Row) :
    readCol (a ++ b) (ra ++ rb) n = readCol b rb n := by
  rw [readCol, pos, colIdx_append_right a b n _ (colIdx_pos h), Option.getD_some, ← hl, getCol_append_right]
  rfl

theorem readCol_append_left {a b : List String} {n : String} (ha : n ∈ a) (hb : ¬ n ∈ b) {ra : Row} (hl : ra.length = a.length)
    (rb : Row) : readCol (a ++ b) (ra ++ rb) n = readCol a ra n := by
  rw [readCol, pos, colIdx_append_left a b n hb]
  exact getCol_append_left ra rb _ (hl ▸ pos_lt ha)

theorem colName_get (cols : List String) (i : Nat) (hi : i < cols.length) : colName cols i = cols[i] := by
  simp [colName, List.getD, List.getElem?_eq_getElem hi]

theorem colIdx_colName (cols : List String) (hn : cols.Nodup) (c : Nat) (hc : c < cols.length) :
    colIdx cols (colName cols c) = some c := by
  rw [colName_get _ _ hc]
  exact colIdx_nodup _ hn _ hc

theorem colName_mem (cols : List String) (c : Nat) (hc : c < cols.length) : colName cols c ∈ cols := by
  rw [colName_get _ _ hc]; exact List.getElem_mem hc

theorem readCol_colName (cols : List String) (hn : cols.Nodup) (r : Row) (c : Nat) (hc : c < cols.length) :
    readCol cols r (colName cols c) = Sem.getCol r c := by
  rw [readCol, pos, colIdx_colName cols hn c hc]; rfl

theorem resolve_colName (cols : List String) (hn : cols.Nodup) (cs : List Nat) (h : ∀ c ∈ cs, c < cols.length) :
    resolve cols (cs.map (colName cols)) = some cs := by
  rw [resolve_eq cols _ (List.forall_mem_map.2 fun c hc => colName_mem cols c (h c hc)), List.map_map]
  exact congrArg some (map_fixed fun c hc => congrArg (·.getD 0) (colIdx_colName cols hn c (h c hc)))

theorem filter_true {α} (l : List α) : l.filter (fun _ => true) = l := List.filter_eq_self.2 fun _ _ => rfl

theorem selectWhere_none (rows : List Row) : selectWhere none none rows = rows := by
  rw [selectWhere, show projRow none = id from rfl, List.map_id]
  exact filter_true rows

theorem scan_table_id (rows : List Row) : scan (.table rows) none none none = rows := by
  rw [scan_spec]; simp only [takeCap, selectWhere_none]

theorem exec_scan (c : Cfg) (t : Tbl) : exec c t .scan = some t := by
  simp only [exec, scan_table_id]

theorem withOffset_zero (t : Tbl) : withOffset 0 t = t := by
  simp [withOffset, applyOffset]

theorem projectFilter_none_cap (cond : Option (Row → Val)) (projs : Option (Row → Row)) (rows : List Row) :
    projectFilter cond projs none rows = selectWhere cond projs rows := by
  unfold projectFilter
  rw [projectFilterLoop_spec _ _ _ _ [] (by intro n h; cases h)]
  rfl

theorem keeps_where {c : Cfg} (ok : c.Ok) (w : Option Expr) (hw : ∀ e, w = some e → wfExpr e) (r : Row) :
    keeps (w.map (condFn c)) r = whereHolds w r := by
  cases w with
  | none => rfl
  | some e => simp only [Option.map, keeps, condFn, whereHolds, eval_spec ok r e (hw e rfl), Option.getD_some]

/-- a list of projections evaluated on a row of a table with the columns `cols` -/
def project (cols : List String) (projs : List NProj) (r : Row) : Row := (projs.map (·.src)).map (readCol cols r)

theorem pickCols_project (cols : List String) (projs : List NProj) :
    pickCols ((projs.map (·.src)).map (pos cols)) = project cols projs :=
  funext fun r => pickCols_map _ _ r

/-- what `_project_and_filter` makes of a table: without projections the table as it is -/
def projTbl (projs : List NProj) (t : Tbl) : Tbl :=
  if projs.isEmpty then t else ⟨projs.map (·.alias), t.rows.map (project t.cols projs)⟩

theorem projectFilterTbl_none (t : Tbl) (cond : Option (Row → Val)) (projs : List NProj)
    (hp : ∀ p ∈ projs, p.src ∈ t.cols) :
    projectFilterTbl t cond projs none = some (projTbl projs ⟨t.cols, t.rows.filter (keeps cond)⟩) := by
  unfold projectFilterTbl projTbl
  split
  · rw [projectFilter_none_cap, selectWhere, show projRow none = id from rfl, List.map_id]
  · simp only [resolve_eq t.cols _ (List.forall_mem_map.2 hp), projectFilter_none_cap, pickCols_project]; rfl

theorem exec_join_scan {c : Cfg} (ok : c.Ok) (t : Tbl) (w : Option Expr) (hw : ∀ e, w = some e → wfExpr e)
    (projs : List NProj) (hp : ∀ p ∈ projs, p.src ∈ t.cols) :
    exec c t (.join .scan w projs none 0) = some (projTbl projs ⟨t.cols, t.rows.filter (whereHolds w)⟩) := by
  have hk : keeps (w.map (condFn c)) = whereHolds w := funext (keeps_where ok w hw)
  simp only [exec, scan_table_id, Option.bind_some, execJoin]
  split
  · -- no WHERE and no projections: join() hands the table on
    next hc =>
    rw [Bool.and_eq_true, Option.isNone_iff_eq_none] at hc
    rw [hc.1, projTbl, if_pos hc.2, withOffset_zero]
    exact congrArg some (congrArg (Tbl.mk t.cols) (filter_true t.rows).symm)
  · rw [show capOf none 0 = none from rfl, projectFilterTbl_none t _ projs hp, hk, Option.map_some, withOffset_zero]

theorem orderBy_nil (rows : List Row) : orderBy (orderItems []) none 0 rows = rows := by
  simp only [orderBy, orderItems, List.map_nil, limitOffset, List.drop_zero]
  apply stableSort_of_pairwise
  exact List.pairwise_of_forall (by intro a b; rfl)

theorem cutRows_eq_takeCap (limit : Option Nat) (offset : Nat) (rows : List Row) :
    cutRows limit offset rows = takeCap (capOf limit offset) rows := by
  cases limit <;> rfl

theorem limitOffset_map (limit : Option Nat) (offset : Nat) (f : Row → Row) (rows : List Row) :
    (limitOffset limit offset rows).map f = limitOffset limit offset (rows.map f) := by
  cases limit with
  | none => simp [limitOffset, List.map_drop]
  | some n => simp [limitOffset, List.map_drop, List.map_take]

theorem sortItems_map {ι} (l : List ι) (kidx : ι → Nat) (key : ι → String × Bool × Bool) :
    sortItems (l.map kidx) (l.map key) = l.map fun it => ⟨kidx it, (key it).2.1, (key it).2.2⟩ := by
  rw [sortItems, List.zip_map', List.map_map]
  rfl

/-- the executor orders two sink rows `A`, `B` as the reference orders the projected rows `a`, `b`, when the key column
    `kidx it` of the former holds what the ORDER BY position `it.1` holds in the latter -/
theorem sortCmp_aligned {c : Cfg} (ok : c.Ok) (order : List (Nat × Bool × Bool)) (kidx : Nat × Bool × Bool → Nat)
    (A B a b : Row)
    (h : ∀ it ∈ order, Sem.getCol A (kidx it) = Sem.getCol a it.1 ∧ Sem.getCol B (kidx it) = Sem.getCol b it.1) :
    sortKeyCmp c (order.map fun it => ⟨kidx it, it.2.1, it.2.2⟩) A B = cmpRows (orderItems order) a b := by
  induction order with
  | nil => rfl
  | cons it order ih =>
    obtain ⟨p, d, nf⟩ := it
    have h0 := h (p, d, nf) (by simp)
    show sortKeyCmp c (⟨kidx (p, d, nf), d, nf⟩ :: order.map _) A B
      = cmpRows (((fun r => Sem.getCol r p), d, nf) :: orderItems order) a b
    rw [sortKeyCmp_cons ok, cmpRows_cons, h0.1, h0.2, ih fun x hx => h x (by simp [hx])]

/-- the Sort step is ORDER BY … LIMIT … OFFSET on the projected rows when each key, read in the sink's extended tuple,
    is the projected value of its ORDER BY position (`hval`) -/
theorem execSort_spec {c : Cfg} (ok : c.Ok) (src : Tbl) (order : List (Nat × Bool × Bool)) (name : Nat × Bool × Bool → String)
    (projs : List NProj) (limit : Option Nat) (offset : Nat) (hp : ∀ p ∈ projs, p.src ∈ src.cols)
    (hk : ∀ it ∈ order, name it ∈ src.cols ++ projs.map (·.alias))
    (hne : projs.isEmpty = false) (hw : ∀ r ∈ src.rows, r.length = src.cols.length)
    (hval : ∀ it ∈ order, ∀ r ∈ src.rows,
      readCol (src.cols ++ projs.map (·.alias)) (r ++ project src.cols projs r) (name it)
        = Sem.getCol (project src.cols projs r) it.1) :
    execSort c src (order.map fun it => (name it, it.2.1, it.2.2)) projs limit offset
      = some ⟨projs.map (·.alias), orderBy (orderItems order) limit offset (src.rows.map (project src.cols projs))⟩ := by
  have hp' := resolve_eq src.cols (projs.map (·.src)) (List.forall_mem_map.2 hp)
  have hk' : resolve (src.cols ++ projs.map (·.alias)) ((order.map fun it => (name it, it.2.1, it.2.2)).map (·.1))
      = some (order.map fun it => pos (src.cols ++ projs.map (·.alias)) (name it)) := by
    have e : (order.map fun it => (name it, it.2.1, it.2.2)).map (·.1) = order.map name := by rw [List.map_map]; rfl
    rw [e, resolve_eq _ _ (List.forall_mem_map.2 hk), List.map_map]; rfl
  simp only [execSort, hp', hk', hne, Bool.false_eq_true, if_false, withOffset, pickCols_project]
  congr 2
  let π : Row → Row := fun r => (r.drop src.cols.length).take projs.length
  have hπ : ∀ r ∈ src.rows, π (r ++ project src.cols projs r) = project src.cols projs r := by
    intro r hr
    show ((r ++ project src.cols projs r).drop src.cols.length).take projs.length = _
    rw [List.drop_left' (hw r hr), List.take_of_length_le (by simp [project])]
  show ((cutRows limit offset _).map π).drop offset = _
  rw [← List.map_drop, cutRows_eq_takeCap, drop_takeCap, limitOffset_map]
  unfold orderBy
  congr 1
  unfold sortRows
  rw [map_stableSort (s := fun a b => cmpRows (orderItems order) a b != .gt)]
  · congr 1
    rw [List.map_map]
    exact List.map_congr_left hπ
  · intro a ha b hb
    simp only [List.mem_map] at ha hb
    obtain ⟨r1, hr1, rfl⟩ := ha
    obtain ⟨r2, hr2, rfl⟩ := hb
    show (sortKeyCmp c (sortItems _ _) _ _ != .gt) = (cmpRows (orderItems order) (π _) (π _) != .gt)
    rw [hπ r1 hr1, hπ r2 hr2, sortItems_map,
      sortCmp_aligned ok order _ _ _ _ _ fun it hit => ⟨hval it hit r1 hr1, hval it hit r2 hr2⟩]

theorem envAgg_eq {c : Cfg} (ok : c.Ok) (f : AggFn) (vs : List Val) : envAgg c f vs = f.apply vs := by
  cases f with
  | sum => exact envSum_eq ok vs
  | count => exact envCount_eq ok vs
  | min => exact envMin_eq ok vs
  | max => exact envMax_eq ok vs

/-- as a bag, aggregate()'s table is the reference shape of the aggregate table: one row per group of the reference
    GROUP BY, the key values (read off the group's first row) then the aggregate values -/
theorem aggTbl_perm_sem (keys : List Nat) (aggF : List Row → Row) (hagg : ∀ a b, List.Perm a b → aggF a = aggF b)
    (R : List Row) :
    List.Perm (aggTbl (pickCols keys) aggF (!keys.isEmpty) R)
      ((groupsOf keys R).map fun g => pickCols keys (g.headD []) ++ aggF g) := by
  by_cases hR : R = []
  · subst hR; cases keys <;> simp [aggTbl, groupsOf, dedup, pickCols]
  · refine (aggTbl_perm _ aggF hagg _ R hR).trans (List.Perm.of_eq ?_)
    unfold groupAgg groupsOf
    by_cases hk : keys = []
    · -- no keys: every row has the empty key, one group
      subst hk
      have hd : dedup (R.map (pickCols [])) = [[]] :=
        dedup_const [] _ (by simpa using hR) (by intro x hx; obtain ⟨_, _, rfl⟩ := List.mem_map.1 hx; rfl)
      simp [hd, pickCols, filter_true]
    · rw [if_neg hk, List.map_map]
      apply List.map_congr_left
      intro k hkm
      rw [mem_dedup] at hkm
      obtain ⟨r, hr, rfl⟩ := List.mem_map.1 hkm
      -- the first row of a group carries the group's key
      show pickCols keys r ++ _ = pickCols keys ((R.filter fun x => decide (pickCols keys x = pickCols keys r)).headD []) ++ _
      congr 1
      cases hf : R.filter (fun x => decide (pickCols keys x = pickCols keys r)) with
      | nil => exact absurd (hf ▸ List.mem_filter.2 ⟨hr, decide_eq_true rfl⟩) List.not_mem_nil
      | cons x xs =>
        have : x ∈ R.filter (fun x => decide (pickCols keys x = pickCols keys r)) := hf ▸ List.mem_cons_self
        exact (of_decide_eq_true (List.mem_filter.1 this).2).symm

/-- the GROUP BY key of a row as an Aggregate step reads it, by name -/
def groupKey (cols : List String) (group : List (String × String)) (r : Row) : Key :=
  (group.map (·.2)).map (readCol cols r)

/-- HAVING's value on a group, as the `_h` aggregation computes it -/
def havVals (cols : List String) (hav : Option HavingSpec) (g : List Row) : Row :=
  match hav with
  | none => []
  | some h => [triVal (cmp3 h.op (h.fn.apply (g.map fun r => readCol cols r h.src)) h.lit)]

/-- the aggregation values of a group: one per aggregation of the step, then `_h` -/
def aggVals (cols : List String) (aggs : List AggSpec) (hav : Option HavingSpec) (g : List Row) : Row :=
  (aggs.map fun a => a.fn.apply (g.map fun r => readCol cols r a.src)) ++ havVals cols hav g

theorem aggVals_perm (cols : List String) (aggs : List AggSpec) (hav : Option HavingSpec) (a b : List Row)
    (h : List.Perm a b) : aggVals cols aggs hav a = aggVals cols aggs hav b := by
  unfold aggVals havVals
  congr 1
  · exact List.map_congr_left fun s _ => aggFn_perm _ _ _ (h.map _)
  · cases hav with
    | none => rfl
    | some hv => simp only []; rw [aggFn_perm _ _ _ (h.map _)]

theorem zip_map_self {α β} (l : List α) (f : α → β) : l.zip (l.map f) = l.map fun a => (a, f a) := by
  simpa using List.zip_map' (f := id) (g := f) (l := l)

theorem aggRow_eq {c : Cfg} (ok : c.Ok) (cols : List String) (aggs : List AggSpec) (hav : Option HavingSpec)
    (hm : ∀ h, hav = some h → h.src ∈ cols) :
    ∃ hv, resolveHav cols hav = some hv
      ∧ aggRow c (aggs.zip ((aggs.map (·.src)).map (pos cols))) hv = aggVals cols aggs hav := by
  have ha : ∀ hv, aggRow c (aggs.zip ((aggs.map (·.src)).map (pos cols))) hv
      = fun g => (aggs.map fun a => a.fn.apply (g.map fun r => readCol cols r a.src)) ++ havPart c hv g := by
    intro hv; funext g
    rw [aggRow, List.map_map, zip_map_self, List.map_map]
    exact congrArg (· ++ _) (List.map_congr_left fun a _ => envAgg_eq ok _ _)
  cases hav with
  | none => exact ⟨none, rfl, ha none⟩
  | some h =>
    refine ⟨some (h, pos cols h.src), by rw [resolveHav, colIdx_pos (hm h rfl)]; rfl, (ha _).trans ?_⟩
    simp only [havPart, havingVal, envAgg_eq ok, nullIfAny_cmp]
    rfl

/-- HAVING as `_project_and_filter` evaluates it on a row of an Aggregate step's table -/
def keepH (cols : List String) (hasHav : Bool) (row : Row) : Bool :=
  if hasHav then truthy (readCol cols row "_h") else true

theorem havCond_keepH (group : List (String × String)) (aggs : List AggSpec) (hasHav : Bool) :
    ∃ c, havCond (aggCols group aggs hasHav) hasHav = some c ∧ keeps c = keepH (aggCols group aggs hasHav) hasHav := by
  cases hasHav with
  | false => exact ⟨none, rfl, rfl⟩
  | true =>
    have hm : "_h" ∈ aggCols group aggs true := by simp [aggCols]
    exact ⟨some fun r => readCol (aggCols group aggs true) r "_h",
      by simp only [havCond, if_true, colIdx_pos hm, Option.map_some]; rfl, rfl⟩

/-- the Aggregate step, by name: one row per group, its key and its aggregation values under the step's column names,
    filtered by `_h`, then projected.  Without HAVING and projections the step hands aggregate()'s table on as it is,
    which is what `_project_and_filter` makes of it: one form for both branches. -/
theorem execAggregate_spec {c : Cfg} (ok : c.Ok) (src : Tbl) (group : List (String × String)) (aggs : List AggSpec) (hav : Option HavingSpec)
    (projs : List NProj) {hasHav : Bool} (hs : hav.isSome = hasHav) (hg : ∀ n ∈ group.map (·.2), n ∈ src.cols)
    (ha : ∀ n ∈ aggs.map (·.src), n ∈ src.cols) (hh : ∀ h, hav = some h → h.src ∈ src.cols)
    (hp : ∀ p ∈ projs, p.src ∈ aggCols group aggs hasHav) :
    execAggregate c src group aggs hav projs none 0
      = some (projTbl projs ⟨aggCols group aggs hasHav,
          (aggTbl (groupKey src.cols group) (aggVals src.cols aggs hav) (!group.isEmpty) src.rows).filter
            (keepH (aggCols group aggs hasHav) hasHav)⟩) := by
  subst hs
  obtain ⟨hv, hhv, hrow⟩ := aggRow_eq ok src.cols aggs hav hh
  obtain ⟨c, hc, hkeep⟩ := havCond_keepH group aggs hav.isSome
  have hw : ∀ o : Option Tbl, o.map (withOffset 0) = o := fun o => by cases o <;> simp [withOffset_zero]
  have hkey : pickCols ((group.map (·.2)).map (pos src.cols)) = groupKey src.cols group := funext fun r => pickCols_map _ _ r
  simp only [execAggregate, resolve_eq src.cols _ hg, resolve_eq src.cols _ ha, hhv, capOf, Option.map_none, ite_self,
    aggregate_eq ok, withOffset_zero, hc, hw, hkey, hrow]
  split
  · next hcond =>
    rw [Bool.and_eq_true, Option.isNone_iff_eq_none, List.isEmpty_iff] at hcond
    rw [hcond.1, hcond.2]
    exact congrArg (fun rows => some (Tbl.mk _ rows)) (filter_true _).symm
  · rw [projectFilterTbl_none _ c projs hp, hkeep]

/-- a row of an Aggregate step's table associates the step's column names with the key of the group (read off any of
    its rows `rep`) and its aggregation values -/
theorem aggTable_zip (cols : List String) (group : List (String × String)) (aggs : List AggSpec) (hav : Option HavingSpec)
    (hasHav : Bool) (rep : Row) (g : List Row) :
    (aggCols group aggs hasHav).zip (groupKey cols group rep ++ aggVals cols aggs hav g)
      = group.map (fun p => (p.1, readCol cols rep p.2))
        ++ aggs.map (fun a => (a.alias, a.fn.apply (g.map fun r => readCol cols r a.src)))
        ++ (if hasHav then ["_h"] else []).zip (havVals cols hav g) := by
  rw [aggCols, groupKey, aggVals, ← List.append_assoc, List.zip_append (by simp), List.zip_append (by simp), List.map_map,
    List.zip_map', List.zip_map']
  rfl

/-- the extra Aggregate step of SELECT DISTINCT over a table with duplicate-free column names: the distinct rows -/
theorem execAggregate_distinct {c : Cfg} (ok : c.Ok) (names : List String) (hn : names.Nodup) (hne : names ≠ [])
    (X : List Row) (hX : ∀ x ∈ X, x.length = names.length) :
    ∃ out, execAggregate c ⟨names, X⟩ ((dedup names).map fun a => (a, a)) [] none [] none 0 = some ⟨names, out⟩
      ∧ List.Perm out (dedup X) := by
  have hsnd : (names.map fun a => (a, a)).map (·.2) = names := by rw [List.map_map]; exact List.map_id _
  have hcols : aggCols (names.map fun a => (a, a)) [] (none : Option HavingSpec).isSome = names := by
    show (names.map fun a => (a, a)).map (·.1) ++ [] ++ [] = names
    rw [List.append_nil, List.append_nil, List.map_map]
    exact List.map_id _
  have hemp : (names.map fun a => (a, a)).isEmpty = false := by
    cases names with
    | nil => exact absurd rfl hne
    | cons _ _ => rfl
  rw [dedup_of_nodup names hn,
    execAggregate_spec ok ⟨names, X⟩ _ [] none [] rfl (by rw [hsnd]; exact fun _ h => h) nofun (fun _ e => nomatch e) nofun,
    projTbl, if_pos List.isEmpty_nil, hcols, show keepH names none.isSome = fun _ => true from rfl, filter_true, hemp]
  refine ⟨_, rfl, ?_⟩
  by_cases hXe : X = []
  · subst hXe; simp [aggTbl, dedup]
  · -- every row is its own group key
    refine (aggTbl_perm _ _ (fun _ _ _ => rfl) _ X hXe).trans (List.Perm.of_eq ?_)
    unfold groupAgg groupKey
    rw [hsnd, map_fixed fun x hx => readRow_self hn x (hX x hx)]
    exact map_fixed fun k _ => List.append_nil k

end SqlglotModel.Exec
