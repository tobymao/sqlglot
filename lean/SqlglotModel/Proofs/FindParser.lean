/-
  Python's `sep.join(s.split(sep)) == s` (`join_split`), extended to a list of texts (`join_flatMap_split`), is why the
  words `_find_parser` walks the trie with and the string it indexes the dict with name the same key.  Both are read off
  the list of pieces with a separator in front of each: joining drops the first separator (`joinWith_eq`), and the
  pieces of a split spell `sep + s` (`splitOn_pieces`).
-/
import SqlglotModel.Model.FindParser

namespace SqlglotModel.FindParser

/-- `sep.join(l)` in closed form: every piece behind a separator, the first separator dropped -/
theorem joinWith_eq (sep : Char) (l : List Str) : joinWith sep l = (l.flatMap (sep :: ·)).tail := by
  cases l with
  | nil => rfl
  | cons w l =>
    induction l generalizing w with
    | nil => simp [joinWith]
    | cons w2 ws ih => rw [joinWith, ih]; simp

/-- the pieces of `s.split(sep)`, each behind a separator, spell `sep + s` -/
theorem splitOn_pieces (sep : Char) (s : Str) : (splitOn sep s).flatMap (sep :: ·) = sep :: s := by
  induction s with
  | nil => rfl
  | cons c cs ih =>
    rw [splitOn]
    split
    · rename_i h
      rw [List.flatMap_cons, ih, h]; rfl
    · -- `consHead` puts `c` in front of the first piece, which exists because the pieces of `cs` spell `sep :: cs`
      cases hl : splitOn sep cs with
      | nil => rw [hl] at ih; cases ih
      | cons w ws => rw [hl] at ih; cases ih; rfl

theorem splitOn_ne_nil (sep : Char) (s : Str) : splitOn sep s ≠ [] := fun h => by
  have := splitOn_pieces sep s
  rw [h] at this
  cases this

theorem join_split (sep : Char) (s : Str) : joinWith sep (splitOn sep s) = s := by
  rw [joinWith_eq, splitOn_pieces]; rfl

theorem join_flatMap_split (sep : Char) (this : List Str) :
    joinWith sep (this.flatMap (splitOn sep)) = joinWith sep this := by
  rw [joinWith_eq, joinWith_eq, List.flatMap_assoc]
  simp only [splitOn_pieces]

/-- Any trie key function whose words spell the text (`hk`; `split(" ")` does by `splitOn_pieces`, `split()` does not)
    keeps the loop's invariant: the words walked so far and the texts consumed so far spell the same string.  An EXISTS
    answer of the trie then names a key the dict has. -/
theorem walk_no_keyError {trieKey : Str → List Str} (hk : ∀ t, (trieKey t).flatMap (' ' :: ·) = ' ' :: t)
    (keys : List Str) :
    ∀ (toks this walked : List Str), walked.flatMap (' ' :: ·) = this.flatMap (' ' :: ·) →
      ∀ k, walk trieKey keys toks this walked ≠ .keyError k := by
  intro toks
  induction toks with
  | nil => intro this walked _ k; exact nofun
  | cons t ts ih =>
    intro this walked hw k
    have hw' : (walked ++ trieKey t).flatMap (' ' :: ·) = (this ++ [t]).flatMap (' ' :: ·) := by
      rw [List.flatMap_append, List.flatMap_append, hw, hk, List.flatMap_singleton]
    rw [walk]
    by_cases hne : trieKey t = []
    · rw [if_pos hne]; exact nofun
    rw [if_neg hne]
    by_cases hex : walked ++ trieKey t ∈ keys.map (splitOn ' ')
    · -- EXISTS: the joined raw texts are the key whose words the trie found
      obtain ⟨k0, hk0, hsplit⟩ := List.mem_map.mp hex
      have hj : joinWith ' ' (this ++ [t]) = k0 := by
        rw [joinWith_eq, ← hw', ← hsplit, ← joinWith_eq, join_split]
      rw [if_pos hex, hj, if_pos hk0]
      exact nofun
    · rw [if_neg hex]
      split
      · exact ih _ _ hw' k
      · exact nofun

end SqlglotModel.FindParser
