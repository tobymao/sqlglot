/-
  The guarded `%`-walk ends in `found` or `notFound` (`walkGuarded_safe`): no `s[j]` is out of range, each sitting behind
  `j < length`, and the fuel is not used up, since every iteration moves `i` forward from `i < length` and so leaves less
  to walk.  The local `next` of the proof is that step; it is the fuel argument of every recursive call.
-/
import SqlglotModel.Model.FormatScan

namespace SqlglotModel.FormatScan

theorem specAt_safe (spec : Char → Bool) (s : List Char) (j : Nat) (k : Unit → R) (hj : j < s.length)
    (hk : k () = .found ∨ k () = .notFound) : specAt spec s j k = .found ∨ specAt spec s j k = .notFound := by
  unfold specAt
  rw [List.getElem?_eq_getElem hj]
  dsimp only
  split
  · exact Or.inl rfl
  · exact hk

theorem walkGuarded_safe (spec : Char → Bool) (s : List Char) :
    ∀ (fuel i : Nat), s.length - i < fuel →
      walkGuarded spec s fuel i = .found ∨ walkGuarded spec s fuel i = .notFound := by
  intro fuel
  induction fuel with
  | zero => intro i h; omega
  | succ fuel ih =>
    intro i hf
    unfold walkGuarded
    split
    · rename_i hlt
      -- moving on from `i < length` leaves less to walk, so the remaining fuel suffices
      have next : ∀ k, 0 < k → s.length - (i + k) < fuel := fun k hk =>
        Nat.lt_of_lt_of_le (Nat.sub_lt_sub_left hlt (Nat.lt_add_of_pos_right hk)) (Nat.le_of_lt_succ hf)
      rw [List.getElem?_eq_getElem hlt]
      dsimp only
      split
      · split
        · rename_i h1
          exact specAt_safe spec s (i + 1) _ h1 (ih (i + 2) (next 2 (by decide)))
        · exact ih (i + 2) (next 2 (by decide))
      · exact ih (i + 1) (next 1 (by decide))
    · exact Or.inr rfl

end SqlglotModel.FormatScan
