/-
  Lemmas about Model/Ident.lean (`Dialect.normalize_identifier`), used by C10 (qualification) and C18 (the schema's name
  normalisation).
-/
import SqlglotModel.Model.Ident

namespace SqlglotModel.Ident

theorem normalize_idem (f : CaseFns) (hf : f.Ok) (s : Strategy) (i : Ident) :
    normalize f s (normalize f s i) = normalize f s i := by
  unfold normalize
  cases h : folds s i.quoted
  · simp only [Bool.false_eq_true, if_false, h]
  · simp only [if_true, h]
    split <;> simp only [hf.upper_idem, hf.lower_idem]

theorem folds_of_quoted {s : Strategy} (q : Bool) (h : folds s true = true) : folds s q = true := by
  cases s with
  | caseInsensitive | caseInsensitiveUpper => rfl
  | lowercase | uppercase | caseSensitive => cases h

/-- normalising a normalised name again changes nothing, whatever quoting `q` it is given, as long as it is folded only
    where the original was (`hq`) -/
theorem normalize_name_stable (f : CaseFns) (hf : f.Ok) (s : Strategy) (i : Ident) (q : Bool)
    (hq : folds s q = true → folds s i.quoted = true) :
    (normalize f s ⟨(normalize f s i).name, q⟩).name = (normalize f s i).name := by
  unfold normalize
  by_cases h : folds s q = true
  · simp only [h, hq h, if_true]
    split
    · exact hf.upper_idem _
    · exact hf.lower_idem _
  · simp only [h, Bool.false_eq_true, if_false]

end SqlglotModel.Ident
