/-
  C14: the level contract of Model/Levels.lean (core Lean only).  Every run keeps a `Frame` (the level is handed back,
  `errors` / `log` only grow, nothing is touched at IMMEDIATE), and a run at any level is compared with the WARN run
  (`Rel`, `ResSim`): in lockstep until the strict run stops, after which the WARN run goes on alone.  Whether, and with
  which ParseError, a strict run has stopped is a function of what the WARN run has collected and logged (`stopOf`), so
  the outcome at every level is read off the final state of the WARN run (`run_of_warn`).  Frame and lockstep are one
  notion (`Good`), shown primitive by primitive and closed under sequencing, choice and `_try_parse`, whose closed form
  is `St.tryResult` (`exec_tryParse`); `exec_good` is the induction over programs.  `xexec_confined`: without a
  propagating sub-parser and a direct raise an `XComb` program is its `Comb` image.  Generator side: a program
  without a direct `raise UnsupportedError` is, at every level, its text and its messages (`gspec`).
-/
import SqlglotModel.Model.Levels
namespace SqlglotModel.Levels

structure Frame (s s' : St) : Prop where
  level : s'.level = s.level
  errs : s.errors <+: s'.errors
  /-- every batch logged on the way is a prefix of the final errors -/
  log : ∃ bs, s'.log = s.log ++ bs ∧ ∀ b ∈ bs, b <+: s'.errors
  /-- what lets `_try_parse` forget what its body, run at IMMEDIATE, did to `errors` and `log` -/
  imm : s.level = .immediate → s'.errors = s.errors ∧ s'.log = s.log

theorem Frame.of_eq {s s' : St} (hl : s'.level = s.level) (he : s'.errors = s.errors) (hg : s'.log = s.log) :
    Frame s s' :=
  ⟨hl, ⟨[], by simp [he]⟩, ⟨[], by simp [hg], nofun⟩, fun _ => ⟨he, hg⟩⟩

theorem Frame.refl (s : St) : Frame s s := .of_eq rfl rfl rfl

theorem Frame.trans {a b c : St} (h1 : Frame a b) (h2 : Frame b c) : Frame a c := by
  obtain ⟨g1, hg1, p1⟩ := h1.log
  obtain ⟨g2, hg2, p2⟩ := h2.log
  refine ⟨h2.level.trans h1.level, h1.errs.trans h2.errs,
    ⟨g1 ++ g2, by rw [hg2, hg1, List.append_assoc], fun x hx => ?_⟩, fun h => ?_⟩
  · exact (List.mem_append.1 hx).elim (fun hx => (p1 x hx).trans h2.errs) (p2 x)
  · have x := h1.imm h
    have y := h2.imm (h1.level.trans h)
    exact ⟨y.1.trans x.1, y.2.trans x.2⟩

/-- the levels at which neither `raise_error` nor `check_errors` raises -/
def Lenient (l : Level) : Prop := l = .ignore ∨ l = .warn

theorem Lenient.ignore : Lenient .ignore := .inl rfl

theorem Lenient.warn : Lenient .warn := .inr rfl

theorem not_lenient {l : Level} (h : l = .raise ∨ l = .immediate) : ¬ Lenient l := by
  rcases h with rfl | rfl <;> simp [Lenient]

/-- a run keeps the frame, and a lenient run never raises -/
def ResFrame (s : St) : Res → Prop
  | .ok _ s' => Frame s s'
  | .exc _ s' => Frame s s' ∧ ¬ Lenient s.level
  | .diverge => True

theorem ResFrame.after {s s1 : St} {r : Res} (hr : ResFrame s1 r) (h : Frame s s1) : ResFrame s r := by
  cases r with
  | ok _ _ => exact Frame.trans h hr
  | exc _ _ => exact ⟨h.trans hr.1, by rw [← h.level]; exact hr.2⟩
  | diverge => trivial

theorem ResFrame.bind {s : St} {r : Res} {f : Tree → St → Res} (h : ResFrame s r)
    (hf : ∀ t s1, ResFrame s1 (f t s1)) : ResFrame s (r.bind f) := by
  cases r with
  | ok t s1 => exact (hf t s1).after h
  | exc e s1 => exact h
  | diverge => trivial

theorem ResFrame.pure (t : Tree) (s : St) : ResFrame s (.ok t s) := Frame.refl s

theorem ResFrame.ite {s : St} {c : Prop} [Decidable c] {a b : Res} (ha : ResFrame s a) (hb : ResFrame s b) :
    ResFrame s (if c then a else b) := by
  split <;> assumption

theorem firstNonempty_eq_find? (l : List (List Msg)) : firstNonempty l = l.find? (· ≠ []) := by
  induction l with
  | nil => rfl
  | cons x xs ih => cases x with
    | nil => rw [firstNonempty, ih]; rfl
    | cons y ys => rfl

theorem firstNonempty_append_none {l : List (List Msg)} (h : firstNonempty l = none) (m : List (List Msg)) :
    firstNonempty (l ++ m) = firstNonempty m := by
  rw [firstNonempty_eq_find?] at h
  rw [firstNonempty_eq_find?, List.find?_append, h, Option.none_or, firstNonempty_eq_find?]

theorem firstNonempty_append_some {l : List (List Msg)} {b : List Msg} (h : firstNonempty l = some b) (m : List (List Msg)) :
    firstNonempty (l ++ m) = some b := by
  rw [firstNonempty_eq_find?] at h
  rw [firstNonempty_eq_find?, List.find?_append, h, Option.some_or]

theorem firstNonempty_some_mem {l : List (List Msg)} {b : List Msg} (h : firstNonempty l = some b) : b ∈ l ∧ b ≠ [] := by
  rw [firstNonempty_eq_find?] at h
  exact ⟨List.mem_of_find?_eq_some h, by simpa using List.find?_some h⟩

theorem firstNonempty_isSome {l : List (List Msg)} : (firstNonempty l).isSome ↔ ∃ b ∈ l, b ≠ [] := by
  rw [firstNonempty_eq_find?, List.find?_isSome]
  simp

/-- the ParseError with which the run at level `l` has stopped by the time the WARN run has collected `errors` and logged
    `log`: RAISE stops at the first `check_errors` that finds errors (WARN's first non-empty batch), IMMEDIATE at the first
    error; `none` = it is still running.  (Fields, not the state: moves of `ctl` leave it alone by `rfl`.) -/
def stopOf (cfg : Cfg) : Level → (errors : List Msg) → (log : List (List Msg)) → Option Exn
  | .raise, _, log => (firstNonempty log).map (Exn.collected · cfg.maxErrors)
  | .immediate, errors, _ => errors.head?.map Exn.single
  | _, _, _ => none

section
variable {cfg : Cfg} {l l1 l2 : Level} {e : Exn} {s1 s2 : St}

theorem stopOf_nil (cfg : Cfg) (l : Level) : stopOf cfg l [] [] = none := by cases l <;> rfl

section
variable {es : List Msg} {log : List (List Msg)}

theorem stopOf_of_lenient (h : Lenient l) : stopOf cfg l es log = none := by
  rcases h with rfl | rfl <;> rfl

theorem stopOf_raise_eq_some :
    stopOf cfg .raise es log = some e ↔ ∃ b, firstNonempty log = some b ∧ Exn.collected b cfg.maxErrors = e :=
  Option.map_eq_some_iff

theorem stopOf_immediate_eq_some : stopOf cfg .immediate es log = some e ↔ ∃ m, es.head? = some m ∧ Exn.single m = e :=
  Option.map_eq_some_iff

theorem stopOf_raise_isSome : (stopOf cfg .raise es log).isSome ↔ ∃ b ∈ log, b ≠ [] := by
  rw [stopOf, Option.isSome_map]; exact firstNonempty_isSome

theorem stopOf_immediate_isSome : (stopOf cfg .immediate es log).isSome ↔ es ≠ [] := by
  rw [stopOf, Option.isSome_map, List.isSome_head?]

/-- IMMEDIATE still running has seen no error, and stops at the next one -/
theorem stopOf_immediate_next (h : stopOf cfg .immediate es log = none) (m : Msg) :
    stopOf cfg .immediate (es ++ [m]) log = some (Exn.single m) := by
  cases es with
  | nil => rfl
  | cons => cases h

/-- RAISE still running stops at the next `check_errors` exactly if that one logs a non-empty batch -/
theorem stopOf_raise_next (h : stopOf cfg .raise es log = none) (es' b : List Msg) :
    stopOf cfg .raise es' (log ++ [b]) = if b = [] then none else some (Exn.collected b cfg.maxErrors) := by
  rw [stopOf, firstNonempty_append_none (Option.map_eq_none_iff.1 h)]
  cases b <;> rfl

end

theorem stopOf_mono {s s' : St} (h : Frame s s') (hs : stopOf cfg l s.errors s.log = some e) :
    stopOf cfg l s'.errors s'.log = some e := by
  cases l with
  | raise =>
    obtain ⟨bs, hb, _⟩ := h.log
    obtain ⟨b, hb', rfl⟩ := stopOf_raise_eq_some.1 hs
    rw [hb]
    exact stopOf_raise_eq_some.2 ⟨b, firstNonempty_append_some hb' bs, rfl⟩
  | immediate =>
    obtain ⟨a, ha⟩ := h.errs
    obtain ⟨m, hm, rfl⟩ := stopOf_immediate_eq_some.1 hs
    rw [← ha]
    exact stopOf_immediate_eq_some.2 ⟨m, by rw [List.head?_append, hm, Option.some_or], rfl⟩
  | _ => cases hs

theorem ctl_eq (h : s1.ctl = s2.ctl) :
    s1.toks = s2.toks ∧ s1.pos = s2.pos ∧ s1.chunk = s2.chunk ∧ s1.nodes = s2.nodes := by
  simpa [St.ctl] using h

/-- `l₂` is WARN and the `l₁` run has not stopped (under RAISE it holds the same errors), or — inside `_try_parse` — both
    runs are at IMMEDIATE; nothing is said of `errors` / `log` there: they are not touched (`Frame.imm`).  Of each state
    `left`, `right`, `kept` read `level`, `errors`, `log` only, which a `{ s with pos := … }` holds by `rfl`: a step that
    moves `ctl` alone proves the new `ctl` equal and passes the three on as they are (`matchTok_good`) -/
structure Rel (cfg : Cfg) (l1 l2 : Level) (s1 s2 : St) : Prop where
  ctl : s1.ctl = s2.ctl
  left : s1.level = l1
  right : s2.level = l2
  kept : (l2 = .warn ∧ stopOf cfg l1 s2.errors s2.log = none ∧ (l1 = .raise → s1.errors = s2.errors)) ∨
    (l1 = .immediate ∧ l2 = .immediate)

theorem Rel.running (hc : s1.ctl = s2.ctl) (h1 : s1.level = l1) (h2 : s2.level = .warn)
    (hs : stopOf cfg l1 s2.errors s2.log = none) (he : l1 = .raise → s1.errors = s2.errors) : Rel cfg l1 .warn s1 s2 :=
  ⟨hc, h1, h2, .inl ⟨rfl, hs, he⟩⟩

theorem Rel.lenient (hl : Lenient l1) (hc : s1.ctl = s2.ctl) (h1 : s1.level = l1) (h2 : s2.level = .warn) :
    Rel cfg l1 .warn s1 s2 :=
  .running hc h1 h2 (stopOf_of_lenient hl) fun e => by rcases hl with h | h <;> cases e.symm.trans h

theorem Rel.inTry (hc : s1.ctl = s2.ctl) (h1 : s1.level = .immediate) (h2 : s2.level = .immediate) :
    Rel cfg .immediate .immediate s1 s2 :=
  ⟨hc, h1, h2, .inr ⟨rfl, rfl⟩⟩

theorem Rel.init (cfg : Cfg) (l : Level) : Rel cfg l .warn (init l) (init .warn) :=
  .running rfl rfl rfl (stopOf_nil cfg l) fun _ => rfl

/-- outside `_try_parse` the second run is at WARN and the first has not stopped -/
theorem Rel.going (h : Rel cfg l1 l2 s1 s2) (hl : ¬ (l1 = .immediate ∧ l2 = .immediate)) :
    l2 = .warn ∧ stopOf cfg l1 s2.errors s2.log = none :=
  have ⟨a, b, _⟩ := h.kept.resolve_right hl
  ⟨a, b⟩

/-- the two results: in lockstep (both return, or both pass on the same ParseError, which happens only inside
    `_try_parse`), or the strict run has raised `stopOf` of the state `sm` the WARN run was in, which then went on alone -/
def ResSim (cfg : Cfg) (l1 l2 : Level) : Res → Res → Prop
  | .ok t1 s1, .ok t2 s2 => t1 = t2 ∧ Rel cfg l1 l2 s1 s2
  | .exc e1 s1, .exc e2 s2 => e1 = e2 ∧ s1.ctl = s2.ctl ∧ l2 = .immediate
  | .exc e1 _, r2 => l2 = .warn ∧ ∃ sm, sm.level = .warn ∧ stopOf cfg l1 sm.errors sm.log = some e1 ∧ ResFrame sm r2
  | .diverge, .diverge => True
  | _, _ => False

theorem ResSim.stopped {sm s : St} {r : Res} (hw : sm.level = .warn)
    (hs : stopOf cfg l1 sm.errors sm.log = some e) (hF : ResFrame sm r) : ResSim cfg l1 .warn (.exc e s) r := by
  cases r with
  | exc _ _ => exact (hF.2 (hw ▸ .warn)).elim
  | _ => exact ⟨rfl, sm, hw, hs, hF⟩

theorem ResSim.raised {s : St} {r : Res} (h : ResSim cfg l .warn (.exc e s) r) :
    ∃ sm : St, stopOf cfg l sm.errors sm.log = some e ∧ ResFrame sm r := by
  cases r with
  | exc _ _ => exact nomatch h.2.2
  | _ =>
    obtain ⟨_, sm, _, hs, hF⟩ := h
    exact ⟨sm, hs, hF⟩

/-- a lenient run never stops, so it is in lockstep with the WARN run to the end -/
theorem ResSim.of_lenient (hl : Lenient l) {r1 r2 : Res} (h : ResSim cfg l .warn r1 r2) :
    (∃ t a b, r1 = .ok t a ∧ r2 = .ok t b ∧ a.ctl = b.ctl) ∨ (r1 = .diverge ∧ r2 = .diverge) := by
  cases r1 with
  | ok t a =>
    cases r2 <;> simp only [ResSim] at h
    exact .inl ⟨t, a, _, rfl, h.1 ▸ rfl, h.2.ctl⟩
  | exc e a =>
    obtain ⟨sm, hs, _⟩ := h.raised
    cases (stopOf_of_lenient hl).symm.trans hs
  | diverge =>
    cases r2 with
    | diverge => exact .inr ⟨rfl, rfl⟩
    | _ => exact h.elim

theorem ResSim.bind {r1 r2 : Res} {k : Tree → St → Res} (h : ResSim cfg l1 l2 r1 r2)
    (hk : ∀ t s1 s2, Rel cfg l1 l2 s1 s2 → ResSim cfg l1 l2 (k t s1) (k t s2))
    (hf : ∀ t s, ResFrame s (k t s)) :
    ResSim cfg l1 l2 (r1.bind k) (r2.bind k) := by
  cases r1 with
  | ok t1 s1 =>
    cases r2 <;> simp only [ResSim] at h
    obtain ⟨rfl, h⟩ := h
    exact hk _ _ _ h
  | exc e1 s1 =>
    cases r2 with
    | ok t2 s2 =>
      -- the WARN run goes on alone
      obtain ⟨rfl, sm, hw, hs, hF⟩ := h
      exact .stopped hw hs (hF.bind (r := .ok t2 s2) hf)
    | _ => exact h
  | diverge =>
    cases r2 with
    | diverge => trivial
    | _ => exact h.elim

theorem ResSim.ite {c : Prop} [Decidable c] {a1 a2 b1 b2 : Res}
    (ha : ResSim cfg l1 l2 a1 a2) (hb : ResSim cfg l1 l2 b1 b2) :
    ResSim cfg l1 l2 (if c then a1 else b1) (if c then a2 else b2) := by
  split <;> assumption

/-- a parse method keeps the frame and, from related states, runs in lockstep.  The two go together: the lockstep of a
    sequence asks for the frame of its second part, for the WARN run that goes on alone (`ResSim.bind`) -/
structure Good (cfg : Cfg) (m : St → Res) : Prop where
  frame : ∀ s, ResFrame s (m s)
  sim : ∀ {l1 l2 s1 s2}, Rel cfg l1 l2 s1 s2 → ResSim cfg l1 l2 (m s1) (m s2)

theorem Good.pure (t : Tree) : Good cfg (.ok t) := ⟨.pure t, fun h => ⟨rfl, h⟩⟩

theorem Good.diverge : Good cfg fun _ => .diverge := ⟨fun _ => trivial, fun _ => trivial⟩

theorem Good.bind {m : St → Res} {k : Tree → St → Res} (hm : Good cfg m) (hk : ∀ t, Good cfg (k t)) :
    Good cfg fun s => (m s).bind k :=
  ⟨fun s => (hm.frame s).bind fun t => (hk t).frame,
    fun h => (hm.sim h).bind (fun t _ _ h' => (hk t).sim h') fun t => (hk t).frame⟩

theorem Good.ite {c : Prop} [Decidable c] {m1 m2 : St → Res} (h1 : Good cfg m1) (h2 : Good cfg m2) :
    Good cfg fun s => if c then m1 s else m2 s :=
  ⟨fun s => .ite (h1.frame s) (h2.frame s), fun h => .ite (h1.sim h) (h2.sim h)⟩

theorem raiseError_frame (m : Msg) (s : St) : ResFrame s (raiseError m s) := by
  unfold raiseError
  split
  · next h => exact ⟨.refl s, not_lenient (.inr h)⟩
  · next h => exact ⟨rfl, ⟨[m], rfl⟩, ⟨[], by simp, nofun⟩, fun h' => absurd h' h⟩

theorem raiseError_good (m : Msg) : Good cfg (raiseError m) where
  frame := raiseError_frame m
  sim {l1 l2 s1 s2} h := by
    obtain ⟨hc, h1, h2, k⟩ := h
    unfold raiseError
    rcases k with ⟨rfl, k, ke⟩ | ⟨rfl, rfl⟩
    · cases l1 <;> simp only [h1, h2, reduceCtorEq, if_false, if_true]
      · exact ⟨rfl, .lenient .ignore hc rfl rfl⟩
      · exact ⟨rfl, .lenient .warn hc rfl rfl⟩
      · exact ⟨rfl, .running hc rfl rfl k fun _ => by rw [ke rfl]⟩
      · -- IMMEDIATE stops here: `m` is the first error the WARN run collects
        exact .stopped rfl (stopOf_immediate_next k m) (.pure _ _)
    · simp only [h1, h2, if_true]
      exact ⟨rfl, hc, rfl⟩

theorem raiseAll_good (ms : List Msg) : Good cfg (raiseAll ms) := by
  induction ms with
  | nil => exact .pure .none
  | cons m ms ih => exact .bind (raiseError_good m) fun _ => ih

theorem raiseAll_of_not_immediate (ms : List Msg) (s : St) (h : s.level ≠ .immediate) :
    raiseAll ms s = .ok .none { s with errors := s.errors ++ ms } := by
  induction ms generalizing s with
  | nil => simp [raiseAll]
  | cons m ms ih =>
    simp only [raiseAll, raiseError, h, if_false, Res.bind]
    rw [ih { s with errors := s.errors ++ [m] } h]
    simp

theorem countNode_good : Good cfg (countNode cfg) where
  frame s := by
    unfold countNode
    split
    · exact .refl s
    · simp only
      split
      · exact (raiseError_frame _ { s with nodes := s.nodes + 1 }).after (.of_eq rfl rfl rfl)
      · exact .of_eq rfl rfl rfl
  sim {l1 l2 s1 s2} h := by
    unfold countNode
    split
    · exact ⟨rfl, h⟩
    · obtain ⟨a, b, c, d⟩ := ctl_eq h.ctl
      have h' : Rel cfg l1 l2 { s1 with nodes := s1.nodes + 1 } { s2 with nodes := s1.nodes + 1 } :=
        ⟨by simp [St.ctl, a, b, c], h.left, h.right, h.kept⟩
      rw [← d]
      simp only
      split
      · exact (raiseError_good _).sim h'
      · exact ⟨rfl, h'⟩

/-- the half of `validate_expression` that looks at the level: IGNORE skips what every other level reports -/
theorem raiseUnlessIgnore_good (ms : List Msg) (t : Tree) :
    Good cfg fun s => if s.level ≠ .ignore then (raiseAll ms s).bind fun _ s2 => .ok t s2 else .ok t s where
  frame s := .ite (((raiseAll_good (cfg := cfg) ms).frame s).bind .pure) (.pure t s)
  sim {l1 l2 a b} hab := by
    by_cases hi : l1 = .ignore
    · -- IGNORE skips what WARN collects
      subst hi
      obtain ⟨rfl, _⟩ := hab.going (by simp)
      simp only [hab.left, hab.right, ne_eq, not_true_eq_false, reduceCtorEq, not_false_eq_true, if_true, if_false]
      rw [raiseAll_of_not_immediate _ b (by simp [hab.right])]
      exact ⟨rfl, .lenient .ignore hab.ctl hab.left hab.right⟩
    · have hb : b.level ≠ .ignore := by rcases hab.kept with ⟨rfl, _⟩ | ⟨_, rfl⟩ <;> simp [hab.right]
      simp only [hab.left, hi, hb, ne_eq, not_false_eq_true, if_true]
      exact ((raiseAll_good ms).sim hab).bind (fun _ _ _ h' => ⟨rfl, h'⟩) .pure

theorem validateExpr_good (req : List (Nat × Msg)) (t : Tree) : Good cfg (validateExpr cfg req t) :=
  .bind countNode_good fun _ => raiseUnlessIgnore_good _ t

theorem checkErrors_good : Good cfg (checkErrors cfg) where
  frame s := by
    unfold checkErrors
    split
    · next h =>
      exact ⟨rfl, List.prefix_refl _, ⟨[s.errors], rfl, fun b hb => by rw [List.mem_singleton.1 hb]; exact List.prefix_refl _⟩,
        fun h' => by rw [h] at h'; contradiction⟩
    · split
      · next h => exact ⟨.refl s, not_lenient (.inl h.1)⟩
      · exact .refl s
  sim {l1 l2 s1 s2} h := by
    obtain ⟨hc, h1, h2, k⟩ := h
    unfold checkErrors
    rcases k with ⟨rfl, k, ke⟩ | ⟨rfl, rfl⟩
    · cases l1 <;> simp only [h1, h2, reduceCtorEq, if_false, if_true, false_and, true_and]
      · exact ⟨rfl, .lenient .ignore hc h1 rfl⟩
      · exact ⟨rfl, .lenient .warn hc rfl rfl⟩
      · -- RAISE stops iff there are errors: then WARN's batch, the same errors, is its first non-empty one
        have hs := stopOf_raise_next k s2.errors s2.errors
        rw [ke rfl]
        split
        · next hE => exact .stopped rfl (hs.trans (if_neg hE)) (.pure _ _)
        · next hE => exact ⟨rfl, .running hc h1 rfl (hs.trans (if_pos (Decidable.not_not.1 hE))) fun _ => ke rfl⟩
      · exact ⟨rfl, .running hc h1 rfl k nofun⟩
    · simp only [h1, h2, reduceCtorEq, if_false, false_and]
      exact ⟨rfl, .inTry hc h1 h2⟩

theorem matchTok_good (t : Nat) : Good cfg (matchTok t) where
  frame s := .ite (Frame.of_eq rfl rfl rfl) (.refl s)
  sim {l1 l2 s1 s2} h := by
    obtain ⟨a, b, c, d⟩ := ctl_eq h.ctl
    unfold matchTok
    rw [a, b]
    split
    · exact ⟨rfl, by simp [St.ctl, *], h.left, h.right, h.kept⟩
    · exact ⟨rfl, h⟩

theorem advanceChunk_good : Good cfg (advanceChunk cfg) where
  frame s := by
    unfold advanceChunk
    split
    · exact .of_eq rfl rfl rfl
    · exact .refl s
  sim {l1 l2 s1 s2} h := by
    obtain ⟨a, b, c, d⟩ := ctl_eq h.ctl
    unfold advanceChunk
    rw [c]
    split
    · exact ⟨rfl, by simp [St.ctl, d], h.left, h.right, h.kept⟩
    · exact ⟨rfl, h⟩

theorem atEnd_good : Good cfg atEnd where
  frame s := .ite (.pure _ s) (.pure _ s)
  sim {l1 l2 s1 s2} h := by
    obtain ⟨a, b, c, d⟩ := ctl_eq h.ctl
    unfold atEnd
    rw [a, b]
    exact .ite ⟨rfl, h⟩ ⟨rfl, h⟩

theorem tryFinish_eq (idx : Nat) (saved : Level) (retreat : Bool) (this : Tree) (s : St) :
    tryFinish idx saved retreat this s =
      .ok this { s with pos := if !this.truthy || retreat then idx else s.pos, level := saved } := by
  unfold tryFinish
  split <;> rfl

/-- what `_try_parse` entered in `s` hands back when its body ended in `a` with result `this`: `s` with the body's `ctl`,
    the position retreated if asked for or if nothing was parsed -/
def St.leaveTry (s : St) (retreat : Bool) (this : Tree) (a : St) : St :=
  { s with toks := a.toks, pos := if !this.truthy || retreat then s.pos else a.pos, chunk := a.chunk, nodes := a.nodes }

theorem St.leaveTry_ctl {s1 s2 a b : St} (hp : s1.pos = s2.pos) (hc : a.ctl = b.ctl) (retreat : Bool) (this : Tree) :
    (s1.leaveTry retreat this a).ctl = (s2.leaveTry retreat this b).ctl := by
  simp [St.ctl, St.leaveTry, hp, ctl_eq hc]

/-- each call keeps its own level, `errors` and `log`: whatever related the states at entry relates them at exit -/
theorem Rel.leaveTry {a b : St} (h : Rel cfg l1 l2 s1 s2) (hc : a.ctl = b.ctl) (retreat : Bool) (this : Tree) :
    Rel cfg l1 l2 (s1.leaveTry retreat this a) (s2.leaveTry retreat this b) :=
  ⟨St.leaveTry_ctl (ctl_eq h.ctl).2.1 hc _ _, h.left, h.right, h.kept⟩

/-- what `_try_parse` entered in `s` hands back for each outcome of its body: the body's result, `None` for a ParseError -/
def St.tryResult (s : St) (retreat : Bool) : Res → Res
  | .ok t a => .ok t (s.leaveTry retreat t a)
  | .exc _ a => .ok .none (s.leaveTry retreat .none a)
  | .diverge => .diverge

/-- the body ran at IMMEDIATE, so it left `errors` and `log` alone (`Frame.imm`): all that is left of it is its result
    and its `ctl` -/
theorem tryCatch_eq {s : St} {r : Res} (h : ResFrame { s with level := .immediate } r) (retreat : Bool) :
    tryCatch s.pos s.level retreat r = s.tryResult retreat r := by
  have fin {a : St} (this : Tree) (h : Frame { s with level := .immediate } a) :
      tryFinish s.pos s.level retreat this a = .ok this (s.leaveTry retreat this a) := by
    obtain ⟨he, hl⟩ := h.imm rfl
    cases a
    simp only at he hl
    rw [tryFinish_eq, he, hl]; rfl
  cases r with
  | ok t a => exact fin t h
  | exc e a => exact fin .none h.1
  | diverge => rfl

theorem St.tryResult_keeps (s : St) (retreat : Bool) (r : Res) :
    match s.tryResult retreat r with
    | .ok _ s' => s'.level = s.level ∧ s'.errors = s.errors ∧ s'.log = s.log
    | .exc _ _ => False
    | .diverge => True := by
  cases r with
  | diverge => trivial
  | _ => exact ⟨rfl, rfl, rfl⟩

/-- two `_try_parse` calls whose bodies ran in lockstep both return the same tree, each leaving its try with a body state
    of the same `ctl`, or both diverge -/
theorem St.tryResult_lockstep (s1 s2 : St) (retreat : Bool) {r1 r2 : Res} (h : ResSim cfg .immediate .immediate r1 r2) :
    (∃ t a b, a.ctl = b.ctl ∧ s1.tryResult retreat r1 = .ok t (s1.leaveTry retreat t a) ∧
      s2.tryResult retreat r2 = .ok t (s2.leaveTry retreat t b)) ∨
    (s1.tryResult retreat r1 = .diverge ∧ s2.tryResult retreat r2 = .diverge) := by
  cases r1 <;> cases r2 <;> simp only [ResSim, reduceCtorEq, false_and] at h
  · exact .inl ⟨_, _, _, h.2.ctl, rfl, h.1 ▸ rfl⟩
  · exact .inl ⟨_, _, _, h.2.1, rfl, rfl⟩
  · exact .inr ⟨rfl, rfl⟩

theorem Good.tryCatch {m : St → Res} (retreat : Bool) (hm : Good cfg m) :
    Good cfg fun s => tryCatch s.pos s.level retreat (m { s with level := .immediate }) where
  frame s := by
    rw [tryCatch_eq (hm.frame _)]
    have := s.tryResult_keeps retreat (m { s with level := .immediate })
    generalize s.tryResult retreat _ = r at this
    cases r with
    | ok _ s' => exact .of_eq this.1 this.2.1 this.2.2
    | exc _ _ => exact this.elim
    | diverge => trivial
  sim {l1 l2 s1 s2} h := by
    -- the bodies run at IMMEDIATE, in lockstep
    rw [tryCatch_eq (hm.frame _), tryCatch_eq (hm.frame _)]
    have hb := hm.sim (.inTry (s1 := { s1 with level := .immediate }) (s2 := { s2 with level := .immediate }) h.ctl rfl rfl)
    rcases St.tryResult_lockstep s1 s2 retreat hb with ⟨t, a, b, hc, e1, e2⟩ | ⟨e1, e2⟩ <;> rw [e1, e2]
    · exact ⟨rfl, h.leaveTry hc _ _⟩
    · trivial

/-- whatever a confined sub-parser did is a constant `r` of the outer run, whose state is handed back untouched -/
theorem subFinish_good (r : Res) : Good cfg fun s => subFinish s r := by
  cases r with
  | diverge => exact .diverge
  | _ => exact .pure _

theorem exec_good (cfg : Cfg) (n : Nat) (c : Comb) : Good cfg (exec cfg n c) := by
  induction n generalizing c with
  | zero => exact .diverge
  | succ n ih =>
    cases c with
    | eps => exact .pure .none
    | tok t => exact matchTok_good t
    | node tag a b => exact .bind (ih a) fun ra => .bind (ih b) fun rb => .pure (.node tag ra rb)
    | validate req c => exact .bind (ih c) fun r => validateExpr_good req r
    | orElse a b => exact .bind (ih a) fun ra => .ite (.pure ra) (ih b)
    | andThen a b => exact .bind (ih a) fun ra => .ite (ih b) (.pure ra)
    | raiseError m => exact raiseError_good m
    | tryParse c retreat => exact .tryCatch retreat (ih c)
    | many c =>
      exact .bind (ih c) fun r => .ite (.bind (ih (.many c)) fun rest => .pure (.node 0 r rest)) (.pure .none)
    | call i =>
      show Good cfg fun s => match cfg.rules[i]? with
        | some c => exec cfg n c s
        | none => .ok .none s
      cases cfg.rules[i]? with
      | some c => exact ih c
      | none => exact .pure .none
    | checkErrors => exact checkErrors_good
    | advanceChunk => exact advanceChunk_good
    | atEnd => exact atEnd_good
    | subConfined l toks body => exact subFinish_good _

theorem exec_frame (cfg : Cfg) (n : Nat) (c : Comb) (s : St) : ResFrame s (exec cfg n c s) :=
  (exec_good cfg n c).frame s

theorem exec_sim (n : Nat) (c : Comb) (h : Rel cfg l1 l2 s1 s2) :
    ResSim cfg l1 l2 (exec cfg n c s1) (exec cfg n c s2) :=
  (exec_good cfg n c).sim h

theorem exec_tryParse (cfg : Cfg) (n : Nat) (c : Comb) (retreat : Bool) (s : St) :
    exec cfg (n + 1) (.tryParse c retreat) s = s.tryResult retreat (exec cfg n c { s with level := .immediate }) :=
  tryCatch_eq (exec_frame cfg n c _) retreat

theorem run_sim (cfg : Cfg) (fuel : Nat) (p : Comb) (l : Level) :
    ResSim cfg l .warn (run cfg fuel p l) (run cfg fuel p .warn) :=
  exec_sim fuel p (.init cfg l)

variable {fuel : Nat} {p : Comb} {t : Tree} {sw : St}

/-- every level's outcome read off a WARN run that returns `t` in `sw`: it raises `e` exactly if `stopOf` names `e`; if it
    returns, it returns `t` with the WARN run's `ctl`; it terminates -/
theorem run_of_warn (hw : run cfg fuel p .warn = .ok t sw) (l : Level) :
    (∀ e, (∃ s, run cfg fuel p l = .exc e s) ↔ stopOf cfg l sw.errors sw.log = some e) ∧
    (∀ t' s, run cfg fuel p l = .ok t' s → t' = t ∧ s.ctl = sw.ctl) ∧
    run cfg fuel p l ≠ .diverge := by
  have h := run_sim cfg fuel p l
  rw [hw] at h
  generalize run cfg fuel p l = r at h
  cases r with
  | ok t1 s1 =>
    obtain ⟨rfl, hr⟩ := h
    rw [(hr.going (by simp)).2]
    exact ⟨fun e => ⟨(fun ⟨_, h⟩ => nomatch h), nofun⟩, fun _ _ e => by cases e; exact ⟨rfl, hr.ctl⟩, nofun⟩
  | exc e s1 =>
    obtain ⟨sm, hs, hF⟩ := h.raised
    rw [stopOf_mono hF hs]
    exact ⟨fun e' => ⟨fun ⟨_, h⟩ => by cases h; rfl, fun h => by cases h; exact ⟨s1, rfl⟩⟩, nofun, nofun⟩
  | diverge => cases h

theorem run_raises (hw : run cfg fuel p .warn = .ok t sw) (l : Level) (e : Exn) :
    (∃ s, run cfg fuel p l = .exc e s) ↔ stopOf cfg l sw.errors sw.log = some e :=
  (run_of_warn hw l).1 e

theorem run_raises_iff (hw : run cfg fuel p .warn = .ok t sw) (l : Level) :
    (∃ e s, run cfg fuel p l = .exc e s) ↔ (stopOf cfg l sw.errors sw.log).isSome :=
  (exists_congr (run_raises hw l)).trans Option.isSome_iff_exists.symm

end

/-- every batch in the log is a prefix of the errors collected so far, in the form `warn_batches_are_prefixes`
    (Properties/C14) states it in; `logInv_iff` gives `<+:` -/
def LogInv (s : St) : Prop := ∀ b ∈ s.log, ∃ r, s.errors = b ++ r

theorem logInv_iff {s : St} : LogInv s ↔ ∀ b ∈ s.log, b <+: s.errors :=
  forall₂_congr fun _ _ => exists_congr fun _ => eq_comm

theorem LogInv.append {s : St} (h : LogInv s) (ms : List Msg) : LogInv { s with errors := s.errors ++ ms } :=
  logInv_iff.2 fun b hb => (logInv_iff.1 h b hb).trans (List.prefix_append _ _)

theorem Frame.logInv {s s' : St} (h : Frame s s') (hi : LogInv s) : LogInv s' := by
  obtain ⟨bs, hbs, p⟩ := h.log
  rw [logInv_iff] at hi ⊢
  intro b hb
  rw [hbs] at hb
  exact (List.mem_append.1 hb).elim (fun hb => (hi b hb).trans h.errs) (p b)

theorem init_inv (l : Level) : LogInv (init l) := by
  intro b hb; simp [init] at hb

/-- a result at WARN whose state satisfies `Q`.  The contract is stated without it: the WARN run that goes on alone after
    the strict run has stopped is described by `ResFrame`. -/
def Soft (Q : St → Prop) : Res → Prop
  | .ok _ s' => s'.level = .warn ∧ Q s'
  | .exc _ _ => False
  | .diverge => True

theorem Soft.pure {Q : St → Prop} {t : Tree} {s : St} (hw : s.level = .warn) (hq : Q s) : Soft Q (.ok t s) := ⟨hw, hq⟩

theorem xexec_confined (cfg : Cfg) (n : Nat) (x : XComb) (s : St) (h : x.confined = true) :
    xexec cfg n x s = exec cfg n x.toComb s := by
  induction n generalizing x s with
  | zero => simp [xexec, exec]
  | succ n ih =>
    cases x with
    | core c => simp [xexec, XComb.toComb]
    | seq tag a b =>
      simp only [XComb.confined, Bool.and_eq_true] at h
      simp only [xexec, XComb.toComb, exec, ih a _ h.1]
      congr 1; funext ra s1; rw [ih b _ h.2]
    | orElse a b =>
      simp only [XComb.confined, Bool.and_eq_true] at h
      simp only [xexec, XComb.toComb, exec, ih a _ h.1]
      congr 1; funext ra s1; rw [ih b _ h.2]
    | tryParse c r =>
      simp only [XComb.confined] at h
      simp only [xexec, XComb.toComb, exec, ih c _ h]
    | subParse l toks body => simp [XComb.confined] at h
    | hardRaise m => simp [XComb.confined] at h

/-- what a generator method that emits `txt` and reports `msgs` (no direct `raise UnsupportedError`) does at the level of
    `s`: below IMMEDIATE it returns `txt` and appends `msgs`; at IMMEDIATE it raises the first of `msgs`, if there is one -/
def gspec (s : GSt) (txt : String) (msgs : List Msg) : GRes :=
  if s.level = .immediate then
    match msgs with
    | [] => .ok txt s
    | m :: _ => .exc [m] 0 s
  else .ok txt { s with messages := s.messages ++ msgs }

/-- sequencing: the texts are combined by the caller, the messages concatenated (after a raise nothing follows) -/
theorem gspec_bind (s : GSt) (t1 : String) (m1 : List Msg) (f : String → String) (m2 : List Msg) :
    ((gspec s t1 m1).bind fun ta s1 => gspec s1 (f ta) m2) = gspec s (f t1) (m1 ++ m2) := by
  unfold gspec
  by_cases h : s.level = .immediate
  · cases m1 <;> simp [h, GRes.bind]
  · simp [h, GRes.bind]

theorem gspec_nil (s : GSt) (txt : String) : gspec s txt [] = .ok txt s := by
  unfold gspec
  split <;> simp

theorem gspec_map (s : GSt) (t : String) (ms : List Msg) (f : String → String) :
    ((gspec s t ms).bind fun tb s2 => .ok (f tb) s2) = gspec s (f t) ms := by
  simpa [gspec_nil] using gspec_bind s t ms f []

theorem unsupported_spec (m : Msg) (s : GSt) : unsupported m s = gspec s "" [m] := rfl

theorem unsupportedAll_spec (ds : List (Bool × Msg)) (s : GSt) : unsupportedAll ds s = gspec s "" (diagMsgs ds) := by
  induction ds generalizing s with
  | nil => exact (gspec_nil s "").symm
  | cons d ds ih =>
    obtain ⟨b, m⟩ := d
    cases b with
    | false => simpa [unsupportedAll, diagMsgs] using ih s
    | true =>
      simp only [unsupportedAll, if_true, unsupported_spec, ih]
      exact gspec_bind s "" [m] (fun _ => "") (diagMsgs ds)

theorem gexec_spec (p : GComb) (s : GSt) (hn : gNoHard p = true) : gexec p s = gspec s (gtext p) (gmsgs p) := by
  induction p generalizing s with
  | text t => exact (gspec_nil s t).symm
  | unsupported m => exact unsupported_spec m s
  | seq a b iha ihb =>
    simp only [gNoHard, Bool.and_eq_true] at hn
    simp only [gexec, gtext, gmsgs, iha _ hn.1, ihb _ hn.2]
    simp only [gspec_map _ _ _ (_ ++ ·)]
    exact gspec_bind s (gtext a) (gmsgs a) (· ++ gtext b) (gmsgs b)
  | unsupportedArgs ds body ih =>
    simp only [gNoHard] at hn
    simp only [gexec, gtext, gmsgs, unsupportedAll_spec, ih _ hn]
    exact gspec_bind s "" (diagMsgs ds) (fun _ => gtext body) (gmsgs body)
  | hard m => simp [gNoHard] at hn

theorem generate_spec (l : Level) (mx : Nat) (p : GComb) (hn : gNoHard p = true) :
    generate l mx p = match l with
      | .ignore => .returned (gtext p) []
      | .warn => .returned (gtext p) (gmsgs p)
      | .raise => if gmsgs p ≠ [] then .raised ((gmsgs p).take mx) ((gmsgs p).length - mx) else .returned (gtext p) []
      | .immediate => match gmsgs p with
        | [] => .returned (gtext p) []
        | m :: _ => .raised [m] 0 := by
  cases l with
  | immediate =>
    simp only [generate, gexec_spec p _ hn, gspec, if_true]
    cases gmsgs p <;> simp
  | _ => simp [generate, gexec_spec p _ hn, gspec, concatMessages]

/-- `preprocess` without a return in `finally` is the program "report the transform's message, then `rest`": the closed
    forms above apply to it -/
theorem preprocessStep_eq_seq (m : Msg) (rest : GComb) (s : GSt) :
    preprocessStep false (some m) rest s = gexec (.seq (.unsupported m) rest) s := by
  simp only [preprocessStep, gexec, unsupported]
  by_cases h : s.level = .immediate
  · simp [h, GRes.bind]
  · simp only [h, if_false, GRes.bind]
    cases gexec rest _ <;> simp

theorem generatePre_eq_generate (l : Level) (mx : Nat) (m : Msg) (rest : GComb) :
    generatePre l mx false (some m) rest = generate l mx (.seq (.unsupported m) rest) := by
  rw [generatePre, preprocessStep_eq_seq]; rfl

/-- a direct `raise UnsupportedError` is level-blind: whatever the level and the messages so far, it raises -/
theorem gexec_hard (m : Msg) (s : GSt) : gexec (.hard m) s = .exc [m] 0 s := rfl

end SqlglotModel.Levels
