/-
  C13 (positions in the tokenizer model), one primitive step at a time.
  `At sql p line col`: (line, col) is the position of offset p.  `PInv`: the cursor's `line` / `col` are `At` the character
  under it.  Three rules move a position: a single step keeps it whatever the characters are (`At.step`); so does a move
  inside one line, in either direction (`At.shift`); and the str.find fast path, which recomputes line and column from the
  LFs of the literal it jumps over, is exact as long as the literal holds no lone CR (`fastPos_exact`).  Every other move is
  made of the first two: a jump `_advance(i)` that skips no CR/LF is a step and a move in the line (`advance_split`),
  `_advance(-n)` a move back in the line.
  `InvS` (inside a `_scan` iteration) / `InvC` (between two) are the order-and-bounds part of the phase discipline: tokens
  sorted, disjoint, in range, behind `start` resp. `current`.  `SInv` / `CInv` of Proofs/LexRun.lean have the same fields
  plus coverage and exact positions, for whole runs.
  At the end, apart from the chain: `highlight_sql` with a single position, for Properties/C13.
-/
import SqlglotModel.Model.Lex
import SqlglotModel.Proofs.List

namespace SqlglotModel.Lex

/-- (line, col) is the position of offset p: line = 1 + number of line breaks before it, col = 1-based offset in its
    line — except that `_advance` gives the LF of a CRLF pair the column of the CR (`crlfAdj`).  `PInv` and `LC` below are
    written with this pair of equations: `pinv_iff`, `lc_iff`. -/
def At (sql : Sql) (p line col : Nat) : Prop := line = lineOf sql p ∧ col + crlfAdj sql p = colOf sql p

/-- Position invariant: `line`/`col` are the position of the character the cursor stands on (offset current - 1), and
    (1, 0) before the first step -/
def PInv (sql : Sql) (st : St) : Prop :=
  (st.current = 0 ∧ st.line = 1 ∧ st.col = 0) ∨
  (1 ≤ st.current ∧ st.line = lineOf sql (st.current - 1) ∧
    st.col + crlfAdj sql (st.current - 1) = colOf sql (st.current - 1))

/-- a token's line/col agree with its end offset -/
def LC (sql : Sql) (t : Tok) : Prop :=
  t.line = lineOf sql t.stop ∧ t.col + crlfAdj sql t.stop = colOf sql t.stop

/-- a move of n places inside a line -/
def St.shift (st : St) (n : Nat) : St := { st with current := st.current + n, col := st.col + n }

variable {sql : Sql} {st st' : St}

theorem lf_not_cr (sql : Sql) (j : Nat) : isLF sql j = true → isCR sql j = false := by
  unfold isLF isCR
  cases sql[j]? with
  | none => simp
  | some ch =>
    simp only [beq_iff_eq]
    intro h; rw [h]; decide

/-- an offset holds a line break (LF or lone CR), the CR of a CRLF pair, or neither -/
theorem nl_kinds (sql : Sql) (p : Nat) :
    (isBreak sql p = true ∧ (isCR sql p && isLF sql (p + 1)) = false) ∨
    (isBreak sql p = false ∧ isNL sql p = true ∧ isLF sql p = false ∧ (isCR sql p && isLF sql (p + 1)) = true) ∨
    (isBreak sql p = false ∧ isNL sql p = false ∧ isLF sql p = false ∧ (isCR sql p && isLF sql (p + 1)) = false) := by
  have := lf_not_cr sql p
  cases hL : isLF sql p <;> cases hC : isCR sql p <;> cases hL1 : isLF sql (p + 1) <;> simp_all [isBreak, isNL]

theorem not_break_of_not_nl {j : Nat} (h : isNL sql j = false) : isBreak sql j = false := by
  simp only [isNL, Bool.or_eq_false_iff] at h
  simp [isBreak, h.1, h.2]

theorem break_eq_lf_of_no_lone_cr {j : Nat} (h : (isBreak sql j && isCR sql j) = false) :
    isBreak sql j = isLF sql j := by
  cases hl : isLF sql j
  · cases hc : isCR sql j
    · simp [isBreak, hl, hc]
    · cases hb : isBreak sql j
      · rfl
      · simp [hb, hc] at h
  · simp [isBreak, hl]

/-- `g` stands for a region test of the model (`hasNL`, `hasLoneCR`, `hasCh`): both equations hold of each by `rfl` -/
theorem anyFrom_eq {g : Nat → Nat → Bool} {f : Nat → Bool} (h0 : ∀ a, g a 0 = false)
    (hs : ∀ a n, g a (n + 1) = (f a || g (a + 1) n)) (a n : Nat) : g a n = (List.range' a n).any f := by
  induction n generalizing a with
  | zero => exact h0 a
  | succ n ih => rw [hs, ih, List.range'_succ, List.any_cons]

theorem hasNL_eq (sql : Sql) (a n : Nat) : hasNL sql a n = (List.range' a n).any (isNL sql) :=
  anyFrom_eq (fun _ => rfl) (fun _ _ => rfl) a n

theorem hasNL_false_iff {a n : Nat} :
    hasNL sql a n = false ↔ ∀ j, a ≤ j → j < a + n → isNL sql j = false := by
  simp only [hasNL_eq, List.any_eq_false, List.mem_range'_1, Bool.not_eq_true, and_imp]

theorem hasLoneCR_eq (sql : Sql) (a n : Nat) :
    hasLoneCR sql a n = (List.range' a n).any (fun j => isBreak sql j && isCR sql j) :=
  anyFrom_eq (fun _ => rfl) (fun _ _ => rfl) a n

theorem hasLoneCR_false_iff {a n : Nat} :
    hasLoneCR sql a n = false ↔ ∀ j, a ≤ j → j < a + n → (isBreak sql j && isCR sql j) = false := by
  simp only [hasLoneCR_eq, List.any_eq_false, List.mem_range'_1, Bool.not_eq_true, and_imp]

theorem hasCh_cr_eq (sql : Sql) (a n : Nat) : hasCh sql '\r' a n = (List.range' a n).any (isCR sql) :=
  anyFrom_eq (fun _ => rfl) (fun _ _ => rfl) a n

theorem hasLoneCR_of_no_cr {a n : Nat} (h : hasCh sql '\r' a n = false) : hasLoneCR sql a n = false := by
  simp only [hasCh_cr_eq, List.any_eq_false, Bool.not_eq_true] at h
  simp only [hasLoneCR_eq, List.any_eq_false, Bool.not_eq_true]
  intro j hj
  rw [h j hj, Bool.and_false]

theorem lineStart_le (sql : Sql) (p : Nat) : lineStart sql p ≤ p := by
  induction p with
  | zero => simp [lineStart]
  | succ p ih => simp only [lineStart]; split <;> omega

theorem countLF_snoc (sql : Sql) (a n : Nat) :
    countLF sql a (n + 1) = countLF sql a n + (if isLF sql (a + n) then 1 else 0) := by
  induction n generalizing a with
  | zero => simp [countLF]
  | succ n ih =>
    have e : a + (n + 1) = (a + 1) + n := by omega
    rw [countLF, ih (a + 1), e]
    simp only [countLF]
    omega

theorem rfindLF_none_iff (sql : Sql) (a n : Nat) : rfindLF sql a n = none ↔ countLF sql a n = 0 := by
  induction n with
  | zero => exact ⟨fun _ => rfl, fun _ => rfl⟩
  | succ n ih =>
    rw [countLF_snoc, rfindLF]
    cases isLF sql (a + n)
    · simp only [Bool.false_eq_true, if_false, Nat.add_zero]
      exact ih
    · simp only [if_true]
      exact ⟨fun h => (nomatch h), fun h => by omega⟩

theorem region_no_nl {a n : Nat} (h : ∀ j, a ≤ j → j < a + n → isNL sql j = false) :
    lineOf sql (a + n) = lineOf sql a ∧ lineStart sql (a + n) = lineStart sql a := by
  induction n with
  | zero => simp
  | succ n ih =>
    have ih' := ih (fun j h1 h2 => h j h1 (by omega))
    have hb : isBreak sql (a + n) = false := not_break_of_not_nl (h (a + n) (by omega) (by omega))
    have e : a + (n + 1) = (a + n) + 1 := by omega
    rw [e]
    simp only [lineOf, lineStart, hb]
    simp [ih'.1, ih'.2]

/-- with no lone CR in [a, a+n): the line breaks of the region are exactly its LFs -/
theorem region_lf {a n : Nat} (h : ∀ j, a ≤ j → j < a + n → (isBreak sql j && isCR sql j) = false) :
    lineOf sql (a + n) = lineOf sql a + countLF sql a n ∧
    lineStart sql (a + n) = (match rfindLF sql a n with | some r => r + 1 | none => lineStart sql a) := by
  induction n with
  | zero => simp [countLF, rfindLF]
  | succ n ih =>
    obtain ⟨i1, i2⟩ := ih (fun j h1 h2 => h j h1 (by omega))
    have hb := break_eq_lf_of_no_lone_cr (h (a + n) (by omega) (by omega))
    have e : a + (n + 1) = (a + n) + 1 := by omega
    rw [e, countLF_snoc]
    simp only [lineOf, lineStart, rfindLF, hb]
    cases hl : isLF sql (a + n)
    · simp only [Bool.false_eq_true, if_false, Nat.add_zero]
      exact ⟨i1, i2⟩
    · simp only [if_true]
      exact ⟨by omega, trivial⟩

theorem crlfAdj_zero_of_prev {p : Nat} (h : isCR sql (p - 1) = false) : crlfAdj sql p = 0 := by
  simp [crlfAdj, h]

theorem crlfAdj_zero_of_cur {p : Nat} (h : isLF sql p = false) : crlfAdj sql p = 0 := by
  simp [crlfAdj, h]

/-- the arithmetic of a single step `_advance(1)` from offset p is always exact: on a line break, on the CR of a CRLF
    pair, on any other character (the cases of `nl_kinds`) -/
theorem At.step {p line col : Nat} (h : At sql p line col) :
    At sql (p + 1) (if isBreak sql p = true then line + 1 else line)
      (if isBreak sql p = true then 1 else if (isNL sql p && !isBreak sql p) = true then col else col + 1) := by
  obtain ⟨hl, hc⟩ := h
  unfold At
  have hadj : crlfAdj sql (p + 1) = if (isCR sql p && isLF sql (p + 1)) = true then 1 else 0 := by
    simp [crlfAdj, Bool.and_comm]
  have hls := lineStart_le sql p
  rw [hadj]
  simp only [colOf, lineOf, lineStart]
  simp only [colOf] at hc
  rcases nl_kinds sql p with ⟨hb, hx⟩ | ⟨hb, hn, hlf, hx⟩ | ⟨hb, hn, hlf, hx⟩
  · simp only [hb, hx, if_true, Bool.false_eq_true, if_false]
    omega
  · rw [crlfAdj_zero_of_cur hlf] at hc
    simp only [hb, hn, hx, if_true, Bool.false_eq_true, if_false, Bool.not_false, Bool.and_true]
    omega
  · rw [crlfAdj_zero_of_cur hlf] at hc
    simp only [hb, hn, hx, Bool.false_eq_true, if_false, Bool.false_and]
    omega

/-- a move of n places inside a line, read forwards for the alnum batch and the tail of a jump, backwards for the rewind -/
theorem At.shift {a n line col : Nat} (hreg : ∀ j, a ≤ j → j < a + n → isNL sql j = false) :
    At sql a line col ↔ At sql (a + n) line (col + n) := by
  by_cases hn : n = 0
  · subst hn; rfl
  · -- the first offset of the region is no LF and the last no CR, so neither end is inside a CRLF pair
    unfold At
    have hr := region_no_nl hreg
    have ha := hreg a (Nat.le_refl _) (by omega)
    have hb := hreg (a + n - 1) (by omega) (by omega)
    simp only [isNL, Bool.or_eq_false_iff] at ha hb
    have hls := lineStart_le sql a
    rw [crlfAdj_zero_of_cur ha.1, crlfAdj_zero_of_prev (p := a + n) hb.2, colOf, colOf, hr.1, hr.2]
    omega

theorem fastPos_exact {line col pos e : Nat} (hpe : pos ≤ e)
    (hcr : hasLoneCR sql pos (e - pos) = false) (hd : isLF sql e = false) (h : At sql pos line col) :
    At sql e (fastPos sql line col pos e).1 (fastPos sql line col pos e).2 := by
  obtain ⟨hl, hc⟩ := h
  obtain ⟨r1, r2⟩ := region_lf (sql := sql) (a := pos) (n := e - pos) (hasLoneCR_false_iff.1 hcr)
  have r3 := rfindLF_none_iff sql pos (e - pos)
  rw [Nat.add_sub_of_le hpe] at r1 r2
  have a1 : crlfAdj sql e = 0 := crlfAdj_zero_of_cur hd
  have hls := lineStart_le sql pos
  unfold At fastPos
  by_cases hn : countLF sql pos (e - pos) > 0
  · simp only [hn, if_true]
    refine ⟨by rw [r1, hl], ?_⟩
    cases hr : rfindLF sql pos (e - pos) with
    | none => have := r3.1 hr; omega
    | some r =>
      rw [hr] at r2
      simp only [colOf, r2, a1]
      omega
  · simp only [hn, if_false]
    have h0 : countLF sql pos (e - pos) = 0 := by omega
    refine ⟨by rw [r1, hl, h0]; rfl, ?_⟩
    by_cases hpe' : pos = e
    · subst hpe'; simpa using hc
    · -- no LF in the region, so the character at pos is not the LF of a CRLF pair
      have hlfpos : isLF sql pos = false := by
        cases hl' : isLF sql pos
        · rfl
        · have : countLF sql pos (e - pos) ≥ 1 := by
            obtain ⟨m, hm⟩ : ∃ m, e - pos = m + 1 := ⟨e - pos - 1, by omega⟩
            rw [hm, countLF, hl']; simp
          omega
      have a0 : crlfAdj sql pos = 0 := crlfAdj_zero_of_cur hlfpos
      rw [r3.2 h0] at r2
      simp only [colOf, r2, a0, a1] at hc ⊢
      omega

theorem PInv.init (sql : Sql) : PInv sql {} := Or.inl ⟨rfl, rfl, rfl⟩

theorem lc_iff {t : Tok} : LC sql t ↔ At sql t.stop t.line t.col := Iff.rfl

theorem pinv_iff (hc : 1 ≤ st.current) :
    PInv sql st ↔ At sql (st.current - 1) st.line st.col := by
  constructor
  · rintro (⟨h0, _, _⟩ | ⟨_, h⟩)
    · omega
    · exact h
  · exact fun h => Or.inr ⟨hc, h⟩

theorem advance_ok {i : Nat} (h : advance sql st i = .ok st') :
    1 ≤ i ∧ st.current + i ≤ sql.size ∧
    st' = { st with
      current := st.current + i
      line := if (decide (st.current ≥ 1) && isBreak sql (st.current - 1)) then st.line + 1 else st.line
      col := if (decide (st.current ≥ 1) && isBreak sql (st.current - 1)) then i
             else if (decide (st.current ≥ 1) && isNL sql (st.current - 1) &&
                       !(decide (st.current ≥ 1) && isBreak sql (st.current - 1))) then st.col else st.col + i
      skew := st.skew || hasNL sql st.current (i - 1) } := by
  unfold advance at h
  rcases ite_cases h with ⟨_, h⟩ | ⟨hi, h⟩
  · cases h
  · rcases ite_cases h with ⟨_, h⟩ | ⟨hle, h⟩
    · cases h
    · injection h with h
      exact ⟨by omega, by omega, h.symm⟩

theorem step_pinv (hP : PInv sql st) (h : advance sql st 1 = .ok st') : PInv sql st' := by
  obtain ⟨_, _, h⟩ := advance_ok h
  subst h
  right
  rcases hP with ⟨h0, hl, hc⟩ | ⟨h1, hA⟩
  · simp [h0, hl, hc, lineOf, colOf, lineStart, crlfAdj]
  · obtain ⟨p, hp⟩ : ∃ p, st.current = p + 1 := ⟨st.current - 1, by omega⟩
    rw [hp, Nat.add_sub_cancel] at hA
    have hge : (decide (p + 1 ≥ 1)) = true := by simp
    simp only [hp, Nat.add_sub_cancel, hge, Bool.true_and]
    exact ⟨by omega, At.step hA⟩

theorem shift_pinv {n : Nat} (hc : 1 ≤ st.current)
    (hno : hasNL sql (st.current - 1) n = false) :
    PInv sql st ↔ PInv sql (st.shift n) := by
  have e : st.current + n - 1 = st.current - 1 + n := by omega
  rw [pinv_iff hc, pinv_iff (Nat.le_trans hc (Nat.le_add_right _ _))]
  simp only [St.shift, e]
  exact At.shift (hasNL_false_iff.1 hno)

/-- a jump that skips no CR/LF is a single step followed by a move inside the line -/
theorem advance_split {i : Nat} (hi : 1 ≤ i)
    (hno : hasNL sql st.current (i - 1) = false) (h : advance sql st i = .ok st') :
    ∃ s, advance sql st 1 = .ok s ∧ s.current = st.current + 1 ∧ st' = s.shift (i - 1) := by
  obtain ⟨_, hle, he⟩ := advance_ok h
  obtain ⟨s, h1⟩ : ∃ s, advance sql st 1 = .ok s := by
    unfold advance
    rw [if_neg (by decide), if_neg (by omega)]
    exact ⟨_, rfl⟩
  obtain ⟨_, _, hs⟩ := advance_ok h1
  refine ⟨s, h1, by rw [hs], ?_⟩
  subst he hs
  -- standing on the CR of a CRLF pair the column does not move: then the LF would be skipped unless i = 1
  have hcrlf : (decide (st.current ≥ 1) && isNL sql (st.current - 1) &&
      !(decide (st.current ≥ 1) && isBreak sql (st.current - 1))) = true → i = 1 := by
    intro hx
    by_cases h1 : i = 1
    · exact h1
    · have := hasNL_false_iff.1 hno st.current (Nat.le_refl _) (by omega)
      simp only [Bool.and_eq_true, decide_eq_true_eq, Bool.not_eq_true', Bool.and_eq_false_iff, decide_eq_false_iff_not] at hx
      obtain ⟨⟨hc, hn⟩, hb⟩ := hx
      rcases nl_kinds sql (st.current - 1) with ⟨hb', _⟩ | ⟨_, _, _, hy⟩ | ⟨_, hn', _, _⟩
      · rcases hb with hb | hb
        · omega
        · rw [hb] at hb'; cases hb'
      · rw [Nat.sub_add_cancel hc, Bool.and_eq_true] at hy
        simp [isNL, hy.2] at this
      · rw [hn] at hn'; cases hn'
  dsimp only [St.shift]
  congr 1
  · omega
  · split
    · omega
    · split
      · have := hcrlf ‹_›; omega
      · omega
  · rw [hno]; rfl

theorem advance_pinv {i : Nat} (hi : 1 ≤ i)
    (hP : PInv sql st) (hno : hasNL sql st.current (i - 1) = false)
    (h : advance sql st i = .ok st') : PInv sql st' := by
  obtain ⟨s, h1, hc, rfl⟩ := advance_split hi hno h
  refine (shift_pinv (by omega) ?_).1 (step_pinv hP h1)
  rw [hc, Nat.add_sub_cancel]; exact hno

theorem retreat_ok {n : Nat} (h : retreat sql st n = .ok st') :
    n < st.current ∧ n ≤ st.col ∧
    st' = { st with current := st.current - n, col := st.col - n, skew := st.skew || hasNL sql (st.current - 1 - n) n } := by
  unfold retreat at h
  rcases ite_cases h with ⟨_, h⟩ | ⟨hn, h⟩
  · cases h
  · rcases ite_cases h with ⟨_, h⟩ | ⟨hg, h⟩
    · cases h
    · injection h with h
      simp only [Bool.or_eq_true, decide_eq_true_eq, not_or, Bool.not_eq_true, Nat.not_lt] at hg
      exact ⟨by omega, hg.2, h.symm⟩

theorem retreat_pinv {n : Nat}
    (hP : PInv sql st) (hno : hasNL sql (st.current - 1 - n) n = false)
    (h : retreat sql st n = .ok st') : PInv sql st' := by
  obtain ⟨hn, hcol, rfl⟩ := retreat_ok h
  refine (shift_pinv (n := n) (by simp only; omega) ?_).2 ?_
  · rw [Nat.sub_right_comm] at hno; exact hno
  · have e1 : st.current - n + n = st.current := by omega
    have e2 : st.col - n + n = st.col := by omega
    simpa only [PInv, St.shift, e1, e2] using hP

def TokBounds (sql : Sql) (t : Tok) : Prop := t.start ≤ t.stop ∧ t.stop < sql.size

/-- inside one `_scan` iteration, before the token is added -/
structure InvS (sql : Sql) (st : St) : Prop where
  lt : st.start < st.current
  le : st.current ≤ sql.size
  sorted : st.toks.Pairwise (fun a b => a.stop < b.start)
  toks : ∀ t ∈ st.toks, TokBounds sql t ∧ t.stop < st.start

/-- between two `_scan` iterations -/
structure InvC (sql : Sql) (st : St) : Prop where
  le : st.current ≤ sql.size
  sorted : st.toks.Pairwise (fun a b => a.stop < b.start)
  toks : ∀ t ∈ st.toks, TokBounds sql t ∧ t.stop < st.current

theorem add_ok {cfg : Cfg} {ty : String} {text : Option (List Char)}
    (h : add cfg sql st ty text = .ok st') :
    st' = { st with toks := st.toks ++ [⟨ty, tokText sql st text, st.line, st.col, st.start, st.current - 1⟩] } := by
  unfold add at h
  rcases ite_cases h with ⟨_, h⟩ | ⟨_, h⟩
  · cases h
  · injection h with h; exact h.symm

theorem add_invC {cfg : Cfg} {ty : String} {text : Option (List Char)}
    (hS : InvS sql st) (h : add cfg sql st ty text = .ok st') : InvC sql st' := by
  have h := add_ok h
  subst h
  have hlt := hS.lt
  have hle := hS.le
  refine ⟨hle, ?_, ?_⟩
  · simp only [List.pairwise_append, List.pairwise_cons, List.mem_singleton]
    refine ⟨hS.sorted, ⟨(by intro a h; cases h), List.Pairwise.nil⟩, ?_⟩
    intro a ha b hb
    rw [hb]
    exact (hS.toks a ha).2
  · intro t ht
    simp only [List.mem_append, List.mem_singleton] at ht
    rcases ht with ht | ht
    · have := hS.toks t ht
      exact ⟨this.1, by simp only; omega⟩
    · subst ht
      exact ⟨⟨by simp only; omega, by simp only; omega⟩, by simp only; omega⟩

theorem highlight_single (s : List Char) (a b ctx : Nat) (hab : a ≤ b) :
    highlightSql s [(a, b)] ctx =
      ⟨pySlice s (a - ctx) a ++ ansiUL ++ pySlice s a (b + 1) ++ ansiReset ++ pySlice s (b + 1) (b + 1 + ctx),
        pySlice s (a - ctx) a, pySlice s a (b + 1), pySlice s (b + 1) (b + 1 + ctx)⟩ := by
  -- the two guards of `highlight_sql` only skip slices that are empty anyway
  have h0 : (if a > 0 then pySlice s (a - ctx) a else []) = pySlice s (a - ctx) a := by
    split
    · rfl
    · have : a = 0 := by omega
      subst this; simp [pySlice]
  have h1 : (if b + 1 < s.length then pySlice s (b + 1) (b + 1 + ctx) else []) = pySlice s (b + 1) (b + 1 + ctx) := by
    split
    · rfl
    · simp [pySlice, List.drop_eq_nil_of_le (Nat.le_of_not_lt ‹_›)]
  rw [← h0, ← h1]
  simp only [highlightSql, sortPos, List.foldl, insertPos, hlLoop]
  have h2 : max a a = a := Nat.max_self a
  have h3 : ¬ (a ≥ b + 1) := by omega
  simp [h2, h3]

theorem slice_eq_pySlice (sql : Sql) (a b : Nat) : slice sql a b = pySlice (sqlText sql) a b := by
  simp [slice, pySlice, sqlText, strOf, List.map_drop, List.map_take]

theorem sqlText_length (sql : Sql) : (sqlText sql).length = sql.size := by
  simp [sqlText, strOf]

end SqlglotModel.Lex
