/-
  The cursor moves of the tokenizer model (C13).  `SInv` (inside a token) / `CInv` (between tokens) are the invariants that
  a whole run keeps (`lex_cInv` of Proofs/LexSpans.lean).  Every move inside a token satisfies the relation `Fw`, which
  composes and carries the invariants; the primitive moves (`_advance`, the alnum batch, the str.find fast path, the escape
  and keyword jumps, the rewind) are shown to satisfy it, in the form of the contract `Res.Sat`: after moves from an origin,
  whatever the primitive returns is reached from that origin by moves.  `_add` leads from `SInv` to `CInv` (`add_cInv`), the
  start of the next iteration back to `SInv` (`CInv.restart`) or, over whitespace, to `CInv` again (`CInv.skip`).  `Run`:
  the characters of one class that a batch loop (`scanWhile`) leaves behind the cursor, the reason its jump skips no CR/LF
  (`NoNL` of the class).
-/
import SqlglotModel.Proofs.Lex

namespace SqlglotModel.Lex

/-- the hypothesis on the CPython character classes shipped with the input (validated exhaustively by the harness): blanks
    and line-break characters are `isspace`; alphanumeric characters are never CR/LF -/
def WF (sql : Sql) : Prop :=
  ∀ (j : Nat) (ch : Ch), sql[j]? = some ch →
    ((ch.c = ' ' ∨ ch.c = '\t' ∨ ch.c = '\n' ∨ ch.c = '\r') → ch.space = true) ∧
    (ch.alnum = true → ch.c ≠ '\n' ∧ ch.c ≠ '\r')

def isSpaceAt (sql : Sql) (p : Nat) : Bool :=
  match sql[p]? with | some ch => ch.space | none => false

/-- offset p is whitespace, inside a token, or inside a region consumed as a comment -/
def covered (sql : Sql) (st : St) (p : Nat) : Prop :=
  isSpaceAt sql p = true ∨ (∃ t ∈ st.toks, t.start ≤ p ∧ p ≤ t.stop) ∨ (∃ s ∈ st.spans, s.1 ≤ p ∧ p ≤ s.2)

/-- unless a jump skipped a line break (`skew`), the cursor and every token stamped so far are exact -/
def PIs (sql : Sql) (st : St) : Prop :=
  st.skew = false → PInv sql st ∧ ∀ t ∈ st.toks, LC sql t

/-- inside one `_scan` iteration, before the token is added -/
structure SInv (sql : Sql) (st : St) : Prop where
  lt : st.start < st.current
  le : st.current ≤ sql.size
  sorted : st.toks.Pairwise (fun a b => a.stop < b.start)
  toks : ∀ t ∈ st.toks, TokBounds sql t ∧ t.stop < st.start
  cov : ∀ p, p < st.start → covered sql st p
  pi : PIs sql st

/-- between two `_scan` iterations -/
structure CInv (sql : Sql) (st : St) : Prop where
  le : st.current ≤ sql.size
  sorted : st.toks.Pairwise (fun a b => a.stop < b.start)
  toks : ∀ t ∈ st.toks, TokBounds sql t ∧ t.stop < st.current
  cov : ∀ p, p < st.current → covered sql st p
  pi : PIs sql st

variable {cfg : Cfg} {sql : Sql} {q : Prop} {o st st' : St}

/-- a cursor move inside the token phase: only current/line/col/skew change, the cursor does not go back, exactness is
    kept unless `skew` is raised, and `skew` is not raised when `q` holds.  `q` stands for what the caller knows about the
    configuration: `False` for an arbitrary one, `True` once the hygiene of `cleanCfg` is at hand. -/
structure Fw (sql : Sql) (q : Prop) (st st' : St) : Prop where
  start_eq : st'.start = st.start
  toks_eq : st'.toks = st.toks
  spans_eq : st'.spans = st.spans
  cur_le : st.current ≤ st'.current
  le : st.current ≤ sql.size → st'.current ≤ sql.size
  skew_mono : st'.skew = false → st.skew = false
  pinv : st'.skew = false → PInv sql st → PInv sql st'
  quiet : q → st'.skew = st.skew

theorem Fw.refl {st : St} : Fw sql q st st :=
  ⟨rfl, rfl, rfl, Nat.le_refl _, id, id, fun _ h => h, fun _ => rfl⟩

theorem Fw.trans {a b c : St} (h1 : Fw sql q a b) (h2 : Fw sql q b c) : Fw sql q a c :=
  ⟨h2.start_eq.trans h1.start_eq, h2.toks_eq.trans h1.toks_eq, h2.spans_eq.trans h1.spans_eq,
   Nat.le_trans h1.cur_le h2.cur_le, fun h => h2.le (h1.le h), fun h => h1.skew_mono (h2.skew_mono h),
   fun h p => h2.pinv h (h1.pinv (h2.skew_mono h) p), fun hq => (h2.quiet hq).trans (h1.quiet hq)⟩

theorem covered_congr (ht : st'.toks = st.toks) (hs : st'.spans = st.spans) (p : Nat) :
    covered sql st' p ↔ covered sql st p := by
  simp only [covered, ht, hs]

theorem covered_mono {p : Nat}
    (ht : ∀ t, t ∈ st.toks → t ∈ st'.toks) (hs : ∀ x, x ∈ st.spans → x ∈ st'.spans)
    (h : covered sql st p) : covered sql st' p := by
  rcases h with h | ⟨t, ht1, ht2⟩ | ⟨x, hx1, hx2⟩
  · exact Or.inl h
  · exact Or.inr (Or.inl ⟨t, ht t ht1, ht2⟩)
  · exact Or.inr (Or.inr ⟨x, hs x hx1, hx2⟩)

/-- closing an iteration: what was covered stays so, and the new token or comment region covers [start, current) -/
theorem covered_close (ht : ∀ t, t ∈ st.toks → t ∈ st'.toks) (hs : ∀ x, x ∈ st.spans → x ∈ st'.spans)
    (hnew : (∃ t ∈ st'.toks, t.start = st.start ∧ t.stop = st.current - 1) ∨ (st.start, st.current - 1) ∈ st'.spans)
    (hcov : ∀ p, p < st.start → covered sql st p) : ∀ p, p < st.current → covered sql st' p := by
  intro p hp
  by_cases hps : p < st.start
  · exact covered_mono ht hs (hcov p hps)
  · rcases hnew with ⟨t, ht', h1, h2⟩ | hx
    · exact Or.inr (Or.inl ⟨t, ht', by omega, by omega⟩)
    · exact Or.inr (Or.inr ⟨_, hx, by simp only; omega, by simp only; omega⟩)

theorem SInv.toInvS (hS : SInv sql st) : InvS sql st := ⟨hS.lt, hS.le, hS.sorted, hS.toks⟩

theorem SInv.of_invS (hI : InvS sql st) (cov : ∀ p, p < st.start → covered sql st p) (pi : PIs sql st) : SInv sql st :=
  ⟨hI.lt, hI.le, hI.sorted, hI.toks, cov, pi⟩

theorem CInv.toInvC (hC : CInv sql st) : InvC sql st := ⟨hC.le, hC.sorted, hC.toks⟩

theorem CInv.of_invC (hI : InvC sql st) (cov : ∀ p, p < st.current → covered sql st p) (pi : PIs sql st) : CInv sql st :=
  ⟨hI.le, hI.sorted, hI.toks, cov, pi⟩

theorem InvS.fw (hS : InvS sql st) (h : Fw sql q st st') : InvS sql st' :=
  ⟨by rw [h.start_eq]; exact Nat.lt_of_lt_of_le hS.lt h.cur_le, h.le hS.le, by rw [h.toks_eq]; exact hS.sorted,
   fun t ht => by rw [h.toks_eq] at ht; rw [h.start_eq]; exact hS.toks t ht⟩

/-- the next `_scan` iteration: `_start` is set to an offset c at or past the cursor, and the cursor moves beyond it -/
theorem InvC.restart {c : Nat} (hC : InvC sql st) (hc : st.current ≤ c)
    (h : Fw sql q { st with start := c } st') (hlt : c < st'.current) : InvS sql st' :=
  ⟨by rw [h.start_eq]; exact hlt, h.le hC.le, by rw [h.toks_eq]; exact hC.sorted,
   fun t ht => by
    rw [h.toks_eq] at ht; rw [h.start_eq]
    exact ⟨(hC.toks t ht).1, Nat.lt_of_lt_of_le (hC.toks t ht).2 hc⟩⟩

/-- an iteration that scans nothing: wherever `_start` is put, a move leaves the tokens behind the cursor -/
theorem InvC.skip {c : Nat} (hC : InvC sql st) (h : Fw sql q { st with start := c } st') : InvC sql st' :=
  ⟨h.le hC.le, by rw [h.toks_eq]; exact hC.sorted,
   fun t ht => by rw [h.toks_eq] at ht; exact ⟨(hC.toks t ht).1, Nat.lt_of_lt_of_le (hC.toks t ht).2 h.cur_le⟩⟩

theorem PIs.fw (hp : PIs sql st) (h : Fw sql q st st') : PIs sql st' := fun hs =>
  have := hp (h.skew_mono hs)
  ⟨h.pinv hs this.1, by rw [h.toks_eq]; exact this.2⟩

theorem SInv.fw (hS : SInv sql st) (h : Fw sql q st st') : SInv sql st' :=
  .of_invS (hS.toInvS.fw h) (fun p hp => (covered_congr h.toks_eq h.spans_eq p).2 (hS.cov p (h.start_eq ▸ hp)))
    (hS.pi.fw h)

/-- the next `_scan` iteration, for whole runs: a lexeme starts under the cursor.  `covered`, `PIs` and the token fields
    do not read `start`, so what `hC` says of `st` it says of `{ st with start := _ }` as it stands. -/
theorem CInv.restart (hC : CInv sql st) (h : Fw sql q { st with start := st.current } st')
    (hlt : st.current < st'.current) : SInv sql st' :=
  .of_invS (hC.toInvC.restart (Nat.le_refl _) h hlt)
    (fun p hp => (covered_congr h.toks_eq h.spans_eq p).2 (hC.cov p (Nat.lt_of_lt_of_eq hp h.start_eq)))
    (PIs.fw (st := { st with start := st.current }) hC.pi h)

/-- … or the cursor moves over whitespace only and no lexeme starts -/
theorem CInv.skip {c : Nat} (hC : CInv sql st) (h : Fw sql q { st with start := c } st')
    (hsp : ∀ p, st.current ≤ p → p < st'.current → isSpaceAt sql p = true) : CInv sql st' :=
  .of_invC (hC.toInvC.skip h)
    (fun p hp => if hpc : p < st.current then (covered_congr h.toks_eq h.spans_eq p).2 (hC.cov p hpc)
      else Or.inl (hsp p (Nat.le_of_not_lt hpc) hp))
    (PIs.fw (st := { st with start := c }) hC.pi h)

theorem bind_ok {α β : Type} {r : Res α} {f : α → Res β} {b : β} (h : r.bind f = .ok b) :
    ∃ a, r = .ok a ∧ f a = .ok b := by
  cases r with
  | ok a => exact ⟨a, rfl, h⟩
  | error c => cases h
  | unsupported w => cases h
  | fuel => cases h

/-- partial correctness: whatever the computation returns satisfies `P`.  A failed computation returns nothing
    (`nofun`).  The lemmas about the scanners have this form, with the moves made so far (`Fw sql q o st`) as a hypothesis
    and the moves from the same origin `o` in `P`, so that the proof of a scanner reads its definition once, in order. -/
@[reducible] def Res.Sat {α : Type} (r : Res α) (P : α → Prop) : Prop := ∀ a, r = .ok a → P a

section
variable {α β : Type} {r : Res α} {P P' : α → Prop} {Q : β → Prop} {f : α → Res β}

theorem Res.sat_ok {a : α} (h : P a) : (Res.ok a).Sat P := fun _ e => by cases e; exact h

theorem Res.Sat.bind (h : r.Sat P) (k : ∀ a, P a → (f a).Sat Q) : (r.bind f).Sat Q := fun b hb =>
  let ⟨a, h1, h2⟩ := bind_ok hb
  k a (h a h1) b h2

theorem Res.Sat.imp (h : r.Sat P) (k : ∀ a, P a → P' a) : r.Sat P' := fun a ha => k a (h a ha)

theorem Res.sat_ite {c : Prop} [Decidable c] {t e : Res α} (ht : c → t.Sat P) (he : ¬c → e.Sat P) :
    (if c then t else e).Sat P := by
  split
  · exact ht ‹_›
  · exact he ‹_›

end

open Res (sat_ok sat_ite)

theorem lt_size_of_get {p : Nat} {ch : Ch} (h : sql[p]? = some ch) : p < sql.size :=
  let ⟨hlt, _⟩ := Array.getElem?_eq_some_iff.1 h
  hlt

theorem char_get {st : St} {ch : Ch} (h : char sql st = some ch) :
    1 ≤ st.current ∧ sql[st.current - 1]? = some ch := by
  unfold char at h
  by_cases h0 : st.current = 0
  · simp [h0] at h
  · simp only [h0, if_false] at h
    exact ⟨by omega, h⟩

theorem not_nl_of_char {j : Nat} {ch : Ch} (hj : sql[j]? = some ch) (h1 : ch.c ≠ '\n') (h2 : ch.c ≠ '\r') :
    isNL sql j = false := by
  simp only [isNL, isLF, isCR, hj, Bool.or_eq_false_iff, beq_eq_false_iff_ne, ne_eq]
  exact ⟨h1, h2⟩

theorem advance_fw {i : Nat} (fo : Fw sql q o st) (hq : q → hasNL sql st.current (i - 1) = false) :
    (advance sql st i).Sat fun s => Fw sql q o s ∧ s.current = st.current + i ∧ 1 ≤ i := by
  intro st' h
  obtain ⟨hi, hle, rfl⟩ := advance_ok h
  exact ⟨fo.trans
    { start_eq := rfl, toks_eq := rfl, spans_eq := rfl, cur_le := Nat.le_add_right _ _, le := fun _ => hle
      skew_mono := fun hs => (Bool.or_eq_false_iff.1 hs).1
      pinv := fun hs hP => advance_pinv hi hP (Bool.or_eq_false_iff.1 hs).2 h
      quiet := fun hq' => by simp only [hq hq', Bool.or_false] }, rfl, hi⟩

theorem step_fw (fo : Fw sql q o st) : (advance sql st 1).Sat fun s => Fw sql q o s ∧ s.current = st.current + 1 :=
  (advance_fw fo fun _ => rfl).imp fun _ f => ⟨f.1, f.2.1⟩

/-- every offset of [a, b) holds a character of the class P: what a loop of the tokenizer leaves behind the cursor -/
def Run (sql : Sql) (P : Ch → Bool) (a b : Nat) : Prop :=
  ∀ j, a ≤ j → j < b → ∃ ch, sql[j]? = some ch ∧ P ch = true

/-- no character of this input that has the class P is a CR or LF (the class bits come with the input, see `WF`) -/
def NoNL (sql : Sql) (P : Ch → Bool) : Prop :=
  ∀ (j : Nat) (ch : Ch), sql[j]? = some ch → P ch = true → ch.c ≠ '\n' ∧ ch.c ≠ '\r'

section
variable {P : Ch → Bool} {a a' b n : Nat}

theorem Run.nil : Run sql P a a := fun _ h1 h2 => absurd (Nat.lt_of_le_of_lt h1 h2) (Nat.lt_irrefl _)

theorem Run.cons {ch : Ch} (hg : sql[a]? = some ch) (hp : P ch = true) (h : Run sql P a' b) (ha : a' ≤ a + 1) :
    Run sql P a b := by
  intro j h1 h2
  by_cases hj : j = a
  · subst hj; exact ⟨ch, hg, hp⟩
  · exact h j (by omega) h2

theorem Run.not_nl (h : Run sql P a b) (hP : NoNL sql P) {j : Nat} (h1 : a ≤ j) (h2 : j < b) : isNL sql j = false :=
  let ⟨ch, hg, hp⟩ := h j h1 h2
  not_nl_of_char hg (hP j ch hg hp).1 (hP j ch hg hp).2

theorem Run.jump (h : Run sql P a b) (hP : NoNL sql P) (ha : a ≤ a') (hb : a' + n ≤ b) : hasNL sql a' n = false :=
  hasNL_false_iff.2 fun _ h1 h2 => h.not_nl hP (Nat.le_trans ha h1) (Nat.lt_of_lt_of_le h2 hb)

end

theorem noNL_alnum (hW : WF sql) : NoNL sql (·.alnum) := fun j ch hj => (hW j ch hj).2

theorem noNL_nonspace (hW : WF sql) : NoNL sql (fun ch => !ch.space) := by
  intro j ch hj hs
  have hs : ch.space = false := by simpa using hs
  constructor
  · intro h; have := (hW j ch hj).1 (Or.inr (Or.inr (Or.inl h))); rw [hs] at this; cases this
  · intro h; have := (hW j ch hj).1 (Or.inr (Or.inr (Or.inr h))); rw [hs] at this; cases this

theorem digit_not_nl {c : Char} (h : isDigit c = true) : c ≠ '\n' ∧ c ≠ '\r' := by
  constructor <;> intro hc <;> subst hc <;> revert h <;> decide

theorem noNL_digit : NoNL sql (fun ch => isDigit ch.c) := fun _ _ _ => digit_not_nl

theorem noNL_blank : NoNL sql (fun ch => ch.c == ' ' || ch.c == '\t') := by
  intro j ch _ h
  simp only [Bool.or_eq_true, beq_iff_eq] at h
  rcases h with h | h <;> rw [h] <;> decide

/-- the common shape of the model's batch loops `alnumRun`, `digitsEnd` and `skipBlanks`: `while P(peek): current += 1` -/
def scanWhile (sql : Sql) (P : Ch → Bool) : Nat → Nat → Nat
  | 0, cur => cur
  | f+1, cur =>
    match sql[cur]? with
    | some ch => if P ch then scanWhile sql P f (cur+1) else cur
    | none => cur

theorem scanWhile_spec (sql : Sql) (P : Ch → Bool) (f cur : Nat) :
    cur ≤ scanWhile sql P f cur ∧ (cur ≤ sql.size → scanWhile sql P f cur ≤ sql.size) ∧
    Run sql P cur (scanWhile sql P f cur) := by
  induction f generalizing cur with
  | zero => exact ⟨Nat.le_refl _, id, .nil⟩
  | succ f ih =>
    have stop : cur ≤ cur ∧ (cur ≤ sql.size → cur ≤ sql.size) ∧ Run sql P cur cur :=
      ⟨Nat.le_refl _, id, .nil⟩
    simp only [scanWhile]
    cases hc : sql[cur]? with
    | none => exact stop
    | some ch0 =>
      simp only
      cases hp : P ch0
      · simp only [Bool.false_eq_true, if_false]; exact stop
      · simp only [if_true]
        obtain ⟨i1, i2, i3⟩ := ih (cur + 1)
        exact ⟨by omega, fun _ => i2 (lt_size_of_get hc), i3.cons hc hp (Nat.le_refl _)⟩

theorem alnumRun_eq (sql : Sql) (f cur : Nat) : alnumRun sql f cur = scanWhile sql (·.alnum) f cur := by
  induction f generalizing cur with
  | zero => rfl
  | succ f ih => simp only [alnumRun, scanWhile, ih]; cases sql[cur]? <;> rfl

theorem digitsEnd_eq (sql : Sql) (f e : Nat) : digitsEnd sql f e = scanWhile sql (fun ch => isDigit ch.c) f e := by
  induction f generalizing e with
  | zero => rfl
  | succ f ih => simp only [digitsEnd, scanWhile, ih]; cases sql[e]? <;> rfl

theorem skipBlanks_eq (sql : Sql) (f cur : Nat) :
    skipBlanks sql f cur = scanWhile sql (fun ch => ch.c == ' ' || ch.c == '\t') f cur := by
  induction f generalizing cur with
  | zero => rfl
  | succ f ih => simp only [skipBlanks, scanWhile, ih]; cases sql[cur]? <;> rfl

theorem digitsEnd_spec (sql : Sql) (f e : Nat) :
    e ≤ digitsEnd sql f e ∧ Run sql (fun ch => isDigit ch.c) e (digitsEnd sql f e) := by
  rw [digitsEnd_eq]
  exact ⟨(scanWhile_spec sql _ f e).1, (scanWhile_spec sql _ f e).2.2⟩

theorem blankEnd_spec (sql : Sql) (st : St) :
    st.current ≤ blankEnd sql st ∧ Run sql (fun ch => ch.c == ' ' || ch.c == '\t') st.current (blankEnd sql st) := by
  unfold blankEnd
  rw [skipBlanks_eq]
  exact ⟨(scanWhile_spec sql _ _ _).1, (scanWhile_spec sql _ _ _).2.2⟩

/-- `_advance(alnum=True)` is a single step followed by a move over alphanumeric characters, none of them CR/LF -/
theorem advanceAlnum_ok (hW : WF sql) (h : advanceAlnum sql st = .ok st') :
    ∃ s n, advance sql st 1 = .ok s ∧ st' = s.shift n ∧ s.current + n ≤ sql.size ∧
      hasNL sql (s.current - 1) n = false := by
  unfold advanceAlnum at h
  cases h1 : advance sql st 1 with
  | ok s =>
    rw [h1] at h
    simp only at h
    obtain ⟨_, hle, hs⟩ := advance_ok h1
    have hc1 : s.current = st.current + 1 := by subst hs; rfl
    have stay : ∃ s' n, Res.ok s = Res.ok s' ∧ s = s'.shift n ∧ s'.current + n ≤ sql.size ∧
        hasNL sql (s'.current - 1) n = false := ⟨s, 0, rfl, rfl, by omega, rfl⟩
    cases hch : char sql s with
    | none => rw [hch] at h; simp only at h; cases h; exact stay
    | some ch =>
      rw [hch] at h; simp only at h
      by_cases ha : ch.alnum = true
      · simp only [ha, if_true, alnumRun_eq] at h
        cases h
        obtain ⟨r1, r2, r3⟩ := scanWhile_spec sql (·.alnum) (sql.size - s.current) s.current
        have r2 := r2 (by omega)
        obtain ⟨n, hn⟩ := Nat.exists_eq_add_of_le r1
        rw [hn] at r2 r3 ⊢
        rw [Nat.add_sub_cancel_left]
        exact ⟨s, n, rfl, rfl, r2,
          (r3.cons (char_get hch).2 ha (by omega)).jump (noNL_alnum hW) (Nat.le_refl _) (by omega)⟩
      · simp only [ha] at h
        cases h; exact stay
  | _ => rw [h1] at h; cases h

theorem shift_fw {s : St} {n : Nat} (hc : 1 ≤ s.current) (hno : hasNL sql (s.current - 1) n = false)
    (hle : s.current + n ≤ sql.size) : Fw sql q s (s.shift n) :=
  { start_eq := rfl, toks_eq := rfl, spans_eq := rfl, cur_le := Nat.le_add_right _ _, le := fun _ => hle
    skew_mono := id, pinv := fun _ => (shift_pinv hc hno).1, quiet := fun _ => rfl }

theorem advanceAlnum_fw (hW : WF sql) (fo : Fw sql q o st) :
    (advanceAlnum sql st).Sat fun s => Fw sql q o s ∧ st.current < s.current := by
  intro st' h
  obtain ⟨s, n, h1, rfl, hle, hno⟩ := advanceAlnum_ok hW h
  obtain ⟨f1, c1⟩ := step_fw fo s h1
  exact ⟨f1.trans (shift_fw (by omega) hno hle), by simp only [St.shift]; omega⟩

theorem findCh_spec (sql : Sql) (d : Char) : ∀ (f p e : Nat), findCh sql d f p = some e →
    p ≤ e ∧ e < sql.size ∧ ∃ ch, sql[e]? = some ch ∧ ch.c = d := by
  intro f
  induction f with
  | zero => intro p e h; simp [findCh] at h
  | succ f ih =>
    intro p e h
    simp only [findCh] at h
    cases hc : sql[p]? with
    | none => rw [hc] at h; cases h
    | some ch =>
      rw [hc] at h
      simp only at h
      by_cases hd : (ch.c == d) = true
      · simp only [hd, if_true] at h
        cases h
        exact ⟨Nat.le_refl _, lt_size_of_get hc, ch, hc, by simpa using hd⟩
      · simp only [hd] at h
        obtain ⟨h1, h2, h3⟩ := ih _ _ h
        exact ⟨by omega, h2, h3⟩

/-- the fast path is exact unless it flags `skew`, which it does exactly for a lone CR inside the literal or an LF
    delimiter; the lone-CR guard of the repaired code (no CR in the literal) rules the former out -/
theorem fastString_fw {x : XCfg} {text : List Char}
    (hc : 1 ≤ st.current) (hq : q → cfg.fixLoneCR = true ∧ x.delim ≠ ['\n'])
    (h : fastString cfg sql st x = some (st', text)) : Fw sql q st st' := by
  unfold fastString at h
  split at h
  · rename_i d hdel
    split at h
    · cases h
    · rename_i e he
      rcases ite_cases h with ⟨_, h⟩ | ⟨hg, h⟩
      · cases h
      · injection h with h
        injection h with h _
        obtain ⟨hpe, hlt, ch, hch, hcd⟩ := findCh_spec _ _ _ _ _ he
        subst h
        refine { start_eq := rfl, toks_eq := rfl, spans_eq := rfl, cur_le := by simp only; omega,
                 le := fun _ => by simp only; omega, skew_mono := ?_, pinv := ?_, quiet := ?_ }
        · intro hs; simp only [Bool.or_eq_false_iff] at hs; exact hs.1.1
        · intro hs hP
          simp only [Bool.or_eq_false_iff] at hs
          obtain ⟨⟨_, hcr⟩, hdn⟩ := hs
          have hd : isLF sql e = false := by
            simp only [isLF, hch, hcd]; exact hdn
          have := fastPos_exact hpe hcr hd ((pinv_iff hc).1 hP)
          refine (pinv_iff (by simp only; omega)).2 ?_
          simpa using this
        · intro hq'
          obtain ⟨hfix, hd⟩ := hq hq'
          simp only [fastBlocked, hfix, Bool.true_and, Bool.or_eq_true, not_or, Bool.not_eq_true, decide_eq_true_eq] at hg
          have hcr := hasLoneCR_of_no_cr hg.1.2
          have hdn : (d == '\n') = false := by
            cases hdq : (d == '\n')
            · rfl
            · exfalso; apply hd; rw [hdel]; simpa using hdq
          simp [hcr, hdn]
  · cases h

theorem advance2_fw (hq : q → cfg.fixEscJump = true) (fo : Fw sql q o st) :
    (advance2 cfg sql st).Sat fun s => Fw sql q o s ∧ st.current < s.current :=
  sat_ite
    (fun _ => (step_fw fo).bind fun _ f1 => (step_fw f1.1).imp fun _ f2 => ⟨f2.1, by omega⟩)
    fun hfix => (advance_fw fo fun hq' => absurd (hq hq') hfix).imp fun _ f => ⟨f.1, by omega⟩

theorem stepN_fw (n : Nat) : ∀ st, Fw sql q o st → (stepN sql n st).Sat (Fw sql q o) := by
  induction n with
  | zero => exact fun _ fo => sat_ok fo
  | succ n ih => exact fun _ fo => (step_fw fo).bind fun s f1 => ih s f1.1

theorem advanceKw_fw {n : Nat} (hq : q → cfg.fixKwJump = true) (fo : Fw sql q o st) :
    (advanceKw cfg sql st n).Sat (Fw sql q o) :=
  sat_ite (fun _ => nofun) fun _ => sat_ite (fun _ => stepN_fw n st fo) fun hc =>
    (advance_fw fo fun hq' => by simpa [hq hq'] using hc).imp fun _ f => f.1

/-- `_advance(-n)` alone goes back; after moves forward that it does not undo, and over no CR/LF, the whole is a move
    forward -/
theorem retreat_fw {r : St} {n : Nat} (f : Fw sql q o r) (hc : o.current + n ≤ r.current)
    (hno : hasNL sql (r.current - 1 - n) n = false) : (retreat sql r n).Sat (Fw sql q o) := by
  intro s h
  obtain ⟨_, _, rfl⟩ := retreat_ok h
  have hsk : (r.skew || hasNL sql (r.current - 1 - n) n) = r.skew := by rw [hno, Bool.or_false]
  exact
    { start_eq := f.start_eq, toks_eq := f.toks_eq, spans_eq := f.spans_eq, cur_le := by simp only; omega
      le := fun hle => by have := f.le hle; simp only; omega
      skew_mono := fun hs => f.skew_mono (hsk.symm.trans hs)
      pinv := fun hs hP => retreat_pinv (f.pinv (hsk.symm.trans hs) hP) hno h
      quiet := fun hq' => hsk.trans (f.quiet hq') }

theorem add_cInv {ty : String} {text : Option (List Char)}
    (hS : SInv sql st) (h : add cfg sql st ty text = .ok st') : CInv sql st' ∧ st.start < st'.current := by
  have hC := add_invC hS.toInvS h
  have h := add_ok h
  subst h
  refine ⟨.of_invC hC ?_ fun hs => ?_, hS.lt⟩
  · exact covered_close (st := st) (fun _ ht => List.mem_append.2 (Or.inl ht)) (fun _ hx => hx)
      (Or.inl ⟨_, List.mem_append.2 (Or.inr (List.mem_singleton.2 rfl)), rfl, rfl⟩) hS.cov
  · have := hS.pi hs
    refine ⟨this.1, fun t ht => ?_⟩
    rcases List.mem_append.1 ht with ht | ht
    · exact this.2 t ht
    · -- the new token is stamped with the cursor's position
      rw [List.mem_singleton.1 ht]
      exact lc_iff.2 ((pinv_iff (Nat.lt_of_le_of_lt (Nat.zero_le _) hS.lt)).1 this.1)

end SqlglotModel.Lex
