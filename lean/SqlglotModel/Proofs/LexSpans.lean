/-
  One `_scan` iteration, the loop and the whole run of the tokenizer model (C13): a single case analysis of the iteration
  (`scanStep_cases`) from which the three facts about a run follow — the phase invariant `CInv`, no `skew` under a clean
  configuration, and that every recorded comment region starts with a comment delimiter.
-/
import SqlglotModel.Proofs.LexSkew

namespace SqlglotModel.Lex

/-- the region s was opened by a comment start delimiter w of the configuration (a line comment or a block comment), and —
    unless w contains a blank, in which case the trie walk folds whitespace — the input spells w at the start of the region -/
def SpanOK (cfg : Cfg) (sql : Sql) (s : Nat × Nat) : Prop :=
  ∃ w, (memS w cfg.lineComments = true ∨ (lookupS w cfg.comments).isSome = true) ∧
    ((∀ c ∈ w, c ≠ ' ') → Spells sql s.1 w)

def SpansOK (cfg : Cfg) (sql : Sql) (st : St) : Prop := ∀ s ∈ st.spans, SpanOK cfg sql s

variable {cfg : Cfg} {sql : Sql} {q : Prop} {st st' : St}

open Res (sat_ok sat_ite)

theorem Lexeme.spans (h : Lexeme cfg sql q st st')
    (hone : st.current = st.start + 1) (hS : SpansOK cfg sql st) : SpansOK cfg sql st' := by
  cases h with
  | token h => intro x hx; rw [h.spans_eq] at hx; exact hS x hx
  | comment w s hkey hraw f h =>
    intro x hx
    rw [finishComment_spans h, f.spans_eq, f.start_eq] at hx
    rcases List.mem_append.1 hx with hx | hx
    · exact hS x hx
    · have : x = (st.start, s.current - 1) := by simpa using hx
      subst this
      refine ⟨w, hkey, fun hns => ?_⟩
      have := hraw.spells hns
      rwa [hone, Nat.add_sub_cancel] at this

/-- one iteration of `_scan`: the cursor jumps over the blanks in front of it (none of them a line break) and then either
    stands on whitespace — the last blank, or a single whitespace character that is no blank — and scans nothing, or stands
    on the first character of a lexeme, with `_start` on it and no blank skipped -/
theorem scanStep_cases (hW : WF sql) (hq : q → Clean cfg) :
    (scanStep cfg sql st).Sat fun st' =>
      ∃ s, Fw sql q { st with start := blankEnd sql st } s ∧ st.current < s.current ∧
        ((st' = s ∧ ∀ p, st.current ≤ p → p < s.current → isSpaceAt sql p = true) ∨
         (s.start = st.current ∧ s.current = st.current + 1 ∧ Lexeme cfg sql q s st')) := by
  obtain ⟨hble, hb⟩ := blankEnd_spec sql st
  have hoff : stepOff sql st = max (blankEnd sql st) (st.current + 1) - st.current := by
    unfold stepOff; split <;> omega
  have hreg : hasNL sql st.current (stepOff sql st - 1) = false := hb.jump noNL_blank (Nat.le_refl _) (by omega)
  refine (advance_fw (q := q) (st := { st with start := blankEnd sql st }) .refl fun _ => hreg).bind
    fun s ⟨fw, hcur, _⟩ => ?_
  simp only at hcur
  have hblank : ∀ p, st.current ≤ p → p < blankEnd sql st → isSpaceAt sql p = true := by
    intro p hp1 hp2
    obtain ⟨chp, hgp, hbp⟩ := hb p hp1 hp2
    simp only [Bool.or_eq_true, beq_iff_eq] at hbp
    have := (hW _ _ hgp).1 (by rcases hbp with h | h <;> simp [h])
    simp only [isSpaceAt, hgp]; exact this
  cases hch : char sql s with
  | none => exact nofun
  | some ch =>
    obtain ⟨_, hget⟩ := char_get hch
    cases hsp : ch.space
    · -- a lexeme starts here: no blank was skipped, or the cursor would stand on the last of them
      have hbe : blankEnd sql st = st.current := by
        rcases Nat.lt_or_ge st.current (blankEnd sql st) with hbl | hbl
        · have := hblank (s.current - 1) (by omega) (by omega)
          simp [isSpaceAt, hget, hsp] at this
        · omega
      exact (dispatch_lexeme hW hq hch hsp).imp fun _ hl =>
        ⟨s, fw, by omega, Or.inr ⟨by rw [fw.start_eq]; exact hbe, by omega, hl⟩⟩
    · have hall : ∀ p, st.current ≤ p → p < s.current → isSpaceAt sql p = true := fun p hp1 hp2 => by
        by_cases hp : p = s.current - 1
        · subst hp; simp only [isSpaceAt, hget]; exact hsp
        · exact hblank p hp1 (by omega)
      simp only [dispatch, hsp, if_true]
      exact sat_ok ⟨s, fw, by omega, Or.inl ⟨rfl, hall⟩⟩

theorem scanStep_cInv (hW : WF sql)
    (hC : CInv sql st) (h : scanStep cfg sql st = .ok st') : CInv sql st' ∧ st.current < st'.current := by
  obtain ⟨s, fw, hlt, hcase⟩ := scanStep_cases (q := False) hW False.elim _ h
  rcases hcase with ⟨rfl, hsp⟩ | ⟨hstart, hscur, hlex⟩
  · exact ⟨hC.skip fw hsp, hlt⟩
  · have hb : blankEnd sql st = st.current := fw.start_eq.symm.trans hstart
    rw [hb] at fw
    have := hlex.cInv (hC.restart fw hlt)
    exact ⟨this.1, by omega⟩

theorem scanStep_quiet (hC : Clean cfg) (hW : WF sql)
    (h : scanStep cfg sql st = .ok st') : st'.skew = st.skew := by
  obtain ⟨s, fw, _, hcase⟩ := scanStep_cases (q := True) hW (fun _ => hC) _ h
  have k1 : s.skew = st.skew := fw.quiet trivial
  rcases hcase with ⟨he, _⟩ | ⟨_, _, hlex⟩
  · rw [he]; exact k1
  · exact (hlex.quiet trivial).trans k1

theorem scanStep_spans (hW : WF sql)
    (hS : SpansOK cfg sql st) (h : scanStep cfg sql st = .ok st') : SpansOK cfg sql st' := by
  obtain ⟨s, fw, _, hcase⟩ := scanStep_cases (q := False) hW False.elim _ h
  have hS1 : SpansOK cfg sql s := fun x hx => hS x (fw.spans_eq ▸ hx)
  rcases hcase with ⟨he, _⟩ | ⟨hstart, hscur, hlex⟩
  · rw [he]; exact hS1
  · exact hlex.spans (by omega) hS1

theorem scanLoop_ind {P : St → Prop} (hP : ∀ st, P st → (scanStep cfg sql st).Sat P) (f : Nat) :
    ∀ st, P st → (scanLoop cfg sql f st).Sat fun st' => P st' ∧ (sql.size = 0 ∨ sql.size ≤ st'.current) := by
  induction f with
  | zero => exact fun _ _ => nofun
  | succ f ih =>
    intro st hp
    rw [scanLoop]
    exact sat_ite (fun hend => sat_ok ⟨hp, by simpa using hend⟩) fun _ => (hP st hp).bind ih

theorem CInv.init (sql : Sql) : CInv sql {} :=
  ⟨Nat.zero_le _, List.Pairwise.nil, nofun, nofun, fun _ => ⟨.init sql, nofun⟩⟩

theorem lex_cInv (hW : WF sql) {st : St} (h : lex cfg sql = .ok st) :
    CInv sql st ∧ st.current = sql.size := by
  unfold lex at h
  obtain ⟨c, e⟩ := scanLoop_ind (P := CInv sql) (fun _ hC _ hs => (scanStep_cInv hW hC hs).1) _ _ (.init sql) _ h
  exact ⟨c, by have := c.le; omega⟩

theorem lex_no_skew (hC : cleanCfg cfg = true) (hW : WF sql) {st : St}
    (h : lex cfg sql = .ok st) : st.skew = false := by
  unfold lex at h
  exact (scanLoop_ind (P := fun s => s.skew = false)
    (fun _ hs _ h => (scanStep_quiet (.of_cleanCfg hC) hW h).trans hs) _ _ rfl _ h).1

theorem lex_spans (hW : WF sql) {st : St} (h : lex cfg sql = .ok st) :
    SpansOK cfg sql st := by
  unfold lex at h
  exact (scanLoop_ind (P := SpansOK cfg sql) (fun _ hS _ h => scanStep_spans hW hS h) _ _
    (by intro s hs; cases hs) _ h).1

end SqlglotModel.Lex
