/-
  Lemmas about the definitions of Model/Opt.lean that are not bag algebra: de-duplication of operands by generated key
  (`uniq_sort`), scoping of a WITH list, pipelines of result-preserving rules.
-/
import SqlglotModel.Model.Opt

namespace SqlglotModel.Opt

theorem mem_of_mem_dedupAux {α : Type} (seen : List String) (l : List (String × α)) (p : String × α)
    (h : p ∈ dedupAux seen l) : p ∈ l := by
  induction l generalizing seen with
  | nil => exact h
  | cons x xs ih =>
    simp only [dedupAux] at h
    split at h
    · exact List.mem_cons_of_mem _ (ih seen h)
    · rcases List.mem_cons.mp h with rfl | h
      · exact List.mem_cons_self ..
      · exact List.mem_cons_of_mem _ (ih _ h)

theorem dedupAux_keeps_key {α : Type} (seen : List String) (l : List (String × α)) (p : String × α)
    (hp : p ∈ l) (hs : p.1 ∉ seen) : ∃ q ∈ dedupAux seen l, q.1 = p.1 := by
  induction l generalizing seen with
  | nil => cases hp
  | cons x xs ih =>
    simp only [dedupAux]
    split
    · rename_i hx
      have hpx : p ≠ x := fun e => hs (e ▸ by simpa using hx)
      exact ih seen ((List.mem_cons.mp hp).resolve_left hpx) hs
    · by_cases hk : p.1 = x.1
      · exact ⟨x, List.mem_cons_self .., hk.symm⟩
      · have hpx : p ≠ x := fun e => hk (e ▸ rfl)
        obtain ⟨q, hq, e⟩ := ih (x.1 :: seen) ((List.mem_cons.mp hp).resolve_left hpx) (by simp [hk, hs])
        exact ⟨q, List.mem_cons_of_mem _ hq, e⟩

/-- what `uniq_sort` needs: whatever an AND / OR chain computes from the SET of its operands' values is unchanged -/
theorem dedupByKey_same_values {α : Type} (l : List (String × α))
    (hk : ∀ p ∈ l, ∀ q ∈ l, p.1 = q.1 → p.2 = q.2) (v : α) :
    v ∈ (dedupByKey l).map (·.2) ↔ v ∈ l.map (·.2) := by
  simp only [List.mem_map]
  constructor
  · rintro ⟨p, hp, rfl⟩
    exact ⟨p, mem_of_mem_dedupAux [] l p hp, rfl⟩
  · rintro ⟨p, hp, rfl⟩
    obtain ⟨q, hq, e⟩ := dedupAux_keeps_key [] l p hp List.not_mem_nil
    exact ⟨q, hq, hk q (mem_of_mem_dedupAux [] l q hq) p hp e⟩

open SqlglotModel.Bag in
theorem conj3_eq_ite (l : List B3) : conj3 l =
    if l.contains (some false) then some false else if l.contains none then none else some true := by
  induction l with
  | nil => rfl
  | cons x xs ih =>
    simp only [conj3, ih, List.contains_cons]
    rcases x with _ | _ | _ <;> cases xs.contains (some false) <;> cases xs.contains none <;> rfl

theorem wellScopedFrom_append (seen : List String) (a b : List (String × List String)) :
    wellScopedFrom seen (a ++ b)
      = (wellScopedFrom seen a && wellScopedFrom ((a.map (·.1)).reverse ++ seen) b) := by
  induction a generalizing seen with
  | nil => rfl
  | cons c cs ih => simp [wellScopedFrom, ih, Bool.and_assoc]

theorem applyRules_preserves {Q R : Type} (sem : Q → R) (rs : List (Q → Q)) (h : ∀ r ∈ rs, Preserves sem r) :
    Preserves sem (applyRules rs) := by
  induction rs with
  | nil => intro q; rfl
  | cons r rs ih =>
    intro q
    exact (ih (fun r' hr' => h r' (List.mem_cons_of_mem _ hr')) (r q)).trans (h r (List.mem_cons_self ..) q)

end SqlglotModel.Opt
