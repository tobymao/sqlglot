/-
  C01 — the round trip print ∘ parse on the faithful part of the parser's image (theorems in Properties/C01.lean).

  `Fits tbl pos B e`: `e` is a tree the parser entered at `pos` can produce, and `B` is the set of token types that must
  not follow its printed form (they would be consumed into it).  Right operand of a level-k operator sits at a tighter
  level (or is a Paren); the left operand is the spine of the same level; the operand of `NOT` is parsed at equality
  level; an operator token may follow a left operand only if that operand's right edge does not swallow it
  (`tok ∉ Bl`) — this excludes the known defect class "negated range predicate / prefix NOT as left operand".

  `Concl` states, per entry point `Pos`, what the parser does on `g tbl e ++ rest`, for arbitrary parsers at the two
  re-entry points, with one lemma per clause of the grammar.  `fits_concl` is the induction over `Fits` with the re-entry
  parsers `parseF tbl n`, any `n` from the number of printed tokens on (what `parse` starts with): a clause that
  re-enters (parenthesis, list item, operand of `NOT`) uses the hypothesis on the enclosed tree with one unit of fuel
  less, and the enclosing clause prints at least one token more.  Which trees are faithful for a given table, and the
  decidable conditions on a generated table, are in Proofs/ParseGenTables.lean.
-/
import SqlglotModel.Model.Parse
import SqlglotModel.Model.Gen
import SqlglotModel.Proofs.List

namespace SqlglotModel.ParseGen
open SqlglotModel.Expr SqlglotModel.Parse SqlglotModel.Gen

def levelToks (lv : Level) : List String := lv.map (·.1)

inductive Which where
  | outer | mid | lower
deriving DecidableEq, Repr

inductive Pos where
  | lad (w : Which) (lvs : List Level)                 -- inside ladder `w`, levels `lvs` still to go (loosest first)
  | spine (w : Which) (lv : Level) (post : List Level) -- the left spine of the loop of level `lv`
  | range                                              -- `_parse_range`
  | rspine                                             -- the operand / predicate chain inside `_parse_range`'s loop
  | unary                                              -- `_parse_unary`
deriving Repr

/-- operand parser of each of the three ladders, given the re-entry parsers -/
def subOf (tbl : Tables) (T E : Toks → Res) : Which → Toks → Res
  | .outer => eqP tbl T E
  | .mid => rangeP tbl T (bitP tbl T E)
  | .lower => unaryP (atomP T) E

def unaryBlocked : List String := ["L_PAREN", "DOT", "STRING"]

def rangeBlocked (tbl : Tables) : List String :=
  ["NOT", "IN", "BETWEEN", "LIKE", "IS", "ISNULL", "NOTNULL", "NULL"] ++ tbl.rangeToks

def headOk (B : List String) : Toks → Prop
  | [] => True
  | t :: _ => t.ty ∉ B

instance (B : List String) (ts : Toks) : Decidable (headOk B ts) := by
  cases ts <;> simp only [headOk] <;> infer_instance

def identTok (p : String × Bool) : Tok := ⟨if p.2 then "IDENTIFIER" else "VAR", p.1⟩

/-- tokens of an expression printed under an inherited spine operator -/
def gI (tbl : Tables) (inh : Inh) (e : Expr) : Toks := toks (genI tbl inh e)

/-- tokens of a comma-separated list -/
def gList (tbl : Tables) (es : List Expr) : Toks := toks (genList tbl es)

/-- under `inh` the root of `e` prints its own operator text: `e` is no IS / LIKE node, or the text inherited for its
    class is the one of its own `negate` -/
def OwnOp (inh : Inh) : Expr → Prop
  | .isNull n _ => inhOp inh false (isOp n) = isOp n
  | .like n _ _ => inhOp inh true (likeOp n) = likeOp n
  | _ => True

/-- only the IS / LIKE nodes read the inherited text; this discharges the premises `gI … = g …` of `Fits.rIsNull` /
    `Fits.rLike` (`trivial` for an operand that is no IS / LIKE node, `rfl` for one with the same `negate`) -/
theorem gI_eq_g (tbl : Tables) {inh : Inh} {e : Expr} (h : OwnOp inh e) : gI tbl inh e = g tbl e := by
  cases e with
  | isNull n x => exact congrArg (fun op => toks (genI tbl (some (false, op)) x ++ op ++ [kw "NULL" "NULL"])) h
  | like n x p =>
    exact congrArg (fun op => toks (genI tbl (some (true, op)) x ++ op ++ genI tbl (some (true, op)) p)) h
  | _ => rfl

inductive Fits (tbl : Tables) : Pos → List String → Expr → Prop where
  | num (s : String) : Fits tbl .unary unaryBlocked (.num s)
  | str (s : String) : Fits tbl .unary unaryBlocked (.str s)
  | null : Fits tbl .unary unaryBlocked .null
  | bool (b : Bool) : Fits tbl .unary unaryBlocked (.bool b)
  | col (p : String × Bool) (ps : List (String × Bool)) : ps.length ≤ 3 → Fits tbl .unary unaryBlocked (.col (p :: ps))
  | paren {B e} : Fits tbl (.lad .outer tbl.outer) B e → "R_PAREN" ∉ B → Fits tbl .unary unaryBlocked (.paren e)
  | neg {B e} : Fits tbl .unary B e → Fits tbl .unary B (.neg e)
  | bnot {B e} : Fits tbl .unary B e → Fits tbl .unary B (.bnot e)
  | not {B e} : Fits tbl (.lad .mid tbl.mid) B e → Fits tbl .unary B (.not e)
  | baseLower {B e} : Fits tbl .unary B e → Fits tbl (.lad .lower []) B e
  | baseMid {B e} : Fits tbl .range B e → Fits tbl (.lad .mid []) B e
  | baseOuter {B e} : Fits tbl (.lad .mid tbl.mid) B e → Fits tbl (.lad .outer []) B e
  | func0 (name : String) : Fits tbl .unary unaryBlocked (.func name [])
  -- `Bof x` is the blocked set of the item `x`: a function of the item and not an `∃ B` under the `∀`, so that `Fits`
  -- stays a predicate `induction` accepts; behind an item comes `,` or `)`
  | func (name : String) (args : List Expr) (Bof : Expr → List String) : args ≠ [] →
      (∀ x ∈ args, Fits tbl (.lad .outer tbl.outer) (Bof x) x) →
      (∀ x ∈ args, "COMMA" ∉ Bof x ∧ "R_PAREN" ∉ Bof x) → Fits tbl .unary unaryBlocked (.func name args)
  | rOperand {B e} : Fits tbl (.lad .lower tbl.lower) B e → Fits tbl .rspine B e
  -- a predicate that ends in a closed token (`NULL`, `)`) blocks nothing: the loop of `_parse_range` looks at whatever
  -- follows; one that ends in an operand (`hi`, the pattern) passes on what that operand blocks.  The premises
  -- `gI … = g …`: the operand is printed under the operator text of this node, and it prints as it prints alone
  -- (`gI_eq_g`: it is not itself an IS / LIKE with the other `negate`, which excludes the defect of the flattened spine)
  | rIsNull {Bl l} (n : Bool) : Fits tbl .rspine Bl l → "IS" ∉ Bl → (n = true → tbl.normalizeNotNull = false) →
      gI tbl (some (false, isOp n)) l = g tbl l → Fits tbl .rspine [] (.isNull n l)
  | rIn {Bl l} (items : List Expr) (Bof : Expr → List String) : Fits tbl .rspine Bl l → "IN" ∉ Bl → items ≠ [] →
      (∀ x ∈ items, Fits tbl (.lad .outer tbl.outer) (Bof x) x) →
      (∀ x ∈ items, "COMMA" ∉ Bof x ∧ "R_PAREN" ∉ Bof x) → Fits tbl .rspine [] (.inList l items)
  | rBetween {Bl Blo Bhi l lo hi} : Fits tbl .rspine Bl l → "BETWEEN" ∉ Bl →
      Fits tbl (.lad .lower tbl.lower) Blo lo → "AND" ∉ Blo →
      textUpperIs (g tbl lo) ["SYMMETRIC", "ASYMMETRIC"] = false →
      Fits tbl (.lad .lower tbl.lower) Bhi hi → Fits tbl .rspine Bhi (.between l lo hi)
  -- behind the pattern `ESCAPE` is refused (`likeP`); behind `NOT LIKE` a `NOT` or a range token makes the parser wrap
  -- the negated predicate in a Paren (`wrapIfRangeFollows`)
  | rLike {Bl Bp l p} (n : Bool) : Fits tbl .rspine Bl l → "LIKE" ∉ Bl → "NOT" ∉ Bl →
      Fits tbl (.lad .lower tbl.lower) Bp p →
      gI tbl (some (true, likeOp n)) l = g tbl l → gI tbl (some (true, likeOp n)) p = g tbl p →
      Fits tbl .rspine ((if n then "NOT" :: tbl.rangeToks else []) ++ "ESCAPE" :: Bp) (.like n l p)
  | rangeLift {B e} : Fits tbl .rspine B e → Fits tbl .range (rangeBlocked tbl ++ B) e
  | ladLift {w lv post B e} : Fits tbl (.spine w lv post) B e → Fits tbl (.lad w (lv :: post)) (levelToks lv ++ B) e
  | spineOperand {w lv post B e} : Fits tbl (.lad w post) B e → Fits tbl (.spine w lv post) B e
  | spineBin {w lv post Bl Br l r} (cls tok txt : String) :
      Fits tbl (.spine w lv post) Bl l → lookup lv tok = some cls → opTok tbl cls = ⟨tok, txt⟩ → tok ∉ Bl →
      Fits tbl (.lad w post) Br r → Fits tbl (.spine w lv post) Br (.bin cls l r)

/-- what the parser entered at `pos` does on the printed form of `e`; `T` and `E` are the parsers of the re-entry points
    (`_parse_disjunction` for parentheses, arguments and list items, `_parse_equality` for the operand of `NOT`) -/
def Concl (tbl : Tables) (T E : Toks → Res) : Pos → Expr → Toks → Prop
  | .lad w lvs, e, rest => parseLv (subOf tbl T E w) lvs (g tbl e ++ rest) = .ok (e, rest)
  | .spine w lv post, e, rest =>
      ∃ k, rest.length ≤ k ∧
        parseLv (subOf tbl T E w) (lv :: post) (g tbl e ++ rest) = loopLv (parseLv (subOf tbl T E w) post) lv k e rest
  | .range, e, rest => rangeP tbl T (bitP tbl T E) (g tbl e ++ rest) = .ok (e, rest)
  | .rspine, e, rest =>
      ∃ k, rest.length + 1 ≤ k ∧
        rangeP tbl T (bitP tbl T E) (g tbl e ++ rest) = rangeLoop tbl T (bitP tbl T E) k e rest
  | .unary, e, rest => unaryP (atomP T) E (g tbl e ++ rest) = .ok (e, rest)

theorem toks_append (a b : List Piece) : toks (a ++ b) = toks a ++ toks b := by
  induction a with
  | nil => rfl
  | cons p ps ih => cases p <;> simp [toks, ih]

theorem g_num (tbl : Tables) (s : String) : g tbl (.num s) = [⟨"NUMBER", s⟩] := by simp [g, gen, genI, toks, kw]
theorem g_str (tbl : Tables) (s : String) : g tbl (.str s) = [⟨"STRING", s⟩] := by simp [g, gen, genI, toks, kw]
theorem g_null (tbl : Tables) : g tbl .null = [⟨"NULL", "NULL"⟩] := by simp [g, gen, genI, toks, kw]
theorem g_bool (tbl : Tables) (b : Bool) : g tbl (.bool b) = [⟨if b then "TRUE" else "FALSE", if b then "TRUE" else "FALSE"⟩] := by
  cases b <;> simp [g, gen, genI, toks, kw]
theorem g_paren (tbl : Tables) (e : Expr) : g tbl (.paren e) = ⟨"L_PAREN", "("⟩ :: (g tbl e ++ [⟨"R_PAREN", ")"⟩]) := by
  simp [g, gen, genI, toks, kw, toks_append]
theorem g_neg (tbl : Tables) (e : Expr) : g tbl (.neg e) = ⟨"DASH", "-"⟩ :: g tbl e := by
  simp only [g, gen, genI, toks, kw, toks_append]
  split <;> simp [toks]
theorem g_bnot (tbl : Tables) (e : Expr) : g tbl (.bnot e) = ⟨"TILDE", "~"⟩ :: g tbl e := by
  simp only [g, gen, genI, toks, kw, toks_append]
  split <;> simp [toks]
theorem g_not (tbl : Tables) (e : Expr) : g tbl (.not e) = ⟨"NOT", "NOT"⟩ :: g tbl e := by
  simp [g, gen, genI, toks, kw]
theorem g_bin (tbl : Tables) (cls : String) (l r : Expr) :
    g tbl (.bin cls l r) = g tbl l ++ opTok tbl cls :: g tbl r := by
  simp [g, gen, genI, toks, toks_append]

theorem toks_isOp (n : Bool) : toks (isOp n) = if n then [⟨"IS", "IS"⟩, ⟨"NOT", "NOT"⟩] else [⟨"IS", "IS"⟩] := by
  cases n <;> simp [isOp, toks, kw]

theorem toks_likeOp (n : Bool) : toks (likeOp n) = if n then [⟨"NOT", "NOT"⟩, ⟨"LIKE", "LIKE"⟩] else [⟨"LIKE", "LIKE"⟩] := by
  cases n <;> simp [likeOp, toks, kw]

theorem g_isNull (tbl : Tables) (n : Bool) (l : Expr) :
    g tbl (.isNull n l) = gI tbl (some (false, isOp n)) l ++ (toks (isOp n) ++ [⟨"NULL", "NULL"⟩]) := by
  simp [g, gI, gen, genI, inhOp, toks, toks_append, kw]

theorem g_inList (tbl : Tables) (l : Expr) (items : List Expr) :
    g tbl (.inList l items) = g tbl l ++ ⟨"IN", "IN"⟩ :: ⟨"L_PAREN", "("⟩ :: (gList tbl items ++ [⟨"R_PAREN", ")"⟩]) := by
  simp [g, gList, gen, genI, toks, toks_append, kw]

theorem g_between (tbl : Tables) (l lo hi : Expr) :
    g tbl (.between l lo hi) = g tbl l ++ ⟨"BETWEEN", "BETWEEN"⟩ :: (g tbl lo ++ ⟨"AND", "AND"⟩ :: g tbl hi) := by
  simp [g, gen, genI, toks, toks_append, kw]

theorem g_like (tbl : Tables) (n : Bool) (l p : Expr) :
    g tbl (.like n l p) = gI tbl (some (true, likeOp n)) l ++ (toks (likeOp n) ++ gI tbl (some (true, likeOp n)) p) := by
  simp [g, gI, gen, genI, inhOp, toks_append]

theorem g_func (tbl : Tables) (name : String) (args : List Expr) :
    g tbl (.func name args) = ⟨"VAR", name⟩ :: ⟨"L_PAREN", "("⟩ :: (gList tbl args ++ [⟨"R_PAREN", ")"⟩]) := by
  simp [g, gList, gen, genI, toks, toks_append, kw]

theorem gList_nil (tbl : Tables) : gList tbl [] = [] := rfl

theorem gList_one (tbl : Tables) (e : Expr) : gList tbl [e] = g tbl e := by
  simp [gList, genList, g, gen]

theorem gList_cons2 (tbl : Tables) (e f : Expr) (rest : List Expr) :
    gList tbl (e :: f :: rest) = g tbl e ++ ⟨"COMMA", ","⟩ :: gList tbl (f :: rest) := by
  simp [gList, genList, g, gen, toks, toks_append, kw]

def colTail : List (String × Bool) → Toks
  | [] => []
  | p :: ps => ⟨"DOT", "."⟩ :: identTok p :: colTail ps

theorem g_col (tbl : Tables) (p : String × Bool) (ps : List (String × Bool)) :
    g tbl (.col (p :: ps)) = identTok p :: colTail ps := by
  simp only [g, gen, genI]
  induction ps generalizing p with
  | nil => simp [colPieces, identPiece, toks, colTail, identTok]
  | cons q qs ih =>
    simp only [colPieces, toks, colTail, identPiece, kw]
    rw [ih q]
    simp [identTok]

theorem isIdentTok_identTok (p : String × Bool) : isIdentTok (identTok p) = true := by
  obtain ⟨a, b⟩ := p; cases b <;> simp [isIdentTok, identTok]

theorem identOf_identTok (p : String × Bool) : identOf (identTok p) = p := by
  obtain ⟨a, b⟩ := p; cases b <;> simp [identOf, identTok]

theorem colRest_colTail (ps : List (String × Bool)) (rest : Toks) (h : headOk ["DOT"] rest) :
    colRest (colTail ps ++ rest) = .ok (ps, rest) := by
  induction ps with
  | nil =>
    simp only [colTail, List.nil_append]
    match rest, h with
    | [], _ => simp [colRest]
    | [d], h => simp [headOk] at h; simp [colRest, h]
    | d :: t :: ts, h => simp [headOk] at h; simp [colRest, h]
  | cons p ps ih =>
    simp only [colTail, List.cons_append, colRest]
    simp [isIdentTok_identTok, ih, identOf_identTok]

theorem lookup_none_of_not_mem (lv : Level) (k : String) (h : k ∉ levelToks lv) : lookup lv k = none := by
  rw [assoc_eq_find? (get := fun k l => lookup l k) (fun _ => rfl) (fun _ _ _ _ => rfl)]
  exact find?_fst_eq_none.mpr h

theorem loopLv_stop (sub : Toks → Res) (lv : Level) (k : Nat) (e : Expr) (rest : Toks)
    (h : headOk (levelToks lv) rest) : loopLv sub lv k e rest = .ok (e, rest) := by
  cases rest with
  | nil => simp [loopLv]
  | cons t ts =>
    simp only [headOk] at h
    simp [loopLv, lookup_none_of_not_mem lv t.ty h]

theorem rangeLoop_stop (tbl : Tables) (top bit : Toks → Res) (k : Nat) (e : Expr) (rest : Toks)
    (h : headOk (rangeBlocked tbl) rest) : rangeLoop tbl top bit (k + 1) e rest = .ok (e, rest) := by
  cases rest with
  | nil => simp [rangeLoop, headIs, rangeStep]
  | cons t ts =>
    simp only [headOk, rangeBlocked, List.mem_append, List.mem_cons, not_or, List.not_mem_nil, not_false_eq_true,
      and_true] at h
    simp [rangeLoop, headIs, rangeStep, h]

/-- `ts` begins with a token other than `)` -/
def StartsItem (ts : Toks) : Prop := ∃ t r, ts = t :: r ∧ t.ty ≠ "R_PAREN"

theorem StartsItem.append {a : Toks} (h : StartsItem a) (b : Toks) : StartsItem (a ++ b) := by
  obtain ⟨t, r, rfl, ht⟩ := h
  exact ⟨t, r ++ b, rfl, ht⟩

theorem StartsItem.ne_nil {ts : Toks} (h : StartsItem ts) : ts ≠ [] := by
  obtain ⟨t, r, rfl, _⟩ := h
  exact List.cons_ne_nil t r

/-- the printed form of a faithful tree begins with a token other than `)`.  Of an arbitrary tree this is false
    (`.col []` prints nothing), hence the induction over `Fits` (the second one beside `fits_concl`).  Used for an
    argument list (behind `NAME(` the parser then reads items and not the empty call) and for the lower bound of
    `BETWEEN` (it prints at least one token) -/
theorem g_startsItem (tbl : Tables) {pos : Pos} {B : List String} {e : Expr} (h : Fits tbl pos B e) :
    StartsItem (g tbl e) := by
  induction h with
  | num s => exact ⟨_, _, g_num tbl s, by simp⟩
  | str s => exact ⟨_, _, g_str tbl s, by simp⟩
  | null => exact ⟨_, _, g_null tbl, by decide⟩
  | bool b => exact ⟨_, _, g_bool tbl b, by cases b <;> decide⟩
  | col p ps _ =>
    refine ⟨_, _, g_col tbl p ps, ?_⟩
    obtain ⟨a, q⟩ := p
    cases q <;> simp [identTok]
  | paren _ _ _ => exact ⟨_, _, g_paren tbl _, by decide⟩
  | neg _ _ => exact ⟨_, _, g_neg tbl _, by decide⟩
  | bnot _ _ => exact ⟨_, _, g_bnot tbl _, by decide⟩
  | not _ _ => exact ⟨_, _, g_not tbl _, by decide⟩
  | baseLower _ ih => exact ih
  | baseMid _ ih => exact ih
  | baseOuter _ ih => exact ih
  | func0 name => exact ⟨_, _, g_func tbl name [], by simp⟩
  | func name args Bof _ _ _ _ => exact ⟨_, _, g_func tbl name args, by simp⟩
  | rOperand _ ih => exact ih
  | rIsNull n _ _ _ hgi ih => rw [g_isNull, hgi]; exact ih.append _
  | rIn items Bof _ _ _ _ _ ih _ => rw [g_inList]; exact ih.append _
  | rBetween _ _ _ _ _ _ ih _ _ => rw [g_between]; exact ih.append _
  | rLike n _ _ _ _ hgl _ ih _ => rw [g_like, hgl]; exact ih.append _
  | rangeLift _ ih => exact ih
  | ladLift _ ih => exact ih
  | spineOperand _ ih => exact ih
  | spineBin cls tok txt _ _ _ _ _ ihl _ => rw [g_bin]; exact ihl.append _

theorem gList_startsItem (tbl : Tables) (items : List Expr) (hne : items ≠ [])
    (hh : ∀ x ∈ items, StartsItem (g tbl x)) : StartsItem (gList tbl items) := by
  cases items with
  | nil => exact absurd rfl hne
  | cons e es =>
    cases es with
    | nil => rw [gList_one]; exact hh e (List.mem_cons_self ..)
    | cons f fs => rw [gList_cons2]; exact (hh e (List.mem_cons_self ..)).append _

theorem headIs_cons (t : Tok) (r : Toks) (ty : String) : headIs (t :: r) ty = decide (t.ty = ty) := rfl

theorem headIs_of_headOk {B : List String} {ts : Toks} {ty : String} (h : headOk B ts) (hm : ty ∈ B) :
    headIs ts ty = false := by
  cases ts with
  | nil => rfl
  | cons t r => exact decide_eq_false fun e => h (e ▸ hm)

theorem headOk_of_subset {A B : List String} {ts : Toks} (hs : ∀ x ∈ A, x ∈ B) (h : headOk B ts) : headOk A ts := by
  cases ts with
  | nil => trivial
  | cons t r => exact fun hm => h (hs _ hm)

theorem headOk_append_left {A B : List String} {ts : Toks} (h : headOk (A ++ B) ts) : headOk A ts :=
  headOk_of_subset (fun _ => List.mem_append_left B) h

theorem headOk_append_right {A B : List String} {ts : Toks} (h : headOk (A ++ B) ts) : headOk B ts :=
  headOk_of_subset (fun _ => List.mem_append_right A) h

theorem unaryP_atom (atom eq : Toks → Res) (t : Tok) (ts : Toks)
    (h : t.ty ∉ ["DASH", "PLUS", "TILDE", "NOT"]) : unaryP atom eq (t :: ts) = atom (t :: ts) := by
  simp only [List.mem_cons, List.not_mem_nil, or_false, not_or] at h
  simp only [unaryP, h, if_false]

theorem identTok_not_prefix (p : String × Bool) : (identTok p).ty ∉ ["DASH", "PLUS", "TILDE", "NOT"] := by
  obtain ⟨a, q⟩ := p; cases q <;> simp [identTok]

theorem atomP_ident (T : Toks → Res) (p : String × Bool) (ts : Toks) (h : headIs ts "L_PAREN" = false) :
    atomP T (identTok p :: ts) = mkCol (identTok p) ts := by
  obtain ⟨a, q⟩ := p
  cases q
  · cases ts with
    | nil => simp [atomP, identTok]
    | cons x xs =>
      have : x.ty ≠ "L_PAREN" := by simpa [headIs] using h
      simp [atomP, identTok, this]
  · simp [atomP, identTok]

theorem textUpperIs_append (a b : Toks) (names : List String) (h : a ≠ []) :
    textUpperIs (a ++ b) names = textUpperIs a names := by
  cases a with
  | nil => exact absurd rfl h
  | cons t r => rfl

theorem wrapIfRangeFollows_id (rangeToks : List String) (e : Expr) (rest : Toks)
    (h : headOk ("NOT" :: rangeToks) rest) : wrapIfRangeFollows rangeToks e rest = e := by
  cases rest with
  | nil => rfl
  | cons t r =>
    simp only [headOk, List.mem_cons, not_or] at h
    simp [wrapIfRangeFollows, h]

theorem length_g_le_gList (tbl : Tables) {x : Expr} {items : List Expr} (h : x ∈ items) :
    (g tbl x).length ≤ (gList tbl items).length := by
  induction items with
  | nil => cases h
  | cons a as ih =>
    cases as with
    | nil => rw [gList_one, List.mem_singleton.mp h]; exact Nat.le_refl _
    | cons b bs =>
      rw [gList_cons2, List.length_append, List.length_cons]
      cases h with
      | head => exact Nat.le_add_right ..
      | tail _ h' => exact Nat.le_trans (ih h') (Nat.le_trans (Nat.le_succ _) (Nat.le_add_left ..))

theorem length_le_gList_succ (tbl : Tables) (items : List Expr) : items.length ≤ (gList tbl items).length + 1 := by
  induction items with
  | nil => exact Nat.zero_le _
  | cons e rest ih =>
    cases rest with
    | nil => exact Nat.le_add_left ..
    | cons f rest' =>
      rw [gList_cons2, List.length_append, List.length_cons]
      exact Nat.succ_le_succ (Nat.le_trans ih (Nat.le_add_left ..))

theorem succ_fuel {d n : Nat} (h : d + 1 ≤ n) : ∃ m, n = m + 1 ∧ d ≤ m :=
  match n, h with
  | m + 1, h => ⟨m, rfl, Nat.le_of_succ_le_succ h⟩

theorem itemsP_gList (tbl : Tables) (top : Toks → Res) (items : List Expr) (hne : items ≠ []) (rest : Toks)
    (h : ∀ x ∈ items, ∀ t r, (t.ty = "COMMA" ∨ t.ty = "R_PAREN") → top (g tbl x ++ t :: r) = .ok (x, t :: r)) :
    ∀ k, items.length ≤ k → itemsP top k (gList tbl items ++ ⟨"R_PAREN", ")"⟩ :: rest) = .ok (items, rest) := by
  induction items with
  | nil => exact absurd rfl hne
  | cons e es ih =>
    intro k hk
    obtain ⟨k', rfl, hk'⟩ := succ_fuel hk
    cases es with
    | nil =>
      rw [gList_one]
      simp only [itemsP]
      rw [h e (List.mem_cons_self ..) ⟨"R_PAREN", ")"⟩ rest (Or.inr rfl)]
      simp
    | cons f fs =>
      rw [gList_cons2]
      simp only [itemsP, List.append_assoc, List.cons_append]
      rw [h e (List.mem_cons_self ..) ⟨"COMMA", ","⟩ _ (Or.inl rfl)]
      simp only [if_true]
      rw [ih (by simp) (fun x hx => h x (List.mem_cons_of_mem _ hx)) k' hk']

section
variable {tbl : Tables} {T E : Toks → Res} {w : Which} {lv : Level} {post : List Level} {e : Expr} {rest : Toks}

theorem Concl.lad_eq {lvs : List Level} (h : Concl tbl T E (.lad w lvs) e rest) :
    parseLv (subOf tbl T E w) lvs (g tbl e ++ rest) = .ok (e, rest) := h

theorem Concl.bit_eq (h : Concl tbl T E (.lad .lower tbl.lower) e rest) :
    bitP tbl T E (g tbl e ++ rest) = .ok (e, rest) := h

theorem Concl.unary_eq (h : Concl tbl T E .unary e rest) : unaryP (atomP T) E (g tbl e ++ rest) = .ok (e, rest) := h

/-! The four clauses that only move between entry points.  With the two chain steps `concl_rspine_step` and `concl_bin`
    they are the only places where the fuel `k` of the loops is seen: a loop is entered with the length of what follows
    (the range loop with one more, for its last turn), and left at a token that starts no turn. -/

theorem Concl.rspine_of_lower (h : Concl tbl T E (.lad .lower tbl.lower) e rest) : Concl tbl T E .rspine e rest :=
  ⟨rest.length + 1, Nat.le_refl _, by rw [rangeP, h.bit_eq]⟩

theorem Concl.range_of_rspine (h : Concl tbl T E .rspine e rest) (hr : headOk (rangeBlocked tbl) rest) :
    Concl tbl T E .range e rest := by
  obtain ⟨k, hk, h⟩ := h
  obtain ⟨k', rfl, _⟩ := succ_fuel hk
  exact h.trans (rangeLoop_stop tbl _ _ _ e rest hr)

theorem Concl.spine_of_lad (h : Concl tbl T E (.lad w post) e rest) : Concl tbl T E (.spine w lv post) e rest :=
  ⟨rest.length, Nat.le_refl _, by rw [parseLv, h.lad_eq]⟩

theorem Concl.lad_of_spine (h : Concl tbl T E (.spine w lv post) e rest) (hr : headOk (levelToks lv) rest) :
    Concl tbl T E (.lad w (lv :: post)) e rest := by
  obtain ⟨k, _, hk⟩ := h
  exact hk.trans (loopLv_stop _ lv k e rest hr)

/-! The clauses of `_parse_unary` that are more than one evaluation: the dotted column, the prefix operators `-` and `~`
    (which stay in `_parse_unary`), and `NOT`, the parenthesis and the call, which hand the enclosed text to a re-entry
    parser. -/

theorem concl_col (p : String × Bool) {ps : List (String × Bool)} (hlen : ps.length ≤ 3)
    (hr : headOk unaryBlocked rest) : Concl tbl T E .unary (.col (p :: ps)) rest := by
  have hL : headIs rest "L_PAREN" = false := headIs_of_headOk hr (by simp [unaryBlocked])
  have hlp : headIs (colTail ps ++ rest) "L_PAREN" = false := by
    cases ps with
    | nil => exact hL
    | cons q qs => simp [colTail, headIs]
  simp only [Concl, g_col, List.cons_append]
  rw [unaryP_atom _ _ _ _ (identTok_not_prefix p), atomP_ident _ _ _ hlp, mkCol,
    colRest_colTail ps rest (headOk_of_subset (by simp [unaryBlocked]) hr)]
  simp [Nat.not_lt.mpr hlen, hL, identOf_identTok]

theorem concl_neg (h : Concl tbl T E .unary e rest) : Concl tbl T E .unary (.neg e) rest := by
  simp [Concl, g_neg, unaryP, h.unary_eq, mapRes]

theorem concl_bnot (h : Concl tbl T E .unary e rest) : Concl tbl T E .unary (.bnot e) rest := by
  simp [Concl, g_bnot, unaryP, h.unary_eq, mapRes]

theorem concl_not (h : E (g tbl e ++ rest) = .ok (e, rest)) : Concl tbl T E .unary (.not e) rest := by
  simp [Concl, g_not, unaryP, h, mapRes]

theorem concl_paren (h : T (g tbl e ++ ⟨"R_PAREN", ")"⟩ :: rest) = .ok (e, ⟨"R_PAREN", ")"⟩ :: rest)) :
    Concl tbl T E .unary (.paren e) rest := by
  simp only [Concl, g_paren, List.cons_append, List.append_assoc, List.nil_append]
  rw [unaryP_atom _ _ _ _ (by simp)]
  simp [atomP, h, closeParen]

theorem concl_call {name : String} {args : List Expr} (hs : StartsItem (gList tbl args))
    (h : itemsP T (gList tbl args ++ ⟨"R_PAREN", ")"⟩ :: rest).length
      (gList tbl args ++ ⟨"R_PAREN", ")"⟩ :: rest) = .ok (args, rest)) :
    Concl tbl T E .unary (.func name args) rest := by
  simp only [Concl, g_func, List.cons_append, List.append_assoc, List.nil_append]
  obtain ⟨t, r, hg, ht⟩ := hs.append (⟨"R_PAREN", ")"⟩ :: rest)
  rw [hg] at h ⊢
  rw [unaryP_atom _ _ _ _ (by simp)]
  simp only [List.length_cons] at h
  simp [atomP, headIs, ht, h]

/-- one turn of the loop of `_parse_range`: standing behind `l` in front of `mid ++ rest` it parses `mid` as one predicate
    and goes on in front of `rest`; the turn costs one unit of fuel and `mid` is not empty, so the fuel still covers `rest` -/
theorem concl_rspine_step {l e' e'' : Expr} {mid : Toks}
    (hl : Concl tbl T E .rspine l (mid ++ rest))
    (hs : rangeStep tbl T (bitP tbl T E) (headIs (mid ++ rest) "NOT") l
            (if headIs (mid ++ rest) "NOT" then (mid ++ rest).drop 1 else mid ++ rest) = .next e' rest)
    (he : (finishNeg tbl.rangeToks (headIs (mid ++ rest) "NOT") e' rest).1 = e'')
    (hg : g tbl e'' = g tbl l ++ mid) (hmid : mid ≠ []) : Concl tbl T E .rspine e'' rest := by
  subst he
  obtain ⟨k, hk, hl⟩ := hl
  obtain ⟨k', rfl, hk'⟩ := succ_fuel hk
  obtain ⟨t, mid, rfl⟩ := List.exists_cons_of_ne_nil hmid
  refine ⟨k', Nat.le_trans (Nat.succ_le_succ (by simp)) hk', ?_⟩
  rw [hg, List.append_assoc, hl, rangeLoop, hs]

theorem concl_isNull {l : Expr} (neg : Bool)
    (hl : Concl tbl T E .rspine l ((toks (isOp neg) ++ [⟨"NULL", "NULL"⟩]) ++ rest))
    (hnn : neg = true → tbl.normalizeNotNull = false) (hgi : gI tbl (some (false, isOp neg)) l = g tbl l) :
    Concl tbl T E .rspine (.isNull neg l) rest := by
  refine concl_rspine_step hl (e' := .isNull neg l) ?_ ?_ (by rw [g_isNull, hgi]) (by simp)
  · cases neg
    · simp [toks_isOp, headIs_cons, rangeStep, isP]
    · simp [toks_isOp, headIs_cons, rangeStep, isP, hnn rfl]
  · cases neg <;> simp [toks_isOp, headIs_cons, finishNeg]

theorem rangeStep_in (tbl : Tables) (top bit : Toks → Res) (neg : Bool) (this : Expr) (x : String) (r : Toks) :
    rangeStep tbl top bit neg this (⟨"IN", x⟩ :: r) = inP top this r := by
  simp only [rangeStep, if_true]

theorem concl_in {l : Expr} {items : List Expr}
    (hl : Concl tbl T E .rspine l
      (⟨"IN", "IN"⟩ :: ⟨"L_PAREN", "("⟩ :: (gList tbl items ++ [⟨"R_PAREN", ")"⟩]) ++ rest))
    (hitems : itemsP T (gList tbl items ++ ⟨"R_PAREN", ")"⟩ :: rest).length
      (gList tbl items ++ ⟨"R_PAREN", ")"⟩ :: rest) = .ok (items, rest)) :
    Concl tbl T E .rspine (.inList l items) rest := by
  -- rewritten by hand where the sibling clauses use `simp`: the fuel of `itemsP` is the length of the very token list
  -- that `simp` would normalise, and `hitems` has to match it as it stands
  have hnot : ∀ X, headIs (⟨"IN", "IN"⟩ :: X) "NOT" = false := fun _ => by rw [headIs_cons]; decide
  refine concl_rspine_step hl (e' := .inList l items) ?_ (by rw [List.cons_append, hnot]; rfl) (g_inList ..)
    (List.cons_ne_nil _ _)
  rw [List.cons_append, List.cons_append, List.append_assoc, hnot, if_neg Bool.false_ne_true, rangeStep_in, inP,
    if_pos rfl]
  exact hitems ▸ rfl

theorem concl_between {l lo hi : Expr}
    (hl : Concl tbl T E .rspine l (⟨"BETWEEN", "BETWEEN"⟩ :: (g tbl lo ++ ⟨"AND", "AND"⟩ :: g tbl hi) ++ rest))
    (hlo : Concl tbl T E (.lad .lower tbl.lower) lo (⟨"AND", "AND"⟩ :: (g tbl hi ++ rest)))
    (hhi : Concl tbl T E (.lad .lower tbl.lower) hi rest) (hne : g tbl lo ≠ [])
    (hsym : textUpperIs (g tbl lo) ["SYMMETRIC", "ASYMMETRIC"] = false) :
    Concl tbl T E .rspine (.between l lo hi) rest := by
  refine concl_rspine_step hl (e' := .between l lo hi) ?_ rfl (g_between ..) (List.cons_ne_nil _ _)
  simp [headIs_cons, rangeStep, betweenP, textUpperIs_append _ _ _ hne, hsym, hlo.bit_eq, hhi.bit_eq]

theorem concl_like {l p : Expr} {Bp : List String} (neg : Bool)
    (hl : Concl tbl T E .rspine l ((toks (likeOp neg) ++ g tbl p) ++ rest))
    (hp : Concl tbl T E (.lad .lower tbl.lower) p rest)
    (hr : headOk ((if neg then "NOT" :: tbl.rangeToks else []) ++ "ESCAPE" :: Bp) rest)
    (hgl : gI tbl (some (true, likeOp neg)) l = g tbl l) (hgp : gI tbl (some (true, likeOp neg)) p = g tbl p) :
    Concl tbl T E .rspine (.like neg l p) rest := by
  have hesc : headIs rest "ESCAPE" = false := headIs_of_headOk (headOk_append_right hr) (List.mem_cons_self ..)
  refine concl_rspine_step hl (e' := .like false l p) (e'' := .like neg l p) ?_ ?_ (by rw [g_like, hgl, hgp])
    (by cases neg <;> simp [toks_likeOp])
  · cases neg <;> simp [toks_likeOp, headIs_cons, rangeStep, likeP, hp.bit_eq, hesc]
  · cases neg
    · simp [toks_likeOp, headIs_cons, finishNeg]
    · have hr1 : headOk ("NOT" :: tbl.rangeToks) rest := by simpa using headOk_append_left hr
      simp [toks_likeOp, headIs_cons, finishNeg, negateRange, wrapIfRangeFollows_id _ _ _ hr1]

theorem concl_bin {l r : Expr} {cls : String} (hlk : lookup lv (opTok tbl cls).ty = some cls)
    (hl : Concl tbl T E (.spine w lv post) l (opTok tbl cls :: (g tbl r ++ rest)))
    (hr : Concl tbl T E (.lad w post) r rest) : Concl tbl T E (.spine w lv post) (.bin cls l r) rest := by
  obtain ⟨k, hk, hl⟩ := hl
  obtain ⟨k', rfl, hk'⟩ := succ_fuel hk
  refine ⟨k', Nat.le_trans (by simp) hk', ?_⟩
  simp only [g_bin, List.append_assoc, List.cons_append]
  rw [hl]
  simp only [loopLv, hlk]
  rw [hr.lad_eq]

/-- re-entry: with one more unit of fuel the two entry points are the ladders over the entry points as they are -/
theorem Concl.reenter_top {n : Nat}
    (h : Concl tbl (parseF tbl n).1 (parseF tbl n).2 (.lad .outer tbl.outer) e rest) :
    (parseF tbl (n + 1)).1 (g tbl e ++ rest) = .ok (e, rest) := h

theorem Concl.reenter_eq {n : Nat}
    (h : Concl tbl (parseF tbl n).1 (parseF tbl n).2 (.lad .mid tbl.mid) e rest) :
    (parseF tbl (n + 1)).2 (g tbl e ++ rest) = .ok (e, rest) := h

theorem itemsP_parseF (tbl : Tables) (m : Nat) (items : List Expr) (Bof : Expr → List String) (hne : items ≠ [])
    (rest : Toks) (hB : ∀ x ∈ items, "COMMA" ∉ Bof x ∧ "R_PAREN" ∉ Bof x) (hd : (gList tbl items).length ≤ m)
    (ih : ∀ x ∈ items, ∀ n, (g tbl x).length ≤ n → ∀ rest, headOk (Bof x) rest →
      Concl tbl (parseF tbl n).1 (parseF tbl n).2 (.lad .outer tbl.outer) x rest) :
    itemsP (parseF tbl (m + 1)).1 (gList tbl items ++ ⟨"R_PAREN", ")"⟩ :: rest).length
      (gList tbl items ++ ⟨"R_PAREN", ")"⟩ :: rest) = .ok (items, rest) := by
  apply itemsP_gList tbl _ items hne rest
  · intro x hx t r htr
    have hok : headOk (Bof x) (t :: r) := by
      simp only [headOk]
      rcases htr with h | h <;> rw [h]
      · exact (hB x hx).1
      · exact (hB x hx).2
    exact (ih x hx m (Nat.le_trans (length_g_le_gList tbl hx) hd) (t :: r) hok).reenter_top
  · rw [List.length_append, List.length_cons]
    exact Nat.le_trans (length_le_gList_succ tbl items) (Nat.succ_le_succ (Nat.le_add_right ..))

/-- fuel that covers a printed form covers each part of it -/
theorem fuel_left {a b : Toks} {n : Nat} (h : (a ++ b).length ≤ n) : a.length ≤ n :=
  Nat.le_trans (List.length_append ▸ Nat.le_add_right ..) h

theorem fuel_right {a b : Toks} {n : Nat} (h : (a ++ b).length ≤ n) : b.length ≤ n :=
  Nat.le_trans (List.length_append ▸ Nat.le_add_left ..) h

theorem fuel_tail {t : Tok} {a : Toks} {n : Nat} (h : (t :: a).length ≤ n) : a.length ≤ n :=
  Nat.le_of_succ_le h

end

theorem fits_concl (tbl : Tables) {pos : Pos} {B : List String} {e : Expr} (h : Fits tbl pos B e) :
    ∀ n, (g tbl e).length ≤ n → ∀ rest, headOk B rest → Concl tbl (parseF tbl n).1 (parseF tbl n).2 pos e rest := by
  induction h with
  | num s => intro n _ rest _; simp [Concl, g_num, unaryP, atomP]
  | str s =>
    intro n _ rest hr
    simp [Concl, g_str, unaryP, atomP, headIs_of_headOk hr (ty := "STRING") (by simp [unaryBlocked])]
  | null => intro n _ rest _; simp [Concl, g_null, unaryP, atomP]
  | bool b => intro n _ rest _; cases b <;> simp [Concl, g_bool, unaryP, atomP]
  | col p ps hlen => intro n _ rest hr; exact concl_col p hlen hr
  | paren _ hrp ih =>
    intro n hn rest _
    rw [g_paren] at hn
    obtain ⟨m, rfl, hm⟩ := succ_fuel hn
    exact concl_paren (ih m (fuel_left hm) (⟨"R_PAREN", ")"⟩ :: rest) hrp).reenter_top
  | neg _ ih =>
    intro n hn rest hr
    rw [g_neg] at hn
    exact concl_neg (ih n (fuel_tail hn) rest hr)
  | bnot _ ih =>
    intro n hn rest hr
    rw [g_bnot] at hn
    exact concl_bnot (ih n (fuel_tail hn) rest hr)
  | not _ ih =>
    intro n hn rest hr
    rw [g_not] at hn
    obtain ⟨m, rfl, hm⟩ := succ_fuel hn
    exact concl_not (ih m hm rest hr).reenter_eq
  | baseLower _ ih => exact ih
  | baseMid _ ih => exact ih
  | baseOuter _ ih => exact ih
  | func0 name =>
    intro n _ rest _
    simp [Concl, g_func, gList_nil, unaryP, atomP, headIs]
  | func name args Bof hne hfit hB ih =>
    intro n hn rest hr
    rw [g_func] at hn
    obtain ⟨m, rfl, hm⟩ := succ_fuel hn
    exact concl_call (gList_startsItem tbl args hne fun x hx => g_startsItem tbl (hfit x hx))
      (itemsP_parseF tbl m args Bof hne rest hB (fuel_left (fuel_tail hm)) ih)
  | rOperand _ ih => intro n hn rest hr; exact (ih n hn rest hr).rspine_of_lower
  | rIsNull neg _ his hnn hgi ih =>
    intro n hn rest _
    rw [g_isNull, hgi] at hn
    exact concl_isNull neg (ih n (fuel_left hn) _ (by cases neg <;> simpa [toks_isOp, headOk] using his)) hnn hgi
  | rIn items Bof _ hin hne _ hB ihl ih =>
    intro n hn rest _
    rw [g_inList] at hn
    obtain ⟨m, rfl, hm⟩ := succ_fuel (fuel_right hn)
    exact concl_in (ihl (m + 1) (fuel_left hn) _ hin)
      (itemsP_parseF tbl m items Bof hne rest hB (fuel_left (fuel_tail hm)) ih)
  | rBetween _ hbt hflo hand hsym _ ihl ihlo ihhi =>
    intro n hn rest hr
    rw [g_between] at hn
    have hn2 := fuel_tail (fuel_right hn)
    exact concl_between (ihl n (fuel_left hn) _ hbt) (ihlo n (fuel_left hn2) _ hand)
      (ihhi n (fuel_tail (fuel_right hn2)) rest hr)
      (g_startsItem tbl hflo).ne_nil hsym
  | rLike neg _ hlk hnt _ hgl hgp ihl ihp =>
    intro n hn rest hr
    rw [g_like, hgl, hgp] at hn
    exact concl_like neg (ihl n (fuel_left hn) _ (by cases neg <;> simp [toks_likeOp, headOk, hlk, hnt]))
      (ihp n (fuel_right (fuel_right hn)) rest
        (headOk_of_subset (fun _ h => List.mem_append_right _ (List.mem_cons_of_mem _ h)) hr))
      hr hgl hgp
  | rangeLift _ ih =>
    intro n hn rest hr
    exact (ih n hn rest (headOk_append_right hr)).range_of_rspine (headOk_append_left hr)
  | ladLift _ ih =>
    intro n hn rest hr
    exact (ih n hn rest (headOk_append_right hr)).lad_of_spine (headOk_append_left hr)
  | spineOperand _ ih => intro n hn rest hr; exact (ih n hn rest hr).spine_of_lad
  | spineBin cls tok txt _ hlk hop hnot _ ihl ihr =>
    intro n hn rest hr
    rw [g_bin] at hn
    exact concl_bin (by rw [hop]; exact hlk) (ihl n (fuel_left hn) _ (by rw [hop]; exact hnot))
      (ihr n (fuel_tail (fuel_right hn)) rest hr)

theorem parse_fits (tbl : Tables) {B : List String} {e : Expr}
    (h : Fits tbl (.lad .outer tbl.outer) B e) (rest : Toks) (hr : headOk B rest) :
    parse tbl (g tbl e ++ rest) = .ok (e, rest) :=
  (fits_concl tbl h _ (by rw [List.length_append]; exact Nat.le_add_right ..) rest hr).reenter_top

end SqlglotModel.ParseGen
