/-
  C01 — which trees are faithful (`Fits`) for a given table.  A derivation is built from the constructors of `Fits` for
  the node at hand and the lifting lemmas here, which move a tree up to the entry point the next constructor wants while
  the blocked set collects the operator tokens of the loops passed (`ladB`): `atomLower` (from `.unary`), `liftTop` (from
  the top of the lower ladder), `liftTopR` (from `.rspine`), `atom_fits_top`; what the lifted set holds, for the premises
  `"R_PAREN" ∉ B` / `"COMMA" ∉ B` of `Fits.paren`, `Fits.func`, `Fits.rIn`, is `mem_topB`.  A left-nested chain of an
  operator is faithful when some level lists the operator and no tighter level claims its token (`opPlaced`,
  `chain_fits_top`).
  So the decidable `tablesOk` (the parser run on one sample chain per operator) follows from `tablesPlaced` (look-ups only).
-/
import SqlglotModel.Proofs.ParseGen

namespace SqlglotModel.ParseGen
open SqlglotModel.Expr SqlglotModel.Parse SqlglotModel.Gen

/-- blocked set after lifting through the loops of `lvs` -/
def ladB : List Level → List String → List String
  | [], B => B
  | lv :: post, B => levelToks lv ++ ladB post B

/-- from the bottom of ladder `w` to the entry in front of the levels `lvs`: each loop passed is left at a token it does
    not list -/
theorem liftLad (tbl : Tables) (w : Which) (lvs : List Level) {B : List String} {e : Expr}
    (h : Fits tbl (.lad w []) B e) : Fits tbl (.lad w lvs) (ladB lvs B) e := by
  induction lvs with
  | nil => exact h
  | cons lv post ih => exact .ladLift (.spineOperand ih)

/-- from the predicate chain of `_parse_range` (`R`: `.rspine`) to the top of the grammar: out of the range loop, then up
    the middle and the outer ladder -/
theorem liftTopR (tbl : Tables) {B : List String} {e : Expr} (h : Fits tbl .rspine B e) :
    Fits tbl (.lad .outer tbl.outer) (ladB tbl.outer (ladB tbl.mid (rangeBlocked tbl ++ B))) e :=
  liftLad tbl .outer tbl.outer (.baseOuter (liftLad tbl .mid tbl.mid (.baseMid (.rangeLift h))))

/-- the same from the top of the lower ladder: a tree without range predicate is an operand of `_parse_range` -/
theorem liftTop (tbl : Tables) {B : List String} {e : Expr} (h : Fits tbl (.lad .lower tbl.lower) B e) :
    Fits tbl (.lad .outer tbl.outer) (ladB tbl.outer (ladB tbl.mid (rangeBlocked tbl ++ B))) e :=
  liftTopR tbl (.rOperand h)

/-- from `_parse_unary` to the top of the lower ladder -/
theorem atomLower (tbl : Tables) {B : List String} {e : Expr} (h : Fits tbl .unary B e) :
    Fits tbl (.lad .lower tbl.lower) (ladB tbl.lower B) e :=
  liftLad tbl .lower tbl.lower (.baseLower h)

/-- what must not follow an atom, seen from the top of the grammar -/
def fullB (tbl : Tables) : List String :=
  ladB tbl.outer (ladB tbl.mid (rangeBlocked tbl ++ ladB tbl.lower unaryBlocked))

/-- an atom (or parenthesised expression, or call) as a whole expression, list item or argument -/
theorem atom_fits_top (tbl : Tables) {x : Expr} (h : Fits tbl .unary unaryBlocked x) :
    Fits tbl (.lad .outer tbl.outer) (fullB tbl) x :=
  liftTop tbl (atomLower tbl h)

/-- some level of the ladder lists `tok ↦ cls`, and `tok` is claimed neither by a tighter level nor by `B0`, the set
    blocked behind an operand at the bottom of the ladder -/
def opPlaced (B0 : List String) (tok cls : String) : List Level → Bool
  | [] => false
  | lv :: post => (lookup lv tok == some cls && !(ladB post B0).contains tok) || opPlaced B0 tok cls post

/-- a left-nested chain `x OP y₁ OP y₂ …` on the spine of the level that lists `OP` -/
theorem spine_chain (tbl : Tables) {w : Which} {lv : Level} {post : List Level} {B : List String}
    {cls tok txt : String} (hlk : lookup lv tok = some cls) (hop : opTok tbl cls = ⟨tok, txt⟩) (hnot : tok ∉ B)
    {ys : List Expr} (hys : ∀ y ∈ ys, Fits tbl (.lad w post) B y) :
    ∀ {x}, Fits tbl (.spine w lv post) B x → Fits tbl (.spine w lv post) B (ys.foldl (.bin cls) x) := by
  induction ys with
  | nil => exact id
  | cons y ys ih =>
    intro x hx
    exact ih (fun z hz => hys z (List.mem_cons_of_mem _ hz))
      (.spineBin cls tok txt hx hlk hop hnot (hys y (List.mem_cons_self ..)))

/-- a chain whose operands all sit at the bottom of ladder `w` is faithful at the entry in front of any levels among
    which the operator is placed: the operands are lifted to just below the level that lists it.  Operands from a
    tighter level of the same ladder (`a + b * c` without parentheses) are not reached this way, only by `spine_chain` -/
theorem chain_fits (tbl : Tables) (w : Which) {B0 : List String} {cls tok txt : String}
    (hop : opTok tbl cls = ⟨tok, txt⟩) {x : Expr} {ys : List Expr} (hx : Fits tbl (.lad w []) B0 x)
    (hys : ∀ y ∈ ys, Fits tbl (.lad w []) B0 y) :
    ∀ lvs, opPlaced B0 tok cls lvs = true → Fits tbl (.lad w lvs) (ladB lvs B0) (ys.foldl (.bin cls) x) := by
  intro lvs
  induction lvs with
  | nil => intro h; cases h
  | cons lv post ih =>
    intro h
    simp only [opPlaced, Bool.or_eq_true, Bool.and_eq_true, beq_iff_eq, Bool.not_eq_true',
      List.contains_eq_mem, decide_eq_false_iff_not] at h
    rcases h with ⟨hlk, hnot⟩ | h
    · exact .ladLift (spine_chain tbl hlk hop hnot (fun y hy => liftLad tbl w post (hys y hy))
        (.spineOperand (liftLad tbl w post hx)))
    · exact .ladLift (.spineOperand (ih h))

/-- the operator of `cls` is placed in one of the three ladders; the first argument of `opPlaced` is what `fullB` has
    below the ladder in question.  (Its token is bound by matching on the table entry, so
    that the kernel works with the literal and shares the ladder walks between tables with equal ladders.) -/
def opOk (tbl : Tables) (cls : String) : Bool :=
  match lookup3 tbl.genOps cls with
  | some (tok, _) =>
    opPlaced (ladB tbl.mid (rangeBlocked tbl ++ ladB tbl.lower unaryBlocked)) tok cls tbl.outer
    || opPlaced (rangeBlocked tbl ++ ladB tbl.lower unaryBlocked) tok cls tbl.mid
    || opPlaced unaryBlocked tok cls tbl.lower
  | none => false

/-- chains of a placed operator over atoms (or parenthesised expressions) are faithful trees -/
theorem chain_fits_top (tbl : Tables) {cls : String} (h : opOk tbl cls = true) {x : Expr} {ys : List Expr}
    (hx : Fits tbl .unary unaryBlocked x) (hys : ∀ y ∈ ys, Fits tbl .unary unaryBlocked y) :
    Fits tbl (.lad .outer tbl.outer) (fullB tbl) (ys.foldl (.bin cls) x) := by
  have mid {x} (hx : Fits tbl .unary unaryBlocked x) : Fits tbl (.lad .mid []) _ x :=
    .baseMid (.rangeLift (.rOperand (atomLower tbl hx)))
  cases hl : lookup3 tbl.genOps cls with
  | none => simp [opOk, hl] at h
  | some p =>
    have hop : opTok tbl cls = ⟨p.1, p.2⟩ := by simp only [opTok, hl]
    simp only [opOk, hl, Bool.or_eq_true] at h
    rcases h with (h | h) | h
    · exact chain_fits tbl .outer hop (.baseOuter (liftLad tbl .mid tbl.mid (mid hx)))
        (fun y hy => .baseOuter (liftLad tbl .mid tbl.mid (mid (hys y hy)))) _ h
    · exact liftLad tbl .outer tbl.outer (.baseOuter (chain_fits tbl .mid hop (mid hx) (fun y hy => mid (hys y hy)) _ h))
    · exact liftTop tbl (chain_fits tbl .lower hop (.baseLower hx) (fun y hy => .baseLower (hys y hy)) _ h)

/-- S-expression of a complete parse (`none` unless every token was consumed) -/
def parseSexp (tbl : Tables) (ts : Toks) : Option String :=
  match parse tbl ts with
  | .ok (e, []) => some (sexp e)
  | _ => none

/-- parse, print, re-parse: (tree, printed text, tree of the re-parse) -/
def roundTrip (tbl : Tables) (ts : Toks) : Option (String × String × Option String) :=
  match parse tbl ts with
  | .ok (e, []) => some (sexp e, sql tbl e, parseSexp tbl (g tbl e))
  | _ => none

def sampleA : Expr := .col [("a", false)]
def sampleB : Expr := .col [("t", false), ("b", true)]
def sampleC : Expr := .num "1"

/-- for one operator class: `a OP t."b" OP (a OP 1)` printed and re-parsed gives the same tree -/
def opRoundTrips (tbl : Tables) (cls : String) : Bool :=
  parseSexp tbl (g tbl (.bin cls (.bin cls sampleA sampleB) (.paren (.bin cls sampleA sampleC))))
    == some (sexp (.bin cls (.bin cls sampleA sampleB) (.paren (.bin cls sampleA sampleC))))

def allLevelToks (tbl : Tables) : List String :=
  (tbl.outer ++ tbl.mid ++ tbl.lower).flatMap levelToks

/-- decidable table conditions: every operator text of `genOps` re-parses to its own class at its own level
    (a finite decision table, decided completely per generated table), and the closing tokens of the grammar are
    not operators -/
def tablesOk (tbl : Tables) : Bool :=
  tbl.genOps.all (fun op => opRoundTrips tbl op.1)
  && !(allLevelToks tbl ++ rangeBlocked tbl ++ unaryBlocked).contains "R_PAREN"
  && !(allLevelToks tbl ++ rangeBlocked tbl ++ unaryBlocked).contains "COMMA"

theorem mem_ladB {x : String} {lvs : List Level} {B : List String} (h : x ∈ ladB lvs B) :
    x ∈ lvs.flatMap levelToks ∨ x ∈ B := by
  induction lvs with
  | nil => exact .inr h
  | cons lv post ih =>
    simp only [ladB, List.mem_append, List.flatMap_cons] at h ⊢
    rcases h with h | h
    · exact .inl (.inl h)
    · exact (ih h).imp_left .inr

/-- what `liftTopR` / `liftTop` block above a tree that blocks `B`: operator tokens of the two upper ladders, the range
    tokens, and `B` itself -/
theorem mem_topB {tbl : Tables} {x : String} {B : List String}
    (h : x ∈ ladB tbl.outer (ladB tbl.mid (rangeBlocked tbl ++ B))) :
    x ∈ allLevelToks tbl ++ rangeBlocked tbl ++ unaryBlocked ∨ x ∈ B := by
  simp only [allLevelToks, List.flatMap_append, List.mem_append]
  rcases mem_ladB h with h | h
  · exact .inl (.inl (.inl (.inl (.inl h))))
  rcases mem_ladB h with h | h
  · exact .inl (.inl (.inl (.inl (.inr h))))
  rcases List.mem_append.mp h with h | h
  · exact .inl (.inl (.inr h))
  · exact .inr h

/-- the form in which `tablesOk` and `tablesPlaced` say that a token is no operator -/
theorem not_mem_fullB {tbl : Tables} {x : String}
    (h : (!(allLevelToks tbl ++ rangeBlocked tbl ++ unaryBlocked).contains x) = true) : x ∉ fullB tbl := by
  simp only [Bool.not_eq_true', List.contains_eq_mem, decide_eq_false_iff_not] at h
  intro hm
  rcases mem_topB hm with hm | hm
  · exact h hm
  simp only [allLevelToks, List.flatMap_append, List.mem_append] at h
  rcases mem_ladB hm with hm | hm
  · exact h (.inl (.inl (.inr hm)))
  · exact h (.inr hm)

/-- why `tablesOk` looks at `)` and `,`: they may follow an atom, so parentheses and argument lists can close -/
theorem closers_not_blocked {tbl : Tables} (h : tablesOk tbl = true) : "COMMA" ∉ fullB tbl ∧ "R_PAREN" ∉ fullB tbl := by
  simp only [tablesOk, Bool.and_eq_true] at h
  exact ⟨not_mem_fullB h.2, not_mem_fullB h.1.2⟩

/-- the sample of `tablesOk` for a placed operator is a faithful tree, so it re-parses to itself -/
theorem opRoundTrips_of_opOk (tbl : Tables) (cls : String) (h : opOk tbl cls = true) (hp : "R_PAREN" ∉ fullB tbl) :
    opRoundTrips tbl cls = true := by
  have hA : Fits tbl .unary unaryBlocked sampleA := .col _ _ (by decide)
  have hin := chain_fits_top tbl h hA (ys := [sampleC]) (List.forall_mem_singleton.mpr (.num "1"))
  have hS := chain_fits_top tbl h hA (ys := [sampleB, .paren (.bin cls sampleA sampleC)])
    (List.forall_mem_cons.mpr ⟨.col _ _ (by decide), List.forall_mem_singleton.mpr (.paren hin hp)⟩)
  have := parse_fits tbl hS [] trivial
  simp only [List.append_nil, List.foldl] at this
  simp [opRoundTrips, parseSexp, this]

/-- `tablesOk` with the parser runs on the samples replaced by the placement of each operator (table look-ups only) -/
def tablesPlaced (tbl : Tables) : Bool :=
  tbl.genOps.all (fun op => opOk tbl op.1)
  && !(allLevelToks tbl ++ rangeBlocked tbl ++ unaryBlocked).contains "R_PAREN"
  && !(allLevelToks tbl ++ rangeBlocked tbl ++ unaryBlocked).contains "COMMA"

theorem tablesOk_of_placed (tbl : Tables) (h : tablesPlaced tbl = true) : tablesOk tbl = true := by
  simp only [tablesPlaced, tablesOk, Bool.and_eq_true, List.all_eq_true] at h ⊢
  obtain ⟨⟨hops, hrp⟩, hcomma⟩ := h
  exact ⟨⟨fun op hop => opRoundTrips_of_opOk tbl op.1 (hops op hop) (not_mem_fullB hrp), hrp⟩, hcomma⟩

end SqlglotModel.ParseGen
