/-
  C07 — the whitespace helpers of generator.py (Model/Pretty.lean): `stripWs` (the text without its whitespace) commutes
  with each helper, so `indent` / `sep` / `wrap` / `expressions` only add or remove whitespace; the two comma styles of
  `expressions` give the same text before any whitespace is looked at.  Then `maybeComment_append` (comments are
  appended behind the text, whatever it is), `renderDoc` (the C01 printer's pieces with each soft break rendered as
  given whitespace), and at the end what Properties/C07.lean takes as given: the tactic for its witnesses on character
  lists and the two audited allow-lists.  The sentinel is in Proofs/PrettySentinel.lean.
-/
import SqlglotModel.Model.Pretty
import SqlglotModel.Model.Gen

namespace SqlglotModel.Pretty

theorem stripWs_append (a b : Str) : stripWs (a ++ b) = stripWs a ++ stripWs b := by
  simp [stripWs]

theorem stripWs_lstrip (l : Str) : stripWs (lstrip l) = stripWs l := by
  induction l with
  | nil => rfl
  | cons c cs ih =>
    cases h : isWs c
    · simp [lstrip, List.dropWhile, h]
    · simpa [lstrip, List.dropWhile, stripWs, h] using ih

theorem stripWs_reverse (l : Str) : stripWs l.reverse = (stripWs l).reverse := by
  simp [stripWs, List.filter_reverse]

theorem stripWs_rstrip (l : Str) : stripWs (rstrip l) = stripWs l := by
  simp [rstrip, stripWs_reverse, stripWs_lstrip]

theorem stripWs_strip (l : Str) : stripWs (strip l) = stripWs l := by
  simp [strip, stripWs_rstrip, stripWs_lstrip]

theorem stripWs_spaces (n : Nat) : stripWs (spaces n) = [] := by
  induction n with
  | zero => rfl
  | succ k ih => simp [spaces, List.replicate_succ, stripWs, isWs] at ih ⊢

theorem splitNl_ne_nil (s : Str) : splitNl s ≠ [] := by
  cases s with
  | nil => simp [splitNl]
  | cons c cs =>
    simp only [splitNl]
    split
    · simp
    · split <;> simp

theorem joinNl_splitNl (s : Str) : joinNl (splitNl s) = s := by
  induction s with
  | nil => rfl
  | cons c cs ih =>
    obtain ⟨l, ls, hs⟩ := List.exists_cons_of_ne_nil (splitNl_ne_nil cs)
    rw [hs] at ih
    rw [splitNl, hs]
    split
    · rename_i h; simp [joinNl, ih, h]
    · cases ls <;> simpa [joinNl] using ih

/-- joined by newlines or by nothing, lines leave their own whitespace-free contents one after the other -/
theorem stripWs_joinNl (ls : List Str) : stripWs (joinNl ls) = ls.flatMap stripWs := by
  induction ls with
  | nil => rfl
  | cons l rest ih =>
    cases rest with
    | nil => simp [joinNl]
    | cons m ms =>
      rw [joinNl, stripWs_append, List.flatMap_cons, ← ih]
      simp [stripWs, isWs]

theorem stripWs_joinAll (ls : List Str) : stripWs (joinAll ls) = ls.flatMap stripWs := by
  induction ls with
  | nil => rfl
  | cons l rest ih => rw [joinAll, stripWs_append, ih, List.flatMap_cons]

theorem flatMap_stripWs_indentAux (w : Nat) (sf sl : Bool) (first : Bool) (ls : List Str) :
    (indentAux w sf sl first ls).flatMap stripWs = ls.flatMap stripWs := by
  induction ls generalizing first with
  | nil => rfl
  | cons l rest ih =>
    cases rest with
    | nil =>
      simp only [indentAux, List.flatMap_cons]
      split <;> simp [stripWs_append, stripWs_spaces]
    | cons m ms =>
      simp only [indentAux, List.flatMap_cons]
      rw [ih false]
      split <;> simp [stripWs_append, stripWs_spaces]

theorem stripWs_indent (o : Opts) (sql : Str) (level : Nat) (pad : Option Nat) (sf sl : Bool) :
    stripWs (indent o sql level pad sf sl) = stripWs sql := by
  simp only [indent]
  split
  · rfl
  · rw [stripWs_joinNl, flatMap_stripWs_indentAux, ← stripWs_joinNl, joinNl_splitNl]

theorem stripWs_sep (o : Opts) (s : Str) : stripWs (sep o s) = stripWs s := by
  simp only [sep]
  split
  · rw [stripWs_append, stripWs_strip]
    simp [stripWs, isWs]
  · rfl

theorem stripWs_seg (o : Opts) (sql s : Str) : stripWs (seg o sql s) = stripWs s ++ stripWs sql := by
  rw [seg, stripWs_append, stripWs_sep]

theorem stripWs_wrap (o : Opts) (sql : Str) : stripWs (wrap o sql) = '(' :: (stripWs sql ++ [')']) := by
  rw [wrap]
  split
  · next h => rw [List.isEmpty_iff.mp h]; rfl
  · rw [← List.singleton_append]
    simp only [stripWs_append, stripWs_sep, stripWs_indent, stripWs_seg]
    rfl

/-- the two comma styles attach the separator to different items and give the same text: concatenated, the items are
    the prefixed items separated by the separator (a leading-comma item that is not the first brings its separator along) -/
theorem joinAll_exprItems (o : Opts) (sepS pre : Str) (items : List Str) (hne : ∀ s ∈ items, s ≠ []) :
    ∀ i n, i + items.length = n → joinAll (exprItems o sepS pre n i items)
      = (if (o.pretty && o.leadingComma) = true ∧ 0 < i ∧ items ≠ [] then sepS else [])
        ++ intercalateS sepS (items.map (pre ++ ·)) := by
  induction items with
  | nil => intro i n _; simp [exprItems, joinAll, intercalateS]
  | cons s rest ih =>
    intro i n hn
    have hs : s.isEmpty = false := by simpa using hne s (List.mem_cons_self ..)
    simp only [List.length_cons] at hn
    rw [exprItems, hs, if_neg Bool.false_ne_true, joinAll,
      ih (fun x hx => hne x (List.mem_cons_of_mem _ hx)) (i + 1) n ((Nat.add_right_comm ..).trans hn)]
    cases h : (o.pretty && o.leadingComma)
    · cases rest with
      | nil => simp [intercalateS, show ¬ i + 1 < n from hn ▸ Nat.lt_irrefl _]
      | cons t ts =>
        simp [intercalateS, show i + 1 < n from hn ▸ Nat.add_lt_add_left (Nat.succ_lt_succ (Nat.succ_pos _)) i]
    · cases rest <;> by_cases hi : 0 < i <;> simp [intercalateS, hi]

theorem stripWs_expressions_nonflat (o : Opts) (items : List Str) (hne : ∀ s ∈ items, s ≠ []) (hi : items ≠ [])
    (doIndent sf sl : Bool) (sepS pre : Str) (dynamic newLine : Bool) :
    stripWs (expressions o items false doIndent sf sl sepS pre dynamic newLine)
      = stripWs (intercalateS sepS (items.map (pre ++ ·))) := by
  have hfl : (exprItems o sepS pre items.length 0 items).flatMap stripWs
      = stripWs (intercalateS sepS (items.map (pre ++ ·))) := by
    rw [← stripWs_joinAll, joinAll_exprItems o sepS pre items hne 0 items.length (Nat.zero_add _)]; simp
  have hie : items.isEmpty = false := by cases items <;> simp_all
  have hind : ∀ x, stripWs (if doIndent then indent o x 0 none sf sl else x) = stripWs x := by
    intro x; split
    · exact stripWs_indent ..
    · rfl
  simp only [expressions, hie, Bool.false_eq_true, if_false, hind]
  generalize exprItems o sepS pre items.length 0 items = rs at hfl ⊢
  split
  · rw [stripWs_joinNl, List.flatMap_map]
    simp only [stripWs_rstrip]
    split
    · -- the empty first and last line add nothing
      rw [List.flatMap_append, List.flatMap_append, hfl]
      exact List.append_nil _
    · exact hfl
  · rw [stripWs_joinAll, hfl]

/-- with comments on, `maybe_comment` appends to the text what it makes of the empty text: the comments never look at
    the text they follow (all that `embed_before_paren_comment_independent` rests on) -/
theorem maybeComment_append (o : Opts) (sql : Str) (cs : List Str) :
    maybeComment o true sql cs = sql ++ maybeComment o true [] cs := by
  simp only [maybeComment, Bool.not_true, Bool.false_eq_true, if_false]
  split <;> simp

/-- Doc rendering of the C01 printer's pieces: every soft break `sp` rendered as the whitespace string `ws i` -/
def renderDoc (tbl : SqlglotModel.Expr.Tables) (ws : Nat → Str) : Nat → List SqlglotModel.Gen.Piece → Str
  | _, [] => []
  | i, .t k :: ps => (SqlglotModel.Gen.printTok tbl k).toList ++ renderDoc tbl ws (i + 1) ps
  | i, .sp :: ps => ws i ++ renderDoc tbl ws (i + 1) ps

open SqlglotModel.Gen in
theorem stripWs_renderDoc (tbl : SqlglotModel.Expr.Tables) (ws : Nat → Str) (h : ∀ i, stripWs (ws i) = [])
    (ps : List Piece) (i : Nat) : stripWs (renderDoc tbl ws i ps) = stripWs (text tbl ps).toList := by
  induction ps generalizing i with
  | nil => rfl
  | cons p ps ih =>
    cases p with
    | t k => rw [renderDoc, text, String.toList_append, stripWs_append, stripWs_append, ih]
    | sp => rw [renderDoc, text, String.toList_append, stripWs_append, stripWs_append, ih, h]; rfl

/-- `decide +kernel` for witnesses written with `"…".toList`: the kernel is slow at decoding a string literal into its
    characters by evaluation, so every literal is first rewritten with `String.toList_ofList` (unification turns the
    literal into `String.ofList [chars]`, which the kernel accepts without decoding) -/
macro "decide_chars" : tactic => `(tactic| ((repeat rw [String.toList_ofList]); decide +kernel))

/-- AUDITED ALLOW-LIST: the generator methods that post-process rendered text with position-dependent string
    operations.  Operations marked `/nocomment` act on text rendered with `comment=False`, so no comment text can steer
    them (the translator derives the mark from the `comment=False` keyword of every rendering call feeding the value):
    `_embed_ignore_nulls` (drops the call's closing paren) and duckdb `withingroup_sql` (slices exactly one `)` off a
    comment-free render and re-attaches the comments; a `rstrip(")")` on a comment-bearing render would be steered by a
    comment ending in `)`).  The other `slice` sites
    (bitwisenot / withingroup / tsql) look at the first or last character of text they just produced; the strip / lstrip
    sites only trim whitespace.  A new site, or a new operation on an old site (e.g. `rfind` on text rendered WITH
    comments), is not on the list and breaks `generated_surgery_sites_audited`; all sites are exercised by the
    comment-structure sweep of the search stage. -/
def auditedSurgerySites : List (String × String × String) :=
  [("sqlglot/generator.py", "_embed_ignore_nulls", "slice/nocomment"),
   ("sqlglot/generator.py", "alter_sql", "lstrip"),
   ("sqlglot/generator.py", "bitwisenot_sql", "slice"),
   ("sqlglot/generator.py", "columnconstraint_sql", "strip"),
   ("sqlglot/generator.py", "conditionalinsert_sql", "slice"),
   ("sqlglot/generator.py", "conditionalinsert_sql", "strip"),
   ("sqlglot/generator.py", "filter_sql", "strip"),
   ("sqlglot/generator.py", "generate", "replace"),
   ("sqlglot/generator.py", "generate", "strip"),
   ("sqlglot/generator.py", "group_sql", "strip"),
   ("sqlglot/generator.py", "hint_sql", "strip"),
   ("sqlglot/generator.py", "jsonpath_sql", "lstrip"),
   ("sqlglot/generator.py", "lambda_sql", "split"),
   ("sqlglot/generator.py", "userdefinedfunction_sql", "strip"),
   ("sqlglot/generator.py", "withingroup_sql", "slice"),
   ("sqlglot/generators/clickhouse.py", "in_sql", "replace"),
   ("sqlglot/generators/duckdb.py", "bitwisenot_sql", "slice"),
   ("sqlglot/generators/duckdb.py", "withingroup_sql", "slice/nocomment"),
   ("sqlglot/generators/hive.py", "version_sql", "replace"),
   ("sqlglot/generators/oracle.py", "hint_sql", "strip"),
   ("sqlglot/generators/tsql.py", "_string_agg_sql", "slice"),
   ("sqlglot/generators/tsql.py", "create_sql", "replace"),
   ("sqlglot/generators/tsql.py", "createable_sql", "slice"),
   ("sqlglot/generators/tsql.py", "identifier_sql", "slice"),
   ("sqlglot/generators/tsql.py", "storedprocedure_sql", "strip")]

/-- AUDITED ALLOW-LIST: methods outside the whitespace helpers (sep / seg / indent / wrap / expressions /
    format_args / generate) whose rendering branches on `self.pretty`.  `values_sql` takes a structurally different path
    under pretty (VALUES table → UNION ALL subquery for dialects without VALUES-as-table); `case_sql` / `connector_sql`
    switch the separator when too wide; `create_sql` / `properties_sql` / `copy_sql` / `join_sql` add a separating space
    only in single-line mode; `datatype_sql` breaks nested types.  Each listed site has a corpus statement that reaches it
    on every run (line tracer, reported in the evidence) and is compared pretty-vs-default by the search stage. -/
def auditedPrettyBranches : List (String × String) :=
  [("sqlglot/generator.py", "case_sql"), ("sqlglot/generator.py", "connector_sql"), ("sqlglot/generator.py", "copy_sql"),
   ("sqlglot/generator.py", "create_sql"), ("sqlglot/generator.py", "datatype_sql"), ("sqlglot/generator.py", "join_sql"),
   ("sqlglot/generator.py", "properties_sql"), ("sqlglot/generator.py", "values_sql")]

end SqlglotModel.Pretty
