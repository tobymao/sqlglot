/-
  C07 — the line-break sentinel of `generate()` (Model/Pretty.lean).  `replace` is used through its two equations, its
  fuel only in `replaceF_fuel`; the round trip `replace_roundtrip` rests on these two alone.  `expand` with `replace_nl`
  and `length_le_expand` is the closed form of `replace` on newlines (what `replaceLineBreaks` computes under `pretty`),
  stated for its own sake: nothing below goes through it.  `NoOcc q s` says `q` does not occur in `s` (by definition
  the statement of the theorems of Properties/C07.lean: `h k` is "no occurrence at offset `k`"), and after the chain of
  `replace(p, "\n")` of `finishWith` over patterns (`Pattern`: non-empty, newline-free) no pattern of the chain occurs.
-/
import SqlglotModel.Model.Pretty

namespace SqlglotModel.Pretty

theorem isPrefix_append (p r : Str) : isPrefix p (p ++ r) = true := by
  induction p with
  | nil => rfl
  | cons a as ih => simp [isPrefix, ih]

/-- with a non-empty pattern every turn of `replaceF` shortens the text, so any fuel from its length on gives the same -/
theorem replaceF_fuel {pat : Str} (by_ : Str) (hne : pat ≠ []) :
    ∀ f g s, s.length ≤ f → s.length ≤ g → replaceF pat by_ f s = replaceF pat by_ g s := by
  intro f
  induction f with
  | zero =>
    intro g s hf _
    cases List.eq_nil_of_length_eq_zero (Nat.le_zero.mp hf)
    cases g <;> rfl
  | succ f ih =>
    intro g s hf hg
    cases s with
    | nil => cases g <;> rfl
    | cons c cs =>
      cases g with
      | zero => exact absurd hg (Nat.not_succ_le_zero _)
      | succ g =>
        have hd : ((c :: cs).drop pat.length).length ≤ cs.length := by
          cases pat with
          | nil => exact absurd rfl hne
          | cons _ _ => simp
        have hf := Nat.le_of_succ_le_succ hf
        have hg := Nat.le_of_succ_le_succ hg
        rw [replaceF, replaceF, ih g cs hf hg, ih g _ (Nat.le_trans hd hf) (Nat.le_trans hd hg)]

theorem replace_match {pat : Str} (by_ : Str) {s : Str} (hne : pat ≠ []) (h : isPrefix pat s = true) :
    replace pat by_ s = by_ ++ replace pat by_ (s.drop pat.length) := by
  cases s with
  | nil => cases pat <;> simp_all [isPrefix]
  | cons c cs =>
    rw [replace, List.length_cons, replaceF, if_pos h,
      replaceF_fuel by_ hne _ (((c :: cs).drop pat.length).length + 1) _ (by simp) (Nat.le_succ _), replace]

theorem replace_skip {pat : Str} (by_ : Str) {c : Char} {cs : Str} (h : isPrefix pat (c :: cs) = false) :
    replace pat by_ (c :: cs) = c :: replace pat by_ cs := by
  rw [replace, List.length_cons, replaceF, h, if_neg Bool.false_ne_true, replace]

/-- no character of the text can begin an occurrence of the pattern, so exactly the inserted ones are found -/
theorem replace_roundtrip (q0 : Char) (qt s : Str) (hs : q0 ∉ s) :
    replace (q0 :: qt) ['\n'] (replace ['\n'] (q0 :: qt) s) = s := by
  induction s with
  | nil => rfl
  | cons c cs ih =>
    have hcs := ih fun h => hs (List.mem_cons_of_mem _ h)
    have hc : q0 ≠ c := fun h => hs (h ▸ List.mem_cons_self ..)
    by_cases h : c = '\n'
    · rw [h, replace_match (pat := ['\n']) _ (List.cons_ne_nil _ _) (by simp [isPrefix]),
        replace_match _ (List.cons_ne_nil _ _) (isPrefix_append ..), List.drop_left]
      exact congrArg _ hcs
    · rw [replace_skip _ (by simp [isPrefix, Ne.symm h]), replace_skip _ (by simp [isPrefix, hc]), hcs]

/-- every newline replaced by the sentinel -/
def expand : Str → Str
  | [] => []
  | c :: cs => if c = '\n' then SENTINEL ++ expand cs else c :: expand cs

theorem replace_nl (s : Str) : replace ['\n'] SENTINEL s = expand s := by
  induction s with
  | nil => rfl
  | cons c cs ih =>
    rw [expand, ← ih]
    split
    · next h => rw [h]; exact replace_match _ (List.cons_ne_nil _ _) (by simp [isPrefix])
    · next h => exact replace_skip _ (by simp [isPrefix, Ne.symm h])

theorem length_le_expand (s : Str) : s.length ≤ (expand s).length := by
  induction s with
  | nil => simp [expand]
  | cons c cs ih =>
    rw [expand]
    split
    · rw [List.length_append]
      exact Nat.succ_le_of_lt (Nat.lt_of_le_of_lt ih (Nat.lt_add_of_pos_left (by decide)))
    · exact Nat.succ_le_succ ih

/-- what the chain of `finishWith` replaces: non-empty (so that `replace` advances) and free of the newline it is
    replaced by (so that a replacement cannot make an occurrence) -/
abbrev Pattern (q : Str) : Prop := q ≠ [] ∧ '\n' ∉ q

theorem isPrefix_nl {q : Str} (hq : Pattern q) (r : Str) : isPrefix q ('\n' :: r) = false := by
  cases q with
  | nil => exact absurd rfl hq.1
  | cons a as =>
    have : a ≠ '\n' := fun e => hq.2 (e ▸ List.mem_cons_self ..)
    simp [isPrefix, this]

/-- a newline-free prefix of the replaced text is a prefix of the input: it ends before the first newline that a
    replacement put in, and up to there the two texts are the same -/
theorem isPrefix_of_replace {pat : Str} (hne : pat ≠ []) {p : Str} (hp : '\n' ∉ p) :
    ∀ s, isPrefix p (replace pat ['\n'] s) = true → isPrefix p s = true := by
  induction p with
  | nil => intro s _; cases s <;> rfl
  | cons a p' ih =>
    intro s h
    cases s with
    | nil => exact h
    | cons c cs =>
      cases hm : isPrefix pat (c :: cs)
      · rw [replace_skip _ hm] at h
        simp only [isPrefix, Bool.and_eq_true] at h ⊢
        exact ⟨h.1, ih (fun e => hp (List.mem_cons_of_mem _ e)) cs h.2⟩
      · rw [replace_match _ hne hm, List.singleton_append, isPrefix_nl ⟨List.cons_ne_nil _ _, hp⟩] at h
        cases h

/-- no occurrence of `q` in `s` -/
def NoOcc (q s : Str) : Prop := ∀ k, isPrefix q (s.drop k) = false

theorem NoOcc.drop {q s : Str} (h : NoOcc q s) (n : Nat) : NoOcc q (s.drop n) := by
  intro k; rw [List.drop_drop]; exact h _

theorem noOcc_nil {q : Str} (hq : q ≠ []) : NoOcc q [] := by
  intro k
  cases q with
  | nil => exact absurd rfl hq
  | cons _ _ => rw [List.drop_nil]; rfl

theorem noOcc_cons {q : Str} {c : Char} {s : Str} :
    NoOcc q (c :: s) ↔ isPrefix q (c :: s) = false ∧ NoOcc q s :=
  ⟨fun h => ⟨h 0, fun k => h (k + 1)⟩, fun h k => by cases k with
    | zero => exact h.1
    | succ k => exact h.2 k⟩

/-- `s.replace(pat, "\n")` neither keeps nor creates an occurrence of a newline-free `q` that `s` did not have;
    for `q = pat` the hypothesis on `s` is not needed -/
theorem noOcc_replace {pat q : Str} (hne : pat ≠ []) (hq : Pattern q) (s : Str)
    (hs : q = pat ∨ NoOcc q s) : NoOcc q (replace pat ['\n'] s) := by
  -- along the scan; after an occurrence it goes on behind the pattern, so the induction is on a bound of the length
  suffices ∀ n s, s.length ≤ n → q = pat ∨ NoOcc q s → NoOcc q (replace pat ['\n'] s) from this _ s (Nat.le_refl _) hs
  intro n
  induction n with
  | zero => intro s hn _; cases List.eq_nil_of_length_eq_zero (Nat.le_zero.mp hn); exact noOcc_nil hq.1
  | succ n ih =>
    intro s hn hs
    cases s with
    | nil => exact noOcc_nil hq.1
    | cons c cs =>
      have hn := Nat.le_of_succ_le_succ hn
      cases hm : isPrefix pat (c :: cs)
      · -- no occurrence here: `c` is kept, and an occurrence of `q` starting at it would be one in the input
        rw [replace_skip _ hm]
        refine noOcc_cons.mpr ⟨?_, ih cs hn (hs.imp_right fun h => (noOcc_cons.mp h).2)⟩
        refine Bool.eq_false_iff.mpr fun hh => ?_
        have hpre := isPrefix_of_replace hne hq.2 (c :: cs) (by rw [replace_skip _ hm]; exact hh)
        rcases hs with heq | hno
        · rw [heq, hm] at hpre; cases hpre
        · rw [(noOcc_cons.mp hno).1] at hpre; cases hpre
      · -- an occurrence of the pattern: it becomes a newline, which `q` does not contain
        rw [replace_match _ hne hm]
        refine noOcc_cons.mpr ⟨isPrefix_nl hq _, ih _ ?_ (hs.imp_right fun h => h.drop _)⟩
        cases pat with
        | nil => exact absurd rfl hne
        | cons _ _ => exact Nat.le_trans (by simp) hn

/-- after a chain of `s = s.replace(p, "\n")` over patterns, no pattern of the chain occurs:
    its own replacement removes it, and the later ones cannot bring it back -/
theorem noOcc_foldl_replace {q : Str} (hq : Pattern q) (chain : List Str) (hc : ∀ p ∈ chain, Pattern p) :
    ∀ s, q ∈ chain ∨ NoOcc q s → NoOcc q (chain.foldl (fun acc p => replace p ['\n'] acc) s) := by
  induction chain with
  | nil => intro s h; exact h.resolve_left (by simp)
  | cons p ps ih =>
    intro s h
    have hp := (hc p (List.mem_cons_self ..)).1
    refine ih (fun x hx => hc x (List.mem_cons_of_mem _ hx)) _ ?_
    rcases h with h | h
    · rcases List.mem_cons.mp h with h | h
      · exact .inr (noOcc_replace hp hq s (.inl h))
      · exact .inl h
    · exact .inr (noOcc_replace hp hq s (.inr h))

theorem noOcc_finishWith (chain : List Str) (hc : ∀ p ∈ chain, Pattern p) (o : Opts) (hp : o.pretty = true)
    (sql : Str) {q : Str} (hq : q ∈ chain) : NoOcc q (finishWith chain o sql) := by
  rw [finishWith, if_pos hp]
  exact noOcc_foldl_replace (hc q hq) chain hc _ (.inl hq)

end SqlglotModel.Pretty
