/-
  C10, idempotence: every stage carries `ColOk` / `ProjOk`, so a first pass without USING / NATURAL joins establishes
  `ScopeInv` (`buildCore_inv`); under it every stage of the second pass is the identity (`buildCore_fixed`), and a
  qualified scope that satisfies it is a fixed point wherever it comes from (`qualifyScope_fixed_of_inv`).
-/
import SqlglotModel.Proofs.QualifyResolve
import SqlglotModel.Proofs.QualifyStars

namespace SqlglotModel.Qualify

variable {g : Gen} {σ : Schema} {outs : List (List String)} (env : Env)

theorem expandProjs_ProjOk (hd : hasDup (envNames env) = false) :
    ∀ (ps : List Proj) (m : AMap) (i : Nat), MapOk env m → (∀ p ∈ ps, ProjOk env p = true) →
      (∀ p ∈ (expandProjs env m i ps).1, ProjOk env p = true) ∧ MapOk env (expandProjs env m i ps).2 := by
  intro ps
  induction ps with
  | nil => exact fun _ _ hm _ => ⟨List.forall_mem_nil _, hm⟩
  | cons p rest ih =>
    intro m i hm hp
    obtain ⟨hp, hr⟩ := List.forall_mem_cons.mp hp
    cases p with
    | star t exc =>
      obtain ⟨h1, h2⟩ := ih m (i + 1) hm hr
      exact ⟨List.forall_mem_cons.mpr ⟨rfl, h1⟩, h2⟩
    | item e a =>
      have he : ColOk env (expand env m .plain .root e) = true := expand_ColOk env m .plain hd hm e .root hp
      cases a with
      | none =>
        obtain ⟨h1, h2⟩ := ih m (i + 1) hm hr
        exact ⟨List.forall_mem_cons.mpr ⟨he, h1⟩, h2⟩
      | some an =>
        obtain ⟨h1, h2⟩ := ih ((an, _, i + 1) :: m) (i + 1) (hm.cons he) hr
        exact ⟨List.forall_mem_cons.mpr ⟨he, h1⟩, h2⟩

theorem expandProjs_fixed (names : List String) :
    ∀ ps : List Proj, AllAliased ps → (∀ p ∈ ps, projVisible names p = true) → ∀ (m : AMap) (i : Nat),
      (expandProjs env m i ps).1 = ps := by
  refine AllAliased.induction (fun _ _ _ => rfl) fun e a ps _ ih hv m i => ?_
  obtain ⟨he, hr⟩ := List.forall_mem_cons.mp hv
  simp only [expandProjs, expand_fixed env m .plain names e .root he, ih hr]

theorem starCols_ProjOk (t : String) (exc cols : List String) (h : envCols env t = some cols) :
    ∀ q ∈ starCols t exc cols, ProjOk env q = true := by
  intro q hq
  simp only [starCols, List.mem_map, List.mem_filter] at hq
  obtain ⟨c, ⟨hc, _⟩, rfl⟩ := hq
  simp only [ProjOk, ColOk, colCheck, h, List.contains_eq_mem, hc, decide_true, Bool.or_true, Bool.true_or]

theorem starItems_ProjOk (hd : hasDup (envNames env) = false) (p : Proj) (hp : ProjOk env p = true) :
    ∀ q ∈ starItems env p, ProjOk env q = true := by
  intro q hq
  cases p with
  | item e a => cases List.mem_singleton.mp hq; exact hp
  | star t exc =>
    cases t with
    | none =>
      obtain ⟨e, he, hq⟩ := List.mem_flatMap.mp hq
      exact starCols_ProjOk env e.1 exc e.2 (envCols_of_mem e.1 e.2 env hd he) q hq
    | some t =>
      rw [starItems, colsOf] at hq
      cases hc : envCols env t with
      | none => rw [hc] at hq; cases hq
      | some cols => rw [hc] at hq; exact starCols_ProjOk env t exc cols hc q hq

theorem applyStars_ProjOk (hd : hasDup (envNames env) = false) (ps qs : List Proj)
    (hp : ∀ p ∈ ps, ProjOk env p = true) (h : applyStars env ps = .ok qs) : ∀ q ∈ qs, ProjOk env q = true := by
  rcases applyStars_ok_cases env h with rfl | rfl
  · exact hp
  · intro q hq
    obtain ⟨p, hp', hq⟩ := List.mem_flatMap.mp hq
    exact starItems_ProjOk env hd p (hp p hp') q hq

theorem qualifyOutputs_ProjOk (cn : Nat → String) :
    ∀ (ps : List Proj) (i : Nat) (outer : List String), (∀ p ∈ ps, ProjOk env p = true) →
      ∀ q ∈ qualifyOutputs cn i outer ps, ProjOk env q = true := by
  intro ps
  induction ps with
  | nil => exact fun _ _ _ => List.forall_mem_nil _
  | cons p rest ih =>
    intro i outer hp
    obtain ⟨hp, hr⟩ := List.forall_mem_cons.mp hp
    cases p with
    | star t exc => exact List.forall_mem_cons.mpr ⟨rfl, ih _ _ hr⟩
    | item e a => exact List.forall_mem_cons.mpr ⟨hp, ih _ _ hr⟩

theorem aliasedItem_mem {ps : List Proj} {o : Option Proj} {e : Expr} {a : String}
    (ho : ∀ p, o = some p → p ∈ ps) (h : aliasedItem o = some (e, a)) : Proj.item e (some a) ∈ ps := by
  unfold aliasedItem at h
  split at h
  · cases h; exact ho _ rfl
  · cases h

theorem projAt_mem {ps : List Proj} {k : Nat} {e : Expr} {a : String} (h : projAt ps k = some (e, a)) :
    Proj.item e (some a) ∈ ps := by
  unfold projAt at h
  split at h
  · exact aliasedItem_mem (fun p hp => List.mem_of_getLast? hp) h
  · exact aliasedItem_mem (fun p hp => List.mem_of_getElem? hp) h

theorem groupPos_notLit (ps : List Proj) (x : Expr) (h : isLit x = false) : groupPos ps x = .ok x := by
  cases x with
  | lit k => cases h
  | col _ _ | bin _ _ _ | paren _ | coalesce _ => rfl

theorem orderPos_notLit (ps : List Proj) (x : Expr) (h : isLit x = false) : orderPos ps x = .ok x := by
  cases x with
  | lit k => cases h
  | col _ _ | bin _ _ _ | paren _ | coalesce _ => rfl

theorem groupPos_ok_cases {ps : List Proj} {x y : Expr} (h : groupPos ps x = .ok y) :
    y = x ∨ (isLit y = false ∧ ∃ a, Proj.item y (some a) ∈ ps) := by
  cases x with
  | lit k =>
    simp only [groupPos, ite_error_ok_iff] at h
    split at h
    · rename_i e a hpa
      split at h <;> cases h.2
      · exact .inl rfl
      · exact .inr ⟨Bool.eq_false_iff.mpr ‹_›, a, projAt_mem hpa⟩
    · cases h.2
  | col _ _ | bin _ _ _ | paren _ | coalesce _ => cases h; exact .inl rfl

theorem orderPos_ok_cases {ps : List Proj} {x y : Expr} (h : orderPos ps x = .ok y) :
    (y = x ∧ isLit x = false) ∨ ∃ a, y = .col none a := by
  cases x with
  | lit k =>
    simp only [orderPos, ite_error_ok_iff] at h
    split at h <;> cases h.2
    exact .inr ⟨_, rfl⟩
  | col _ _ | bin _ _ _ | paren _ | coalesce _ => cases h; exact .inl ⟨rfl, rfl⟩

theorem groupPos_ColOk (ps : List Proj) (hp : ∀ p ∈ ps, ProjOk env p = true) (x y : Expr)
    (hx : ColOk env x = true) (h : groupPos ps x = .ok y) : ColOk env y = true := by
  rcases groupPos_ok_cases h with rfl | ⟨_, a, ha⟩
  · exact hx
  · exact hp _ ha

theorem groupPos_idem (ps : List Proj) (x y : Expr) (h : groupPos ps x = .ok y) : groupPos ps y = .ok y := by
  rcases groupPos_ok_cases h with rfl | ⟨hl, _⟩
  · exact h
  · exact groupPos_notLit ps y hl

theorem orderPos_ColOk_notLit (ps : List Proj) (x y : Expr)
    (hx : ColOk env x = true) (h : orderPos ps x = .ok y) : ColOk env y = true ∧ isLit y = false := by
  rcases orderPos_ok_cases h with ⟨rfl, hl⟩ | ⟨a, rfl⟩
  · exact ⟨hx, hl⟩
  · exact ⟨rfl, rfl⟩

theorem orderByAlias_ColOk_notLit (ps : List Proj) (x : Expr) (h : ColOk env x = true ∧ isLit x = false) :
    ColOk env (orderByAlias ps x) = true ∧ isLit (orderByAlias ps x) = false := by
  unfold orderByAlias
  split
  · exact ⟨rfl, rfl⟩
  · exact h

/-- no projection of a validated scope is a bare name, so an alias reference is never rewritten again -/
theorem lastAliasOf_bare (names : List String) (a : String) :
    ∀ ps : List Proj, (∀ p ∈ ps, projVisible names p = true) → lastAliasOf (.col none a) ps = none := by
  intro ps
  induction ps with
  | nil => intro _; rfl
  | cons p rest ih =>
    intro hv
    obtain ⟨hp, hr⟩ := List.forall_mem_cons.mp hv
    have hr := ih hr
    cases p with
    | star t exc => exact hr
    | item e al =>
      cases al with
      | none => exact hr
      | some al =>
        have hne : (e == Expr.col none a) = false := by
          rw [beq_eq_false_iff_ne]
          rintro rfl
          cases hp
        simp only [lastAliasOf, hr, hne, Bool.false_eq_true, if_false]

theorem orderByAlias_idem (names : List String) (ps : List Proj) (hv : ∀ p ∈ ps, projVisible names p = true)
    (x : Expr) : orderByAlias ps (orderByAlias ps x) = orderByAlias ps x := by
  unfold orderByAlias
  cases h : lastAliasOf x ps with
  | none => simp only [h]
  | some a => simp only [lastAliasOf_bare names a ps hv]

/-- a first pass without USING / NATURAL joins leaves `ColOk` everywhere and nothing for steps D–F to do -/
structure ScopeInv (env : Env) (s' : Scope) : Prop where
  projs : ∀ p ∈ s'.projs, ProjOk env p = true
  whr : ∀ e, s'.whr = some e → ColOk env e = true
  group : ∀ e ∈ s'.group, ColOk env e = true
  having : ∀ e, s'.having = some e → ColOk env e = true
  order : ∀ e ∈ s'.order, ColOk env e = true
  joins : ∀ j ∈ s'.joins, ∀ e, j.on = some e → ColOk env e = true
  groupFix : ∀ e ∈ s'.group, groupPos s'.projs e = .ok e
  orderNotLit : ∀ e ∈ s'.order, isLit e = false
  -- not the fixed point `orderByAlias s'.projs e = e` that the second pass needs: that (`orderByAlias_idem`) wants every
  -- projection visible, which only `validate` tells, and the first pass establishes this invariant before it validates
  orderForm : s'.group = [] ∨ ∀ e ∈ s'.order, ∃ x, e = orderByAlias s'.projs x
  aliased : hasStar s'.projs = false → AllAliased s'.projs

/-- resolution changes nothing of a join but its condition, which then passes the test -/
theorem qcolJoin_on (env pre : Env) (hd : hasDup (envNames env) = false) (hsub : ∀ e ∈ pre, e ∈ env) (j0 j : Join)
    (h : qcolJoin env pre false (j0, false) = .ok j) :
    ∃ on', j = { j0 with on := on' } ∧ ∀ e, on' = some e → ColOk env e = true := by
  unfold qcolJoin at h
  split at h
  · rename_i hn
    cases h
    exact ⟨j0.on, rfl, fun e he => (nomatch hn.symm.trans he)⟩
  · rename_i e hn
    simp only [Bool.false_and, Bool.false_eq_true, if_false] at h
    split at h <;> simp only [bind_ok_iff, pure_ok_iff] at h <;> obtain ⟨e', he', rfl⟩ := h
    · exact ⟨some e', rfl, fun _ h => Option.some.inj h ▸ qcol_ColOk env [] hd e e' he'⟩
    · exact ⟨some e', rfl, fun _ h => Option.some.inj h ▸ qcolOn_ColOk env pre hd hsub e e' he'⟩

/-- so the joins keep their number and their USING / NATURAL marks -/
theorem qcolJoins_on (env jenv : Env) (hd : hasDup (envNames env) = false) (hsub : ∀ e ∈ jenv, e ∈ env) :
    ∀ (js0 joinsB : List Join) (i : Nat), qcolJoins env jenv false i (js0.map (fun j => (j, false))) = .ok joinsB →
      joinsB.length = js0.length ∧ hasMerge joinsB = hasMerge js0
      ∧ ∀ j ∈ joinsB, ∀ e, j.on = some e → ColOk env e = true := by
  intro js0
  induction js0 with
  | nil => rintro _ _ ⟨⟩; exact ⟨rfl, rfl, List.forall_mem_nil _⟩
  | cons j0 rest ih =>
    intro joinsB i h
    simp only [List.map, qcolJoins, bind_ok_iff, pure_ok_iff] at h
    obtain ⟨y, hy, ys, hys, rfl⟩ := h
    obtain ⟨on', rfl, hc⟩ := qcolJoin_on env _ hd (fun e he => hsub e (List.mem_of_mem_take he)) j0 y hy
    obtain ⟨h1, h2, h3⟩ := ih ys (i + 1) hys
    refine ⟨congrArg (· + 1) h1, ?_, List.forall_mem_cons.mpr ⟨hc, h3⟩⟩
    simp only [hasMerge, List.any_cons] at h2 ⊢
    rw [h2]

theorem buildCore_inv {env jenv : Env} {srcs' : List Src} {js0 : List Join} {skip : List String} {s s' : Scope}
    (hd : hasDup (envNames env) = false) (hsub : ∀ e ∈ jenv, e ∈ env)
    (h : buildCore g env jenv srcs' [] (js0.map (fun j => (j, false))) false skip s = .ok s') :
    ScopeInv env s' ∧ s'.joins.length = js0.length ∧ hasMerge s'.joins = hasMerge js0 := by
  obtain ⟨r, rfl⟩ := (buildCore_ok_iff ..).mp h
  obtain ⟨pC, mC⟩ := expandProjs_ProjOk env hd r.projsB [] 0 (MapOk.nil env)
    (mapE_forall r.hProjsB fun x y _ => qcolProj_ProjOk env hd x y)
  have hC : ∀ cl e, ColOk env e = true → ColOk env (expand env (expandProjs env [] 0 r.projsB).2 cl .root e) = true :=
    fun cl e => expand_ColOk env _ cl hd mC e .root
  obtain ⟨jLen, jMerge, jB⟩ := qcolJoins_on env jenv hd hsub js0 r.joinsB 0 r.hJoinsB
  have pE := qualifyOutputs_ProjOk env g.colName r.projsD 0 s.outer
    (applyStars_ProjOk env hd _ r.projsD pC r.hProjsD)
  have gF : ∀ e ∈ r.groupF, ColOk env e = true ∧ groupPos (qualifyOutputs g.colName 0 s.outer r.projsD) e = .ok e :=
    mapE_forall r.hGroupF fun x y hx hxy => by
      obtain ⟨x0, hx0, rfl⟩ := List.mem_map.mp hx
      have := hC .group x0 (mapE_forall r.hGroupB (fun x y _ => qcol_ColOk env [] hd x y) x0 hx0)
      exact ⟨groupPos_ColOk env _ pE _ y this hxy, groupPos_idem _ _ y hxy⟩
  have oF : ∀ e ∈ r.orderF, ColOk env e = true ∧ isLit e = false :=
    mapE_forall r.hOrderF fun x y hx hxy =>
      orderPos_ColOk_notLit env _ x y (mapE_forall r.hOrderB (fun x y _ => qcol_ColOk env _ hd x y) x hx) hxy
  have oF' : ∀ e ∈ (r.result srcs').order, ColOk env e = true ∧ isLit e = false := by
    rw [CoreStages.result]
    split
    · exact oF
    · exact List.forall_mem_map.mpr fun x hx => orderByAlias_ColOk_notLit env _ x (oF x hx)
  refine ⟨{
    projs := pE
    whr := fun e he => ?_
    group := fun e he => (gF e he).1
    having := fun e he => ?_
    order := fun e he => (oF' e he).1
    joins := jB
    groupFix := fun e he => (gF e he).2
    orderNotLit := fun e he => (oF' e he).2
    orderForm := ?_
    aliased := fun hs => qualifyOutputs_allAliased g.colName r.projsD 0 s.outer (hasStar_qualifyOutputs .. ▸ hs) },
    jLen, jMerge⟩
  · obtain ⟨w, hw, rfl⟩ := Option.map_eq_some_iff.mp he
    exact hC _ w (optE_forall r.hWhrB (fun x y _ => qcol_ColOk env [] hd x y) w hw)
  · obtain ⟨w, hw, rfl⟩ := Option.map_eq_some_iff.mp he
    exact hC _ w (optE_forall r.hHavingB (fun x y _ => qcolHaving_ColOk env x y) w hw)
  · simp only [CoreStages.result]
    cases r.groupF with
    | nil => exact .inl rfl
    | cons _ _ => exact .inr (List.forall_mem_map.mpr fun x _ => ⟨x, rfl⟩)

theorem visible_iff_having (names : List String) :
    ∀ e : Expr, visible names [] e = true ↔ visibleHaving names e = true ∧ noBare e = true := by
  intro e
  induction e with
  | col t n =>
    cases t with
    | none => exact ⟨fun h => (nomatch h), fun h => h.2⟩
    | some t => exact ⟨fun h => ⟨h, rfl⟩, fun h => h.1⟩
  | lit k => exact ⟨fun _ => ⟨rfl, rfl⟩, fun _ => rfl⟩
  | bin op l r ihl ihr =>
    simp only [visible, visibleHaving, noBare, Bool.and_eq_true, ihl, ihr]
    exact and_and_and_comm
  | paren e ih => exact ih
  | coalesce args => exact ⟨fun h => ⟨h, rfl⟩, fun h => h.1⟩

theorem qcolJoin_fixed (env pre : Env) (names : List String) (j : Join)
    (h : ∀ e, j.on = some e → ColOk env e = true ∧ visible names [] e = true) :
    qcolJoin env pre false (j, false) = .ok j := by
  unfold qcolJoin
  cases hon : j.on with
  | none => rfl
  | some e =>
    obtain ⟨hc, hv⟩ := h e hon
    simp only [Bool.false_and, Bool.false_eq_true, if_false, ((visible_iff_having names e).mp hv).2, if_true,
      qcol_fixed env names [] e hc hv]
    exact congrArg Except.ok (by rw [← hon])

theorem qcolJoins_fixed (env jenv : Env) (names : List String) :
    ∀ (l : List Join) (i : Nat), (∀ j ∈ l, ∀ e, j.on = some e → ColOk env e = true ∧ visible names [] e = true) →
      qcolJoins env jenv false i (l.map (fun j => (j, false))) = .ok l := by
  intro l
  induction l with
  | nil => intro _ _; rfl
  | cons j l ih =>
    intro i h
    obtain ⟨hj, hl⟩ := List.forall_mem_cons.mp h
    rw [List.map_cons, qcolJoins, qcolJoin_fixed env _ names j hj, ih (i + 1) hl]
    rfl

theorem buildCore_fixed (env jenv : Env) {names : List String} {s' : Scope}
    (hinv : ScopeInv env s') (hv : validate names s' = true) (hstar : hasStar s'.projs = false)
    (hh : ∀ e, s'.having = some e → visible names [] e = true) (ho : s'.outer = []) :
    buildCore g env jenv s'.srcs [] (s'.joins.map (fun j => (j, false))) false (namedSelects s'.projs) s' = .ok s' := by
  obtain ⟨vProjs, vWhr, vGroup, -, vOrder, vJoins⟩ := (validate_iff names s').mp hv
  have hAll := hinv.aliased hstar
  have hC : ∀ m cl e, visible names [] e = true → expand env m cl .root e = e :=
    fun m cl e => expand_fixed env m cl names e .root
  have hE : qualifyOutputs g.colName 0 s'.outer s'.projs = s'.projs := ho ▸ qualifyOutputs_fixed g.colName _ hAll 0
  refine (buildCore_ok_iff ..).mpr ⟨{
    projsB := s'.projs
    hProjsB := mapE_fixed _ _ fun p hp => ?_
    whrB := s'.whr
    hWhrB := optE_fixed _ _ fun x hx => qcol_fixed env names [] x (hinv.whr x hx) (vWhr x hx)
    groupB := s'.group
    hGroupB := mapE_fixed _ _ fun x hx => qcol_fixed env names [] x (hinv.group x hx) (vGroup x hx)
    havingB := s'.having
    hHavingB := optE_fixed _ _ fun x hx => qcolHaving_fixed env names x (hinv.having x hx) (hh x hx)
    orderB := s'.order
    hOrderB := mapE_fixed _ _ fun x hx => qcol_fixed env names _ x (hinv.order x hx) (vOrder x hx)
    joinsB := s'.joins
    hJoinsB := qcolJoins_fixed env jenv names _ 0 fun j hj e he => ⟨hinv.joins j hj e he, vJoins j hj e he⟩
    projsD := s'.projs
    hProjsD := ?_
    noStarOuter := hstar ▸ Bool.false_ne_true
    groupF := s'.group
    hGroupF := ?_
    orderF := s'.order
    hOrderF := ?_ }, ?_⟩
  · cases p with
    | star t exc => rfl
    | item e a => exact qcolProj_item_ok_iff.mpr ⟨e, qcol_fixed env names [] e (hinv.projs _ hp) (vProjs _ hp), rfl⟩
  · rw [expandProjs_fixed env names _ hAll vProjs, applyStarsU_nil]
    exact applyStars_fixed env _ hAll
  · rw [hE, map_fixed fun x hx => hC _ _ x (vGroup x hx)]
    exact mapE_fixed _ _ hinv.groupFix
  · rw [hE]
    exact mapE_fixed _ _ fun x hx => orderPos_notLit _ x (hinv.orderNotLit x hx)
  · have hO : (if s'.group.isEmpty then s'.order else s'.order.map (orderByAlias s'.projs)) = s'.order := by
      rcases hinv.orderForm with hg | hf
      · rw [hg]; rfl
      · split
        · rfl
        · refine map_fixed fun y hy => ?_
          obtain ⟨x, rfl⟩ := hf y hy
          exact orderByAlias_idem names _ vProjs x
    simp only [CoreStages.result]
    rw [hE, optMap_fixed fun x hx => hC _ _ x (vWhr x hx), optMap_fixed fun x hx => hC _ _ x (hh x hx), hO, ← ho]

/-- the premise of pipeline idempotence, stated on the RESULT of the first pass: its stars were expanded (not the
    "source with unknown / duplicate columns" abandonment) and no bare name is left under HAVING (the complement of
    known findings C10-having-bare-name-unvalidated / -not-idempotent) -/
def Resolved (s' : Scope) : Prop :=
  hasStar s'.projs = false ∧ ∀ e, s'.having = some e → noBare e = true

/-- a scope of the shape the first pass produces is a fixed point of qualification, wherever it comes from -/
theorem qualifyScope_fixed_of_inv {s' : Scope} {env0 : List (Bool × String × List String)}
    (hq : Qualified g σ outs env0 s') (hinv : ScopeInv (refOrder env0) s') (hr : Resolved s')
    (hm : hasMerge s'.joins = false) (hlen : s'.joins = [] ∨ s'.joins.length + 1 = s'.srcs.length) :
    qualifyScope g σ outs s' = .ok s' := by
  have hh : ∀ e, s'.having = some e → visible (envNames (refOrder env0)) [] e = true := fun e he =>
    (visible_iff_having _ e).mpr ⟨validate_having hq.valid he, hr.2 e he⟩
  refine (qualifyScope_ok_iff ..).mpr ⟨_, env0, hq.srcs, hq.nodup, ?_, hq.valid⟩
  exact (buildScope_noMerge_ok_iff _ _ _ s' s' hm).mpr ⟨hlen, buildCore_fixed _ _ hinv hq.valid hr.1 hh hq.outer⟩

theorem qualifyScope_fixed {s s' : Scope}
    (h : qualifyScope g σ outs s = .ok s') (hm : hasMerge s.joins = false) (hr : Resolved s') :
    qualifyScope g σ outs s' = .ok s' := by
  obtain ⟨env0, -, hb, hq⟩ := qualifyScope_run h
  obtain ⟨hfit, hb⟩ := (buildScope_noMerge_ok_iff _ _ _ s s' hm).mp hb
  obtain ⟨hinv, hlen, hmerge⟩ := buildCore_inv hq.nodup (joinEnv_sub env0) hb
  refine qualifyScope_fixed_of_inv hq hinv hr (hmerge.trans hm) (hfit.imp (fun h0 => ?_) fun h1 => hlen ▸ h1)
  exact List.eq_nil_of_length_eq_zero (hlen.trans (congrArg List.length h0))

theorem qualifyFrom_fixed :
    ∀ (q : List Scope) (outs : List (List String)) (q' : List Scope),
      qualifyFrom g σ outs q = .ok q' → (∀ s ∈ q, hasMerge s.joins = false) → (∀ s' ∈ q', Resolved s') →
      qualifyFrom g σ outs q' = .ok q' := by
  intro q
  induction q with
  | nil => rintro _ _ ⟨⟩ _ _; rfl
  | cons s rest ih =>
    intro outs q' h hm hr
    obtain ⟨s', hs', rest', hrest, rfl⟩ := qualifyFrom_cons_ok_iff.mp h
    obtain ⟨hm, hms⟩ := List.forall_mem_cons.mp hm
    obtain ⟨hr, hrs⟩ := List.forall_mem_cons.mp hr
    exact qualifyFrom_cons_ok_iff.mpr
      ⟨s', qualifyScope_fixed hs' hm hr, rest', ih _ rest' hrest hms hrs, rfl⟩

end SqlglotModel.Qualify
