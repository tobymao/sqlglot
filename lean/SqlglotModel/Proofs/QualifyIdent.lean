/-
  C10, around the identifier rules (the rules themselves: Proofs/Ident.lean): the `_normalize_name` memo is sound when its
  key holds every input the result depends on (`MemoOk`); a nested WITH of one branch is invisible in a later sibling when
  `Scope.branch` copies the mapping.
-/
import SqlglotModel.Model.Qualify

namespace SqlglotModel.Qualify
open SqlglotModel.Ident

/-- every entry answers correctly for EVERY call that maps to its key.  The argument is that of `Schema.MemoInv`
    (Proofs/SchemaMemo.lean, the table cache of C18) with `sameKey_sameNorm` as its `hstore`; the two memos differ in how
    they store (`::` here, `dictSet` there), so neither is an instance of the other -/
def MemoOk (hasRole : Bool) (f : CaseFns) (ts : Bool) (s : Strategy) (memo : NameMemo) : Prop :=
  ∀ e ∈ memo, ∀ k : NKey, memoKey hasRole k = e.1 → e.2 = normName f ts s k

theorem normName_role_insensitive (f : CaseFns) (s : Strategy) (n : String) (q a b : Bool) :
    normName f false s ⟨n, q, a⟩ = normName f false s ⟨n, q, b⟩ := rfl

theorem sameKey_sameNorm (hasRole : Bool) (f : CaseFns) (ts : Bool) (s : Strategy)
    (h : hasRole = true ∨ ts = false) (a b : NKey) (hk : memoKey hasRole a = memoKey hasRole b) :
    normName f ts s a = normName f ts s b := by
  obtain ⟨an, aq, at_⟩ := a
  obtain ⟨bn, bq, bt⟩ := b
  simp only [memoKey, Prod.mk.injEq] at hk
  obtain ⟨rfl, rfl, hr⟩ := hk
  rcases h with rfl | rfl
  · rw [Bool.true_and, Bool.true_and] at hr
    rw [hr]
  · exact normName_role_insensitive f s an aq at_ bt

theorem normMemo_sound (hasRole : Bool) (f : CaseFns) (ts : Bool) (s : Strategy) (h : hasRole = true ∨ ts = false)
    (memo : NameMemo) (hm : MemoOk hasRole f ts s memo) (k : NKey) :
    (normMemo hasRole f ts s memo k).1 = normName f ts s k ∧ MemoOk hasRole f ts s (normMemo hasRole f ts s memo k).2 := by
  unfold normMemo
  cases hl : memo.lookup (memoKey hasRole k) with
  | some v =>
    obtain ⟨l₁, l₂, rfl, _⟩ := List.lookup_eq_some_iff.mp hl
    exact ⟨hm _ (List.mem_append_right _ (.head _)) k rfl, hm⟩
  | none =>
    refine ⟨rfl, List.forall_mem_cons.mpr ⟨fun k' hk' => ?_, hm⟩⟩
    exact sameKey_sameNorm hasRole f ts s h k k' hk'.symm

theorem cbranch_copy (st : CState) (p : Nat) (extra : CteEnv) (ps : CScope) (hp : st.scopes[p]? = some ps) :
    cbranch true st p extra =
      { envs := st.envs ++ [extra ++ st.env ps.ref],
        scopes := st.scopes ++ [⟨st.envs.length, extra ++ st.env ps.ref⟩] } := by
  simp [cbranch, hp]

theorem cresolve_cbranch (st : CState) (p : Nat) (extra : CteEnv) (n : String) (ps : CScope)
    (hp : st.scopes[p]? = some ps) :
    cresolve (cbranch true st p extra) st.scopes.length n = (extra ++ st.env ps.ref).lookup n := by
  rw [cbranch_copy st p extra ps hp, cresolve, List.getElem?_concat_length]
  rfl

theorem cupdate_frame (st : CState) (s : Nat) (defs : CteEnv) (sc : CScope) (hs : st.scopes[s]? = some sc) :
    (cupdate st s defs).scopes.length = st.scopes.length
    ∧ (∀ p, p ≠ s → (cupdate st s defs).scopes[p]? = st.scopes[p]?)
    ∧ ∀ r, r ≠ sc.ref → (cupdate st s defs).env r = st.env r := by
  rw [cupdate, hs]
  refine ⟨List.length_set, fun p hp => List.getElem?_set_ne hp.symm, fun r hr => ?_⟩
  rw [CState.env, CState.env, List.getD_eq_getElem?_getD, List.getD_eq_getElem?_getD, List.getElem?_set_ne hr.symm]

theorem sibling_independent (st : CState) (p : Nat) (extra defs : CteEnv) (n : String) (ps : CScope)
    (hp : st.scopes[p]? = some ps) (href : ps.ref < st.envs.length) :
    cresolve (cbranch true (cupdate (cbranch true st p extra) st.scopes.length defs) p []) (st.scopes.length + 1) n
      = (st.env ps.ref).lookup n := by
  have hplt : p < st.scopes.length := (List.getElem?_eq_some_iff.mp hp).1
  have h1 := cbranch_copy st p extra ps hp
  generalize cbranch true st p extra = st1 at h1   -- `st1`: the inner scope is branched
  have hin : st1.scopes[st.scopes.length]? = some ⟨st.envs.length, extra ++ st.env ps.ref⟩ := by
    rw [h1]; exact List.getElem?_concat_length
  obtain ⟨hlen, hsc, henv⟩ := cupdate_frame st1 st.scopes.length defs _ hin
  generalize cupdate st1 st.scopes.length defs = st2 at hlen hsc henv   -- `st2`: its nested WITH is processed
  have hp2 : st2.scopes[p]? = some ps := by
    rw [hsc p (Nat.ne_of_lt hplt), h1]; exact (List.getElem?_append_left hplt).trans hp
  have hl2 : st2.scopes.length = st.scopes.length + 1 := by rw [hlen, h1]; exact List.length_append
  rw [← hl2, cresolve_cbranch st2 p [] n ps hp2, List.nil_append, henv ps.ref (Nat.ne_of_lt href), h1, CState.env, CState.env,
    List.getD_eq_getElem?_getD, List.getD_eq_getElem?_getD]
  exact congrArg (fun o => (o.getD []).lookup n) (List.getElem?_append_left href)

end SqlglotModel.Qualify
