/-
  C10, output names: the specification `expandSpec` / `nameAll` / `overlay` against what the pipeline produces
  (`buildCore_names`).  `expandSpec env` of the projection list is the one quantity that resolution, alias expansion
  (unless the head of an unaliased projection is a bare name that resolves to no source: `NamesStable`) and star
  expansion (`expandSpec_starItems`) leave as it is; `qualify_outputs` reads the names off it (`qualifyOutputs_names`).
-/
import SqlglotModel.Proofs.QualifyResolve
import SqlglotModel.Proofs.QualifyStars

namespace SqlglotModel.Qualify

variable {g : Gen} (env : Env)

def nameOpt (c : String) : Option String := if c == "" then none else some c

/-- SPEC: the optional output names of a projection list, stars replaced by their sources' columns -/
def expandSpec (env : Env) : List Proj → List (Option String)
  | [] => []
  | .star none exc :: ps => (env.flatMap (fun e => (e.2.filter (fun c => !exc.contains c)).map nameOpt)) ++ expandSpec env ps
  | .star (some t) exc :: ps => (((colsOf env t).filter (fun c => !exc.contains c)).map nameOpt) ++ expandSpec env ps
  | .item _ (some a) :: ps => some a :: expandSpec env ps
  | .item e none :: ps => nameOpt (exprName e) :: expandSpec env ps

/-- SPEC: anonymous positions are called `_col_i` -/
def nameAll (cn : Nat → String) : Nat → List (Option String) → List String
  | _, [] => []
  | i, some n :: l => n :: nameAll cn (i + 1) l
  | i, none :: l => cn i :: nameAll cn (i + 1) l

/-- SPEC: an outer column list (CTE / derived-table alias columns) overrides position by position -/
def overlay : List String → List String → List String
  | _, [] => []
  | [], ns => ns
  | o :: os, _ :: ns => o :: overlay os ns

/-- the name-giving head of an unaliased projection, if it is a bare name, resolves to a source -/
def headResolves (env : Env) : Expr → Bool
  | .col none n => (unique env n).isSome
  | .paren e => headResolves env e
  | _ => true

def NamesStable (env : Env) (ps : List Proj) : Prop := ∀ e, Proj.item e none ∈ ps → headResolves env e = true

theorem expandSpec_item (e : Expr) (a : Option String) (ps : List Proj) :
    expandSpec env (.item e a :: ps) = a.or (nameOpt (exprName e)) :: expandSpec env ps := by
  cases a <;> rfl

theorem nameAll_cons (cn : Nat → String) (i : Nat) (o : Option String) (l : List (Option String)) :
    nameAll cn i (o :: l) = o.getD (cn i) :: nameAll cn (i + 1) l := by cases o <;> rfl

@[simp] theorem overlay_nil (l : List String) : overlay [] l = l := by cases l <;> rfl

theorem overlay_cons (outer : List String) (n : String) (ns : List String) :
    overlay outer (n :: ns) = outer.head?.getD n :: overlay outer.tail ns := by cases outer <;> simp [overlay]

theorem outAlias_eq (cn : Nat → String) (i : Nat) (e : Expr) :
    outAlias cn i e = (nameOpt (exprName e)).getD (cn i) := by
  unfold outAlias nameOpt
  split <;> rfl

/-- what `qualify_outputs` calls a star-free projection list, whatever the sources -/
theorem qualifyOutputs_names (cn : Nat → String) :
    ∀ (ps : List Proj) (i : Nat) (outer : List String), hasStar ps = false →
      outNames (qualifyOutputs cn i outer ps) = overlay outer (nameAll cn i (expandSpec env ps)) := by
  intro ps
  induction ps with
  | nil => intro _ outer _; cases outer <;> rfl
  | cons p rest ih =>
    intro i outer h
    cases p with
    | star t exc => cases h
    | item e a =>
      rw [qualifyOutputs_item, expandSpec_item, nameAll_cons, overlay_cons, Option.getD_or, ← outAlias_eq,
        ← ih (i + 1) outer.tail h]
      rfl

theorem expandSpec_append (a b : List Proj) : expandSpec env (a ++ b) = expandSpec env a ++ expandSpec env b := by
  induction a with
  | nil => rfl
  | cons p rest ih =>
    cases p with
    | star t exc => cases t <;> simp [expandSpec, ih]
    | item e al => cases al <;> simp [expandSpec, ih]

theorem expandSpec_starCols (t : String) (exc cols : List String) :
    expandSpec env (starCols t exc cols) = (cols.filter (fun c => !exc.contains c)).map nameOpt := by
  unfold starCols
  induction cols.filter (fun c => !exc.contains c) with
  | nil => rfl
  | cons c cs ih => simp [expandSpec, exprName, ih]

theorem expandSpec_tables (exc : List String) : ∀ l : Env,
    expandSpec env (l.flatMap fun e => starCols e.1 exc e.2)
      = l.flatMap fun e => (e.2.filter fun c => !exc.contains c).map nameOpt := by
  intro l
  induction l with
  | nil => rfl
  | cons e l ih => rw [List.flatMap_cons, List.flatMap_cons, expandSpec_append, expandSpec_starCols, ih]

/-- the specification does not see whether the stars have been expanded -/
theorem expandSpec_starItems : ∀ ps : List Proj, expandSpec env (ps.flatMap (starItems env)) = expandSpec env ps := by
  intro ps
  induction ps with
  | nil => rfl
  | cons p rest ih =>
    rw [List.flatMap_cons, expandSpec_append, ih]
    cases p with
    | item e a => cases a <;> rfl
    | star t exc =>
      cases t with
      | some t => rw [expandSpec, starItems, expandSpec_starCols]
      | none => rw [expandSpec, starItems, expandSpec_tables]

theorem applyStars_names (ps qs : List Proj) (h : applyStars env ps = .ok qs) : expandSpec env qs = expandSpec env ps := by
  rcases applyStars_ok_cases env h with rfl | rfl
  · rfl
  · exact expandSpec_starItems env ps

theorem bindBare_name (n : String) : exprName (bindBare env n) = n := by
  unfold bindBare
  split <;> rfl

theorem bindBare_head :
    ∀ (e : Expr) (ctx : Ctx), headResolves env e = true → headBare (substBare (fun _ => bindBare env) ctx e) = false := by
  intro e
  induction e with
  | col t n =>
    intro ctx h
    cases t with
    | some t => rfl
    | none =>
      simp only [substBare, bindBare]
      split
      · rfl
      · rw [headResolves, ‹unique env n = none›] at h
        cases h
  | paren e ih => exact fun _ h => ih .paren h
  | lit _ | bin _ _ _ | coalesce _ => intro _ _; rfl

theorem qcol_name (e e' : Expr) (h : qcol env [] e = .ok e') :
    exprName e' = exprName e ∧ (headResolves env e = true → headBare e' = false) := by
  obtain ⟨-, rfl⟩ := resolveWith_ok_iff.mp (qcol_eq env [] e ▸ h)
  exact ⟨substBare_name _ e .root fun _ _ n => bindBare_name env n, bindBare_head env e .root⟩

theorem expand_name (m : AMap) (cl : Clause) (e : Expr) (ctx : Ctx) (h : headBare e = false) :
    exprName (expand env m cl ctx e) = exprName e :=
  expand_eq env m cl e ctx ▸ substBare_name _ e ctx fun hb => nomatch h.symm.trans hb

theorem qcolProjs_expandSpec :
    ∀ (ps psB : List Proj), mapE (qcolProj env) ps = .ok psB → NamesStable env ps →
      expandSpec env psB = expandSpec env ps ∧ (∀ e, Proj.item e none ∈ psB → headBare e = false) := by
  intro ps
  induction ps with
  | nil => rintro _ ⟨⟩ _; exact ⟨rfl, fun _ h => nomatch h⟩
  | cons p rest ih =>
    intro psB h hst
    simp only [mapE, bind_ok_iff, pure_ok_iff] at h
    obtain ⟨q, hq, qs, hqs, rfl⟩ := h
    obtain ⟨h1, h2⟩ := ih qs hqs (fun e he => hst e (.tail _ he))
    cases p with
    | star t exc =>
      cases hq
      exact ⟨by cases t <;> simp only [expandSpec, h1], fun e he => h2 e (by simpa using he)⟩
    | item e a =>
      obtain ⟨e', he', rfl⟩ := qcolProj_item_ok_iff.mp hq
      obtain ⟨hn, hb⟩ := qcol_name env e e' he'
      cases a with
      | some a => exact ⟨by simp only [expandSpec, h1], fun x hx => h2 x (by simpa using hx)⟩
      | none =>
        refine ⟨by simp only [expandSpec, h1, hn], fun x hx => ?_⟩
        rcases List.mem_cons.mp hx with hx | hx
        · cases hx; exact hb (hst e (.head _))
        · exact h2 x hx

theorem expandProjs_expandSpec :
    ∀ (ps : List Proj) (m : AMap) (i : Nat), (∀ e, Proj.item e none ∈ ps → headBare e = false) →
      expandSpec env (expandProjs env m i ps).1 = expandSpec env ps := by
  intro ps
  induction ps with
  | nil => intro _ _ _; rfl
  | cons p rest ih =>
    intro m i hb
    have ih := fun m => ih m (i + 1) fun e he => hb e (.tail _ he)
    cases p with
    | star t exc => cases t <;> simp only [expandProjs, expandSpec, ih]
    | item e a =>
      cases a with
      | some a => simp only [expandProjs, expandSpec, ih]
      | none => simp only [expandProjs, expandSpec, ih, expand_name env m .plain e .root (hb e (.head _))]

theorem buildCore_names {env jenv : Env} {srcs' : List Src} {jgs : List (Join × Bool)} {replaced : Bool}
    {skip : List String} {s s' : Scope} (h : buildCore g env jenv srcs' [] jgs replaced skip s = .ok s')
    (hstar : hasStar s'.projs = false) (hst : NamesStable env s.projs) :
    outNames s'.projs = overlay s.outer (nameAll g.colName 0 (expandSpec env s.projs)) := by
  obtain ⟨r, rfl⟩ := (buildCore_ok_iff ..).mp h
  rw [CoreStages.result, hasStar_qualifyOutputs] at hstar
  obtain ⟨hs1, hs2⟩ := qcolProjs_expandSpec env s.projs r.projsB r.hProjsB hst
  rw [CoreStages.result, qualifyOutputs_names env g.colName r.projsD 0 s.outer hstar,
    applyStars_names env _ r.projsD r.hProjsD, expandProjs_expandSpec env r.projsB [] 0 hs2, hs1]

end SqlglotModel.Qualify
