/-
  C10, column resolution and alias expansion: both are a substitution of bare names (`substBare`), resolution after the
  test `ColOk` (`resolveWith`: `qcol`, `qcolHaving` and `qcolOn` are instances), so that `ColOk`, the fixed point and the
  output name are proved once, for `substBare`.
-/
import SqlglotModel.Proofs.QualifyRun
import SqlglotModel.Proofs.List

namespace SqlglotModel.Qualify

variable (env : Env)

/-- every qualified column under `e` passes the `Unknown column` test -/
def ColOk (env : Env) : Expr → Bool
  | .col (some t) n => colCheck env t n
  | .col none _ => true
  | .lit _ => true
  | .bin _ l r => ColOk env l && ColOk env r
  | .paren e => ColOk env e
  | .coalesce args => args.all (fun a => colCheck env a.1 a.2)

def ProjOk (env : Env) : Proj → Bool
  | .star _ _ => true
  | .item e _ => ColOk env e

theorem nodup_of_hasDup : ∀ {l : List String}, hasDup l = false → l.Nodup
  | [], _ => List.nodup_nil
  | x :: xs, h => by
    obtain ⟨hx, hd⟩ := Bool.or_eq_false_iff.mp (show (xs.contains x || hasDup xs) = false from h)
    exact List.nodup_cons.mpr ⟨fun hm => Bool.eq_false_iff.mp hx (List.contains_iff_mem.mpr hm), nodup_of_hasDup hd⟩

theorem envCols_of_mem (t : String) (cols : List String) :
    ∀ env : Env, hasDup (envNames env) = false → (t, cols) ∈ env → envCols env t = some cols :=
  fun _ hd he => find?_fst_of_mem (nodup_of_hasDup hd) he

theorem unique_mem {env : Env} {n t : String} (h : unique env n = some t) :
    ∃ cols, (t, cols) ∈ env ∧ cols.contains n = true := by
  unfold unique at h
  split at h
  · rename_i e hf
    cases h
    have := List.mem_filter.mp (hf ▸ List.mem_singleton_self e)
    exact ⟨e.2, this.1, this.2⟩
  · cases h

/-- a bare name bound to the source that alone exposes it -/
def bindBare (env : Env) (n : String) : Expr :=
  match unique env n with
  | some t => .col (some t) n
  | none => .col none n

/-- the one traversal behind column resolution (`qcol`, `qcolHaving`, `qcolOn`) and alias expansion (`expand`): only bare
    names change, to what `f` says for the place they stand in -/
def substBare (f : Ctx → String → Expr) : Ctx → Expr → Expr
  | ctx, .col none n => f ctx n
  | _, .col (some t) n => .col (some t) n
  | _, .lit k => .lit k
  | _, .bin op l r => .bin op (substBare f (.op op) l) (substBare f (.op op) r)
  | _, .paren e => .paren (substBare f .paren e)
  | _, .coalesce args => .coalesce args

theorem expand_eq (m : AMap) (cl : Clause) :
    ∀ (e : Expr) (ctx : Ctx), expand env m cl ctx e = substBare (substCol env m cl) ctx e := by
  intro e
  induction e with
  | col t n => intro ctx; cases t <;> rfl
  | lit k => intro _; rfl
  | bin op l r ihl ihr => intro _; simp only [expand, substBare, ihl, ihr]
  | paren e ih => intro _; simp only [expand, substBare, ih]
  | coalesce args => intro _; rfl

/-- column resolution in closed form: every qualified column is put to the `Unknown column` test (every failure is the
    same error), then the bare names are rewritten by `bare` -/
def resolveWith (env : Env) (bare : String → Expr) (e : Expr) : Except Err Expr :=
  if ColOk env e then .ok (substBare (fun _ => bare) .root e) else .error .optimize

/-- `qcol`, `qcolHaving` and `qcolOn` obey the same six equations, and these determine the function -/
theorem resolver_eq (r : Expr → Except Err Expr) (bare : String → Expr)
    (hq : ∀ t n, r (.col (some t) n) = if colCheck env t n then .ok (.col (some t) n) else .error .optimize)
    (hb : ∀ n, r (.col none n) = .ok (bare n)) (hl : ∀ k, r (.lit k) = .ok (.lit k))
    (hbin : ∀ op a b, r (.bin op a b) = do let a' ← r a; let b' ← r b; pure (.bin op a' b'))
    (hp : ∀ a, r (.paren a) = do let a' ← r a; pure (.paren a'))
    (hc : ∀ args, r (.coalesce args) =
      if args.all (fun a => colCheck env a.1 a.2) then .ok (.coalesce args) else .error .optimize)
    (e : Expr) : r e = resolveWith env bare e := by
  suffices h : ∀ e ctx, r e = if ColOk env e then .ok (substBare (fun _ => bare) ctx e) else .error .optimize from h e .root
  intro e
  induction e with
  | col t n =>
    intro _
    cases t with
    | some t => exact hq t n
    | none => exact hb n
  | lit k => intro _; exact hl k
  | bin op a b iha ihb =>
    intro _
    -- `rw`, not `simp only`: the instance of the `if` must follow the unfolding of `ColOk` for the `cases` below
    rw [hbin, iha (.op op), ihb (.op op), ColOk, substBare]
    cases ColOk env a <;> cases ColOk env b <;> rfl
  | paren a ih =>
    intro _
    rw [hp, ih .paren, ColOk, substBare]
    cases ColOk env a <;> rfl
  | coalesce args => intro _; exact hc args

theorem qcol_eq (skip : List String) (e : Expr) :
    qcol env skip e = resolveWith env (fun n => if skip.contains n then .col none n else bindBare env n) e := by
  refine resolver_eq env (qcol env skip) _ (fun _ _ => rfl) (fun n => ?_) (fun _ => rfl) (fun _ _ _ => rfl) (fun _ => rfl)
    (fun _ => rfl) e
  simp only [qcol, bindBare]
  split
  · rfl
  · cases unique env n <;> rfl

theorem qcolHaving_eq (e : Expr) : qcolHaving env e = resolveWith env (.col none) e :=
  resolver_eq env (qcolHaving env) _ (fun _ _ => rfl) (fun _ => rfl) (fun _ => rfl) (fun _ _ _ => rfl) (fun _ => rfl)
    (fun _ => rfl) e

theorem qcolOn_eq (env pre : Env) (e : Expr) :
    qcolOn env pre e = resolveWith env (fun n => if (unique env n).isSome then bindBare env n else bindBare pre n) e := by
  refine resolver_eq env (qcolOn env pre) _ (fun _ _ => rfl) (fun n => ?_) (fun _ => rfl) (fun _ _ _ => rfl) (fun _ => rfl)
    (fun _ => rfl) e
  simp only [qcolOn, bindBare]
  cases unique env n with
  | some t => rfl
  | none => cases unique pre n <;> rfl

theorem qcolOn_prefix (env pre : Env) (n t : String) (hu : unique env n = none)
    (h : qcolOn env pre (.col none n) = .ok (.col (some t) n)) :
    ∃ cols, (t, cols) ∈ pre ∧ cols.contains n = true := by
  simp only [qcolOn, hu] at h
  split at h
  · cases h
    exact unique_mem ‹_›
  · cases h

theorem substBare_ColOk (f : Ctx → String → Expr) (hf : ∀ ctx n, ColOk env (f ctx n) = true) :
    ∀ (e : Expr) (ctx : Ctx), ColOk env e = true → ColOk env (substBare f ctx e) = true := by
  intro e
  induction e with
  | col t n =>
    intro ctx h
    cases t with
    | some t => exact h
    | none => exact hf ctx n
  | lit k => intro _ _; rfl
  | bin op l r ihl ihr =>
    intro ctx h
    simp only [ColOk, Bool.and_eq_true] at h
    simp only [substBare, ColOk, ihl _ h.1, ihr _ h.2, Bool.and_self]
  | paren e ih => exact fun _ h => ih _ h
  | coalesce args => exact fun _ h => h

theorem substBare_fixed (f : Ctx → String → Expr) (names skip : List String)
    (hf : ∀ ctx n, skip.contains n = true → f ctx n = .col none n) :
    ∀ (e : Expr) (ctx : Ctx), visible names skip e = true → substBare f ctx e = e := by
  intro e
  induction e with
  | col t n =>
    intro ctx h
    cases t with
    | none => exact hf ctx n h
    | some t => rfl
  | lit k => intro _ _; rfl
  | bin op l r ihl ihr =>
    intro ctx h
    simp only [visible, Bool.and_eq_true] at h
    simp only [substBare, ihl _ h.1, ihr _ h.2]
  | paren e ih =>
    intro ctx h
    simp only [substBare, ih _ h]
  | coalesce args => intro _ _; rfl

/-- the name-giving head of an expression (the expression itself, through parentheses) is a bare name; whether that name
    finds a source is `headResolves` (QualifyNames) -/
def headBare : Expr → Bool
  | .col none _ => true
  | .paren e => headBare e
  | _ => false

/-- the output name is read off the head of an expression (through parentheses): it survives unless the head is a bare
    name that `f` renames -/
theorem substBare_name (f : Ctx → String → Expr) :
    ∀ (e : Expr) (ctx : Ctx), (headBare e = true → ∀ ctx n, exprName (f ctx n) = n) →
      exprName (substBare f ctx e) = exprName e := by
  intro e
  induction e with
  | col t n =>
    intro ctx h
    cases t with
    | some t => rfl
    | none => exact h rfl ctx n
  | paren e ih => exact fun _ h => ih .paren h
  | lit _ | bin _ _ _ | coalesce _ => intro _ _; rfl

theorem bindBare_ColOk (env pre : Env) (hd : hasDup (envNames env) = false) (hsub : ∀ e ∈ pre, e ∈ env) (n : String) :
    ColOk env (bindBare pre n) = true := by
  unfold bindBare
  split
  · obtain ⟨cols, he, hc⟩ := unique_mem ‹_›
    simp only [ColOk, colCheck, envCols_of_mem _ cols env hd (hsub _ he), hc, Bool.or_true, Bool.true_or]
  · rfl

theorem resolveWith_ok_iff {env : Env} {bare : String → Expr} {e e' : Expr} :
    resolveWith env bare e = .ok e' ↔ ColOk env e = true ∧ substBare (fun _ => bare) .root e = e' :=
  ite_ok_error_iff

theorem resolveWith_ColOk (bare : String → Expr) (hb : ∀ n, ColOk env (bare n) = true) {e e' : Expr}
    (h : resolveWith env bare e = .ok e') : ColOk env e' = true := by
  obtain ⟨hc, rfl⟩ := resolveWith_ok_iff.mp h
  exact substBare_ColOk env _ (fun _ => hb) e .root hc

theorem resolveWith_fixed (bare : String → Expr) (names skip : List String)
    (hb : ∀ n, skip.contains n = true → bare n = .col none n) {e : Expr} (hc : ColOk env e = true)
    (hv : visible names skip e = true) : resolveWith env bare e = .ok e :=
  resolveWith_ok_iff.mpr ⟨hc, substBare_fixed _ names skip (fun _ => hb) e .root hv⟩

theorem qcol_ColOk (skip : List String) (hd : hasDup (envNames env) = false) (e e' : Expr)
    (h : qcol env skip e = .ok e') : ColOk env e' = true := by
  refine resolveWith_ColOk env _ (fun n => ?_) (qcol_eq env skip e ▸ h)
  split
  · rfl
  · exact bindBare_ColOk env env hd (fun _ h => h) n

theorem qcolHaving_ColOk (e e' : Expr) (h : qcolHaving env e = .ok e') : ColOk env e' = true :=
  resolveWith_ColOk env _ (fun _ => rfl) (qcolHaving_eq env e ▸ h)

theorem qcolOn_ColOk (env pre : Env) (hd : hasDup (envNames env) = false) (hsub : ∀ e ∈ pre, e ∈ env) (e e' : Expr)
    (h : qcolOn env pre e = .ok e') : ColOk env e' = true := by
  refine resolveWith_ColOk env _ (fun n => ?_) (qcolOn_eq env pre e ▸ h)
  split
  · exact bindBare_ColOk env env hd (fun _ h => h) n
  · exact bindBare_ColOk env pre hd hsub n

theorem qcolProj_item_ok_iff {env : Env} {e : Expr} {a : Option String} {q : Proj} :
    qcolProj env (.item e a) = .ok q ↔ ∃ e', qcol env [] e = .ok e' ∧ .item e' a = q := by
  simp only [qcolProj, bind_ok_iff, pure_ok_iff]

theorem qcolProj_ProjOk (hd : hasDup (envNames env) = false) (p q : Proj)
    (h : qcolProj env p = .ok q) : ProjOk env q = true := by
  cases p with
  | star t exc => cases h; rfl
  | item e a =>
    obtain ⟨e', he, rfl⟩ := qcolProj_item_ok_iff.mp h
    exact qcol_ColOk env [] hd e e' he

theorem qcol_fixed (names skip : List String) (e : Expr) (hc : ColOk env e = true)
    (hv : visible names skip e = true) : qcol env skip e = .ok e :=
  qcol_eq env skip e ▸ resolveWith_fixed env _ names skip (fun _ h => if_pos h) hc hv

theorem qcolHaving_fixed (names : List String) (e : Expr) (hc : ColOk env e = true)
    (hv : visible names [] e = true) : qcolHaving env e = .ok e :=
  qcolHaving_eq env e ▸ resolveWith_fixed env _ names [] (fun _ _ => rfl) hc hv

theorem expand_fixed (m : AMap) (cl : Clause) (names : List String) (e : Expr) (ctx : Ctx)
    (h : visible names [] e = true) : expand env m cl ctx e = e :=
  (expand_eq env m cl e ctx).trans (substBare_fixed _ names [] (fun _ _ h => nomatch h) e ctx h)

/-- every expression an alias stands for passes the test -/
def MapOk (env : Env) (m : AMap) : Prop := ∀ x ∈ m, ColOk env x.2.1 = true

theorem MapOk.nil : MapOk env [] := List.forall_mem_nil _

theorem MapOk.cons {env : Env} {m : AMap} {a : String} {e : Expr} {i : Nat} (he : ColOk env e = true)
    (hm : MapOk env m) : MapOk env ((a, e, i) :: m) :=
  List.forall_mem_cons.mpr ⟨he, hm⟩

theorem MapOk.lookup {env : Env} {m : AMap} {n : String} {p : Expr × Nat} (hm : MapOk env m)
    (h : alookup m n = some p) : ColOk env p.1 = true :=
  hm (n, p) (mem_of_find?_fst h)

theorem ColOk_ite {c : Prop} [Decidable c] {a b : Expr} (ha : ColOk env a = true) (hb : ColOk env b = true) :
    ColOk env (if c then a else b) = true := by
  split <;> assumption

theorem substCol_none {m : AMap} {n : String} (h : alookup m n = none) (cl : Clause) (ctx : Ctx) :
    substCol env m cl ctx n = if cl == .having then bindBare env n else .col none n := by
  rw [substCol, h]
  rfl

theorem substCol_ColOk (m : AMap) (cl : Clause) (ctx : Ctx) (n : String)
    (hd : hasDup (envNames env) = false) (hm : MapOk env m) : ColOk env (substCol env m cl ctx n) = true := by
  cases hl : alookup m n with
  | none =>
    rw [substCol_none env hl]
    exact ColOk_ite env (bindBare_ColOk env env hd (fun _ h => h) n) rfl
  | some p =>
    have hae := hm.lookup hl
    rw [substCol, hl]
    exact ColOk_ite env (ColOk_ite env rfl rfl) (ColOk_ite env hae hae)

theorem expand_ColOk (m : AMap) (cl : Clause) (hd : hasDup (envNames env) = false) (hm : MapOk env m)
    (e : Expr) (ctx : Ctx) (h : ColOk env e = true) : ColOk env (expand env m cl ctx e) = true :=
  expand_eq env m cl e ctx ▸ substBare_ColOk env _ (fun ctx n => substCol_ColOk env m cl ctx n hd hm) e ctx h

end SqlglotModel.Qualify
