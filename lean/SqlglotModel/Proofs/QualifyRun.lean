/-
  C10, the scope model: the per-scope pipeline `qualifyScope` → `buildScope` → `buildCore` is a chain of `Except` binds,
  and each link is read backwards once (`…_ok_iff`: the run succeeds iff every stage does, with these intermediate
  values; those of `buildCore` are the record `CoreStages`).  What every successful run leaves behind is `Qualified`, and
  completeness (`Complete`) is read off it.
-/
import SqlglotModel.Model.Qualify

namespace SqlglotModel.Qualify

variable {g : Gen} {σ : Schema} {outs : List (List String)}

@[simp] theorem bind_ok_iff {ε α β} {x : Except ε α} {f : α → Except ε β} {b : β} :
    (x >>= f) = .ok b ↔ ∃ a, x = .ok a ∧ f a = .ok b := by
  cases x <;> simp [bind, Except.bind]

@[simp] theorem pure_ok_iff {ε α} {a b : α} : (pure a : Except ε α) = .ok b ↔ a = b := by
  simp [pure, Except.pure]

@[simp] theorem ite_error_ok_iff {ε α} {c : Prop} [Decidable c] {e : ε} {x : Except ε α} {a : α} :
    (if c then .error e else x) = .ok a ↔ ¬ c ∧ x = .ok a := by
  split <;> simp [*]

@[simp] theorem ite_ok_error_iff {ε α} {c : Prop} [Decidable c] {e : ε} {a b : α} :
    (if c then .ok a else .error e : Except ε α) = .ok b ↔ c ∧ a = b := by
  split <;> simp [*]

theorem mapE_forall {α β ε} {f : α → Except ε β} {P : β → Prop} {l : List α} {l' : List β}
    (h : mapE f l = .ok l') (hp : ∀ x y, x ∈ l → f x = .ok y → P y) : ∀ y ∈ l', P y := by
  induction l generalizing l' with
  | nil => cases h; exact List.forall_mem_nil _
  | cons x xs ih =>
    simp only [mapE, bind_ok_iff, pure_ok_iff] at h
    obtain ⟨y, hy, ys, hys, rfl⟩ := h
    exact List.forall_mem_cons.mpr ⟨hp x y (.head _) hy, ih hys fun a b ha => hp a b (.tail _ ha)⟩

theorem mapE_fixed {α ε} (f : α → Except ε α) :
    ∀ l : List α, (∀ x ∈ l, f x = .ok x) → mapE f l = .ok l := by
  intro l
  induction l with
  | nil => intro _; rfl
  | cons x xs ih =>
    intro h
    rw [mapE, h x (.head _), ih fun y hy => h y (.tail _ hy)]
    rfl

theorem optE_forall {α β ε} {f : α → Except ε β} {P : β → Prop} {o : Option α} {o' : Option β}
    (h : optE f o = .ok o') (hp : ∀ x y, o = some x → f x = .ok y → P y) : ∀ y, o' = some y → P y := by
  cases o with
  | none => cases h; intro _ h; cases h
  | some x =>
    simp only [optE, bind_ok_iff, pure_ok_iff] at h
    obtain ⟨y, hy, rfl⟩ := h
    rintro _ ⟨⟩
    exact hp x y rfl hy

theorem optE_fixed {α ε} (f : α → Except ε α) (o : Option α) (h : ∀ x, o = some x → f x = .ok x) :
    optE f o = .ok o := by
  cases o with
  | none => rfl
  | some x => rw [optE, h x rfl]; rfl

theorem optMap_fixed {α} {f : α → α} {o : Option α} (h : ∀ x, o = some x → f x = x) : o.map f = o := by
  cases o with
  | none => rfl
  | some x => simp [h x rfl]

theorem mkEnv_cons_some {s : Src} {rest : List Src}
    {r : List Src × List (Bool × String × List String)} :
    mkEnv g σ outs (s :: rest) = some r ↔
      ∃ a cols rs env, srcName g s = some a ∧ srcCols σ outs s = some cols ∧ mkEnv g σ outs rest = some (rs, env)
        ∧ ({ s with alias := some a } :: rs, (isDerived s, a, cols) :: env) = r := by
  rw [mkEnv]
  constructor
  · intro h
    split at h
    · rename_i a cols rs env h1 h2 h3
      cases h
      exact ⟨a, cols, rs, env, h1, h2, h3, rfl⟩
    · cases h
  · rintro ⟨a, cols, rs, env, h1, h2, h3, rfl⟩
    rw [h1, h2, h3]

/-- on its own output `qualify_tables` finds nothing to do -/
theorem mkEnv_fixed {srcs srcs' : List Src}
    {env0 : List (Bool × String × List String)} (h : mkEnv g σ outs srcs = some (srcs', env0)) :
    mkEnv g σ outs srcs' = some (srcs', env0) := by
  induction srcs generalizing srcs' env0 with
  | nil => cases h; rfl
  | cons s rest ih =>
    obtain ⟨a, cols, rs, env, -, hc, hr, ⟨⟩⟩ := mkEnv_cons_some.mp h
    exact mkEnv_cons_some.mpr ⟨a, cols, rs, env, rfl, hc, ih hr, rfl⟩

theorem mkEnv_aliases {srcs srcs' : List Src}
    {env0 : List (Bool × String × List String)} (h : mkEnv g σ outs srcs = some (srcs', env0)) :
    srcs'.map (·.alias) = env0.map (fun e => some e.2.1) := by
  induction srcs generalizing srcs' env0 with
  | nil => cases h; rfl
  | cons s rest ih =>
    obtain ⟨a, cols, rs, env, -, -, hr, ⟨⟩⟩ := mkEnv_cons_some.mp h
    exact congrArg (some a :: ·) (ih hr)

theorem mem_refOrder {l : List (Bool × String × List String)} {x : String × List String} :
    x ∈ refOrder l ↔ ∃ e ∈ l, e.2 = x := by
  simp only [refOrder, List.mem_append, List.mem_map, List.mem_filter]
  constructor
  · rintro (⟨e, ⟨he, _⟩, rfl⟩ | ⟨e, ⟨he, _⟩, rfl⟩) <;> exact ⟨e, he, rfl⟩
  · rintro ⟨e, he, rfl⟩
    cases hb : e.1
    · exact .inl ⟨e, ⟨he, by rw [hb]; rfl⟩, rfl⟩
    · exact .inr ⟨e, ⟨he, hb⟩, rfl⟩

theorem refOrder_names (l : List (Bool × String × List String)) (n : String) :
    n ∈ envNames (refOrder l) ↔ ∃ e ∈ l, e.2.1 = n := by
  simp only [envNames, List.mem_map, mem_refOrder]
  constructor
  · rintro ⟨_, ⟨e, he, rfl⟩, rfl⟩; exact ⟨e, he, rfl⟩
  · rintro ⟨e, he, rfl⟩; exact ⟨_, ⟨e, he, rfl⟩, rfl⟩

theorem joinEnv_sub (env0 : List (Bool × String × List String)) :
    ∀ e ∈ joinEnv g env0, e ∈ refOrder env0 := by
  intro e he
  unfold joinEnv at he
  split at he
  · obtain ⟨x, hx, rfl⟩ := List.mem_map.mp he
    exact mem_refOrder.mpr ⟨x, hx, rfl⟩
  · exact he

theorem qualifyScope_ok_iff (s s' : Scope) :
    qualifyScope g σ outs s = .ok s' ↔
      ∃ srcs' env0, mkEnv g σ outs s.srcs = some (srcs', env0)
        ∧ hasDup (envNames (refOrder env0)) = false
        ∧ buildScope g (refOrder env0) (joinEnv g env0) srcs' s = .ok s'
        ∧ validate (envNames (refOrder env0)) s' = true := by
  unfold qualifyScope check
  cases mkEnv g σ outs s.srcs with
  | none =>
    constructor
    · intro h; cases h
    · rintro ⟨_, _, h, _⟩; cases h
  | some r =>
    obtain ⟨srcs', env0⟩ := r
    simp only [ite_error_ok_iff, Bool.not_eq_true, Option.some.injEq, Prod.mk.injEq]
    constructor
    · rintro ⟨h1, h⟩
      cases hb : buildScope g (refOrder env0) (joinEnv g env0) srcs' s with
      | error e => rw [hb] at h; cases h
      | ok s'' =>
        rw [hb] at h
        obtain ⟨h2, rfl⟩ := ite_ok_error_iff.mp h
        exact ⟨_, _, ⟨rfl, rfl⟩, h1, hb, h2⟩
    · rintro ⟨_, _, ⟨rfl, rfl⟩, h1, h2, h3⟩
      rw [h2]
      exact ⟨h1, ite_ok_error_iff.mpr ⟨h3, rfl⟩⟩

theorem qualifyFrom_cons_ok_iff {s : Scope} {rest q' : List Scope} :
    qualifyFrom g σ outs (s :: rest) = .ok q' ↔
      ∃ s', qualifyScope g σ outs s = .ok s'
        ∧ ∃ rest', qualifyFrom g σ (outs ++ [outNames s'.projs]) rest = .ok rest' ∧ s' :: rest' = q' := by
  simp only [qualifyFrom, bind_ok_iff, pure_ok_iff]

/-- the intermediate values of a successful run of `buildCore`, in the order of its binds, each with the equation that
    produces it (`B`, `D`, `F`: the step of the pipeline) -/
structure CoreStages (g : Gen) (env jenv : Env) (ct : ColTables) (jgs : List (Join × Bool)) (replaced : Bool)
    (skip : List String) (s : Scope) where
  projsB : List Proj
  hProjsB : mapE (qcolProj env) s.projs = .ok projsB
  whrB : Option Expr
  hWhrB : optE (qcol env []) s.whr = .ok whrB
  groupB : List Expr
  hGroupB : mapE (qcol env []) s.group = .ok groupB
  havingB : Option Expr
  hHavingB : optE (qcolHaving env) s.having = .ok havingB
  orderB : List Expr
  hOrderB : mapE (qcol env skip) s.order = .ok orderB
  joinsB : List Join
  hJoinsB : qcolJoins env jenv replaced 0 jgs = .ok joinsB
  projsD : List Proj
  hProjsD : applyStarsU env ct (expandProjs env [] 0 projsB).1 = .ok projsD
  noStarOuter : ¬ (hasStar projsD && !s.outer.isEmpty) = true
  groupF : List Expr
  hGroupF : mapE (groupPos (qualifyOutputs g.colName 0 s.outer projsD))
    (groupB.map (expand env (expandProjs env [] 0 projsB).2 .group .root)) = .ok groupF
  orderF : List Expr
  hOrderF : mapE (orderPos (qualifyOutputs g.colName 0 s.outer projsD)) orderB = .ok orderF

/-- the scope `buildCore` returns from these values: steps C and E and the ORDER BY rewrite of step F cannot fail -/
def CoreStages.result {env jenv : Env} {ct : ColTables} {jgs : List (Join × Bool)} {replaced : Bool} {skip : List String}
    {s : Scope} (r : CoreStages g env jenv ct jgs replaced skip s) (srcs' : List Src) : Scope :=
  { outer := [], srcs := srcs', joins := r.joinsB, projs := qualifyOutputs g.colName 0 s.outer r.projsD,
    whr := r.whrB.map (expand env (expandProjs env [] 0 r.projsB).2 .plain .root), group := r.groupF,
    having := r.havingB.map (expand env (expandProjs env [] 0 r.projsB).2 .having .root),
    order := if r.groupF.isEmpty then r.orderF
             else r.orderF.map (orderByAlias (qualifyOutputs g.colName 0 s.outer r.projsD)) }

theorem buildCore_ok_iff (env jenv : Env) (srcs' : List Src) (ct : ColTables) (jgs : List (Join × Bool))
    (replaced : Bool) (skip : List String) (s s' : Scope) :
    buildCore g env jenv srcs' ct jgs replaced skip s = .ok s' ↔
      ∃ r : CoreStages g env jenv ct jgs replaced skip s, r.result srcs' = s' := by
  simp only [buildCore, bind_ok_iff, ite_error_ok_iff, pure_ok_iff]
  constructor
  · rintro ⟨pB, h1, wB, h2, gB, h3, hB, h4, oB, h5, jB, h6, pD, h7, h8, gF, h9, oF, h10, rfl⟩
    exact ⟨⟨pB, h1, wB, h2, gB, h3, hB, h4, oB, h5, jB, h6, pD, h7, h8, gF, h9, oF, h10⟩, rfl⟩
  · rintro ⟨r, rfl⟩
    exact ⟨_, r.hProjsB, _, r.hWhrB, _, r.hGroupB, _, r.hHavingB, _, r.hOrderB, _, r.hJoinsB, _, r.hProjsD, r.noStarOuter,
      _, r.hGroupF, _, r.hOrderF, rfl⟩

theorem buildScope_shape {env jenv : Env} {srcs' : List Src} {s s' : Scope}
    (h : buildScope g env jenv srcs' s = .ok s') : s'.srcs = srcs' ∧ s'.outer = [] := by
  simp only [buildScope, ite_error_ok_iff, bind_ok_iff] at h
  obtain ⟨_, _, _, h⟩ := h
  obtain ⟨r, rfl⟩ := (buildCore_ok_iff ..).mp h
  exact ⟨rfl, rfl⟩

/-- without USING / NATURAL joins step U does nothing; what is left of `buildScope` is its guard (one source more than
    joins, unless there is no join) and `buildCore` -/
theorem buildScope_noMerge_ok_iff (env jenv : Env) (srcs' : List Src) (s s' : Scope) (hm : hasMerge s.joins = false) :
    buildScope g env jenv srcs' s = .ok s' ↔
      (s.joins = [] ∨ s.joins.length + 1 = srcs'.length)
      ∧ buildCore g env jenv srcs' [] (s.joins.map (fun j => (j, false))) false (namedSelects s.projs) s = .ok s' := by
  have hu : expandUsing env (srcs'.filterMap (·.alias)) s.joins = .ok (s.joins.map (fun j => (j, false)), []) := by
    unfold expandUsing; rw [hm]; rfl
  rw [buildScope, hu]
  refine ite_error_ok_iff.trans (and_congr_left' ?_)
  cases s.joins <;> simp

theorem validate_iff (names : List String) (s : Scope) :
    validate names s = true ↔
      (∀ p ∈ s.projs, projVisible names p = true)
      ∧ (∀ e, s.whr = some e → visible names [] e = true)
      ∧ (∀ e ∈ s.group, visible names [] e = true)
      ∧ (∀ e, s.having = some e → visibleHaving names e = true)
      ∧ (∀ e ∈ s.order, visible names (namedSelects s.projs) e = true)
      ∧ (∀ j ∈ s.joins, ∀ e, j.on = some e → visible names [] e = true) := by
  have opt : ∀ (p : Expr → Bool) (o : Option Expr),
      (match o with | some e => p e | none => true) = true ↔ ∀ e, o = some e → p e = true := by
    intro p o
    cases o with
    | none => exact ⟨fun _ _ h => (nomatch h), fun _ => rfl⟩
    | some e => exact ⟨fun h _ he => Option.some.inj he ▸ h, fun h => h e rfl⟩
  simp only [validate, Bool.and_eq_true, List.all_eq_true, and_assoc]
  exact and_congr_right' (and_congr (opt _ _) (and_congr_right' (and_congr (opt _ _)
    (and_congr_right' (forall₂_congr fun j _ => opt _ j.on)))))

theorem validate_whr {names : List String} {s : Scope} {e : Expr} (h : validate names s = true)
    (he : s.whr = some e) : visible names [] e = true :=
  ((validate_iff names s).mp h).2.1 e he

theorem validate_having {names : List String} {s : Scope} {e : Expr} (h : validate names s = true)
    (he : s.having = some e) : visibleHaving names e = true :=
  ((validate_iff names s).mp h).2.2.2.1 e he

/-- what `qualify_complete` promises about one qualified scope -/
def Complete (s' : Scope) : Prop :=
  (∀ src ∈ s'.srcs, src.alias.isSome = true) ∧ s'.outer = []
  ∧ ∃ names : List String, validate names s' = true ∧ ∀ n ∈ names, some n ∈ s'.srcs.map (·.alias)

/-- what every successful run leaves behind, stated on the result alone: its sources carry their aliases and resolve to
    `env0` (`qualify_tables` finds nothing to do), no alias occurs twice, every column names one of them (`validate`),
    the outer column list is used up -/
structure Qualified (g : Gen) (σ : Schema) (outs : List (List String)) (env0 : List (Bool × String × List String))
    (s' : Scope) : Prop where
  srcs : mkEnv g σ outs s'.srcs = some (s'.srcs, env0)
  nodup : hasDup (envNames (refOrder env0)) = false
  valid : validate (envNames (refOrder env0)) s' = true
  outer : s'.outer = []

theorem qualifyScope_run {s s' : Scope} (h : qualifyScope g σ outs s = .ok s') :
    ∃ env0, mkEnv g σ outs s.srcs = some (s'.srcs, env0)
      ∧ buildScope g (refOrder env0) (joinEnv g env0) s'.srcs s = .ok s' ∧ Qualified g σ outs env0 s' := by
  obtain ⟨srcs', env0, hme, hdup, hb, hv⟩ := (qualifyScope_ok_iff ..).mp h
  obtain ⟨rfl, ho⟩ := buildScope_shape hb
  exact ⟨env0, hme, hb, mkEnv_fixed hme, hdup, hv, ho⟩

theorem Qualified.complete {env0 : List (Bool × String × List String)} {s' : Scope}
    (h : Qualified g σ outs env0 s') : Complete s' := by
  have ha := mkEnv_aliases h.srcs
  refine ⟨fun src hsrc => ?_, h.outer, envNames (refOrder env0), h.valid, fun n hn => ?_⟩
  · have : src.alias ∈ s'.srcs.map (·.alias) := List.mem_map_of_mem hsrc
    rw [ha] at this
    obtain ⟨e, _, he⟩ := List.mem_map.mp this
    rw [← he]; rfl
  · obtain ⟨e, he, rfl⟩ := (refOrder_names env0 n).mp hn
    rw [ha]
    exact List.mem_map.mpr ⟨e, he, rfl⟩

theorem qualifyScope_complete {s s' : Scope} (h : qualifyScope g σ outs s = .ok s') : Complete s' :=
  let ⟨_, _, _, hq⟩ := qualifyScope_run h
  hq.complete

theorem qualifyFrom_complete :
    ∀ (q : List Scope) (outs : List (List String)) (q' : List Scope),
      qualifyFrom g σ outs q = .ok q' → q'.length = q.length ∧ ∀ s' ∈ q', Complete s' := by
  intro q
  induction q with
  | nil => rintro _ _ ⟨⟩; exact ⟨rfl, List.forall_mem_nil _⟩
  | cons s rest ih =>
    intro outs q' h
    obtain ⟨s', hs', rest', hr, rfl⟩ := qualifyFrom_cons_ok_iff.mp h
    obtain ⟨hl, hc⟩ := ih _ _ hr
    exact ⟨congrArg (· + 1) hl, List.forall_mem_cons.mpr ⟨qualifyScope_complete hs', hc⟩⟩

end SqlglotModel.Qualify
