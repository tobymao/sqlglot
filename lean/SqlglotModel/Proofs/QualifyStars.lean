/-
  C10, star expansion: `StarR` is an error monad, and a star expansion that succeeds is the flatMap of `starItems`
  (`expandStars_closed`); a table outside the USING / NATURAL merges expands as without them; on a fully aliased
  projection list (`AllAliased`) star expansion and output naming find nothing to do.
-/
import SqlglotModel.Model.Qualify

namespace SqlglotModel.Qualify

variable (env : Env)

/-- a source over which a star can be expanded: its columns are known, none of them is a star, none occurs twice (the
    complement of the `abandon` test of `expandStarTables`) -/
def GoodSrc (e : String × List String) : Prop :=
  e.2.isEmpty = false ∧ e.2.contains "*" = false ∧ hasDup e.2 = false

/-- `StarR` is an error monad in disguise: the nested matches of `expandStars` / `expandStarTables` are its bind -/
def StarR.bind (x : StarR) (f : List Proj → StarR) : StarR :=
  match x with
  | .ok qs => f qs
  | r => r

theorem StarR.bind_ok_iff {x : StarR} {f : List Proj → StarR} {qs : List Proj} :
    x.bind f = .ok qs ↔ ∃ q1, x = .ok q1 ∧ f q1 = .ok qs := by
  cases x with
  | ok q1 => exact ⟨fun h => ⟨q1, rfl, h⟩, fun ⟨_, h, hf⟩ => StarR.ok.inj h ▸ hf⟩
  | abandon | unknownTable =>
    constructor
    · intro h; cases h
    · rintro ⟨_, h, _⟩; cases h

theorem expandStarTables_cons (exc : List String) (t : String) (cols : List String) (rest : Env) :
    expandStarTables exc ((t, cols) :: rest) =
      if cols.isEmpty || cols.contains "*" || hasDup cols then .abandon
      else (expandStarTables exc rest).bind fun ps => .ok (starCols t exc cols ++ ps) := by
  rw [expandStarTables]
  split
  · rfl
  · cases expandStarTables exc rest <;> rfl

theorem expandStars_item (e : Expr) (a : Option String) (ps : List Proj) :
    expandStars env (.item e a :: ps) = (expandStars env ps).bind fun rs => .ok (.item e a :: rs) := by
  simp only [expandStars]
  cases expandStars env ps <;> rfl

theorem expandStars_star (exc : List String) (ps : List Proj) :
    expandStars env (.star none exc :: ps) =
      (expandStarTables exc env).bind fun qs => (expandStars env ps).bind fun rs => .ok (qs ++ rs) := by
  rw [expandStars]
  cases expandStarTables exc env <;> cases expandStars env ps <;> rfl

theorem expandStars_starOf (t : String) (exc : List String) (ps : List Proj) :
    expandStars env (.star (some t) exc :: ps) =
      match envCols env t with
      | none => .unknownTable
      | some cols =>
        (expandStarTables exc [(t, cols)]).bind fun qs => (expandStars env ps).bind fun rs => .ok (qs ++ rs) := by
  rw [expandStars]
  cases envCols env t with
  | none => rfl
  | some cols => dsimp only; cases expandStarTables exc [(t, cols)] <;> cases expandStars env ps <;> rfl

/-- what one projection becomes when the stars of a select are expanded -/
def starItems (env : Env) : Proj → List Proj
  | .star none exc => env.flatMap fun e => starCols e.1 exc e.2
  | .star (some t) exc => starCols t exc (colsOf env t)
  | p => [p]

theorem expandStarTables_ok_iff (exc : List String) :
    ∀ (l : Env) (qs : List Proj), expandStarTables exc l = .ok qs ↔
      (∀ e ∈ l, GoodSrc e) ∧ l.flatMap (fun e => starCols e.1 exc e.2) = qs := by
  intro l
  induction l with
  | nil => exact fun qs => ⟨fun h => ⟨List.forall_mem_nil _, StarR.ok.inj h⟩, fun h => congrArg StarR.ok h.2⟩
  | cons e rest ih =>
    intro qs
    obtain ⟨t, cols⟩ := e
    rw [expandStarTables_cons, List.forall_mem_cons, GoodSrc]
    cases hc : (cols.isEmpty || cols.contains "*" || hasDup cols) with
    | true =>
      constructor
      · intro h; cases h
      · rintro ⟨⟨⟨h1, h2, h3⟩, -⟩, -⟩
        rw [h1, h2, h3] at hc
        cases hc
    | false =>
      simp only [Bool.or_eq_false_iff, and_assoc] at hc
      simp only [Bool.false_eq_true, if_false, StarR.bind_ok_iff, StarR.ok.injEq, ih, hc, true_and, and_assoc,
        List.flatMap_cons, exists_and_left, exists_eq_left']

/-- what a successful expansion returns.  It succeeds when every source a star ranges over is a `GoodSrc`
    (`expandStarTables_ok_iff`) and every `t.*` names a source (`envCols env t = some _`) -/
theorem expandStars_closed : ∀ ps qs : List Proj, expandStars env ps = .ok qs → ps.flatMap (starItems env) = qs := by
  intro ps
  induction ps with
  | nil => rintro _ ⟨⟩; rfl
  | cons p rest ih =>
    intro qs h
    rw [List.flatMap_cons]
    cases p with
    | item e a =>
      simp only [expandStars_item, StarR.bind_ok_iff, StarR.ok.injEq] at h
      obtain ⟨rs, hrs, rfl⟩ := h
      rw [ih rs hrs]
      rfl
    | star t exc =>
      cases t with
      | none =>
        simp only [expandStars_star, StarR.bind_ok_iff, StarR.ok.injEq, expandStarTables_ok_iff] at h
        obtain ⟨_, ⟨-, rfl⟩, rs, hrs, rfl⟩ := h
        rw [ih rs hrs]
        rfl
      | some t =>
        rw [expandStars_starOf] at h
        cases hc : envCols env t with
        | none => rw [hc] at h; cases h
        | some cols =>
          simp only [hc, StarR.bind_ok_iff, StarR.ok.injEq, expandStarTables_ok_iff] at h
          obtain ⟨_, ⟨-, rfl⟩, rs, hrs, rfl⟩ := h
          rw [ih rs hrs, starItems, colsOf, hc, List.flatMap_cons, List.flatMap_nil, List.append_nil]
          rfl

/-- `applyStars` returns the list as it is (expansion abandoned, or nothing came of it) or with its stars expanded -/
theorem applyStars_ok_cases {ps qs : List Proj} (h : applyStars env ps = .ok qs) :
    qs = ps ∨ qs = ps.flatMap (starItems env) := by
  unfold applyStars at h
  split at h
  · split at h <;> cases h
    · exact .inl rfl
    · exact .inr (expandStars_closed env ps _ ‹_›).symm
  · cases h; exact .inl rfl
  · cases h

theorem starCols_cons (t : String) (exc : List String) (c : String) (cs : List String) :
    starCols t exc (c :: cs) =
      if exc.contains c then starCols t exc cs else .item (.col (some t) c) none :: starCols t exc cs := by
  rw [starCols, List.filter_cons]
  cases exc.contains c <;> rfl

theorem starColsU_outside (ct : ColTables) (t : String) (exc : List String) :
    ∀ (cols coal : List String),
      (∀ c ∈ cols, ∀ e, ct.find? (fun e => e.1 == c) = some e → e.2.contains t = false) →
      (∀ c ∈ cols, coal.contains c = false) →
      starColsU ct t exc coal cols = (starCols t exc cols, coal) := by
  intro cols
  induction cols with
  | nil => intro coal _ _; rfl
  | cons c cs ih =>
    intro coal hout hco
    obtain ⟨hout, houts⟩ := List.forall_mem_cons.mp hout
    obtain ⟨hc, hcos⟩ := List.forall_mem_cons.mp hco
    rw [starColsU, starCols_cons, hc, Bool.or_false]
    cases exc.contains c with
    | true => exact ih coal houts hcos
    | false =>
      rw [ih coal houts hcos]
      cases hf : ct.find? (fun e => e.1 == c) with
      | none => rfl
      | some e => exact if_neg (Bool.eq_false_iff.mp (hout e hf))

def AllAliased : List Proj → Prop
  | [] => True
  | .item _ (some _) :: ps => AllAliased ps
  | _ :: _ => False

theorem AllAliased.induction {P : List Proj → Prop} (nil : P [])
    (cons : ∀ e a ps, AllAliased ps → P ps → P (.item e (some a) :: ps)) : ∀ ps, AllAliased ps → P ps := by
  intro ps
  induction ps with
  | nil => exact fun _ => nil
  | cons p rest ih =>
    intro h
    cases p with
    | star t exc => exact h.elim
    | item e a =>
      cases a with
      | none => exact h.elim
      | some a => exact cons e a rest h (ih h)

theorem qualifyOutputs_fixed (cn : Nat → String) :
    ∀ ps : List Proj, AllAliased ps → ∀ i, qualifyOutputs cn i [] ps = ps :=
  AllAliased.induction (fun _ => rfl) fun e a _ _ ih i => congrArg (Proj.item e (some a) :: ·) (ih (i + 1))

theorem allAliased_noStar : ∀ ps : List Proj, AllAliased ps → hasStar ps = false :=
  AllAliased.induction rfl fun _ _ _ _ ih => ih

theorem expandStars_fixed : ∀ ps : List Proj, AllAliased ps → expandStars env ps = .ok ps :=
  AllAliased.induction rfl fun e a ps _ ih => by rw [expandStars_item, ih]; rfl

theorem applyStarsU_nil (ps : List Proj) : applyStarsU env [] ps = applyStars env ps := rfl

theorem applyStars_fixed (ps : List Proj) (h : AllAliased ps) : applyStars env ps = .ok ps := by
  rw [applyStars, expandStars_fixed env ps h]
  dsimp only
  split <;> rfl

/-- the naming rule of `qualify_outputs`: the alias, else the name of the expression, else `_col_i`; a name of the outer
    column list overrides all three -/
theorem qualifyOutputs_item (cn : Nat → String) (i : Nat) (outer : List String) (e : Expr) (a : Option String)
    (ps : List Proj) :
    qualifyOutputs cn i outer (.item e a :: ps)
      = .item e (some (outer.head?.getD (a.getD (outAlias cn i e)))) :: qualifyOutputs cn (i + 1) outer.tail ps := by
  cases a <;> cases outer <;> rfl

theorem hasStar_qualifyOutputs (cn : Nat → String) :
    ∀ (ps : List Proj) (i : Nat) (outer : List String), hasStar (qualifyOutputs cn i outer ps) = hasStar ps := by
  intro ps
  induction ps with
  | nil => intro _ _; rfl
  | cons p rest ih =>
    intro i outer
    cases p with
    | star t exc => rfl
    | item e a => exact ih _ _

theorem qualifyOutputs_allAliased (cn : Nat → String) :
    ∀ (ps : List Proj) (i : Nat) (outer : List String), hasStar ps = false →
      AllAliased (qualifyOutputs cn i outer ps) := by
  intro ps
  induction ps with
  | nil => intro _ _ _; trivial
  | cons p rest ih =>
    intro i outer h
    cases p with
    | star t exc => cases h
    | item e a => exact ih _ _ h

theorem qualifyOutputs_cols (cn : Nat → String) :
    ∀ (l : List (String × String)) (i : Nat), (∀ p ∈ l, p.2 ≠ "") →
      qualifyOutputs cn i [] (l.map (fun p => Proj.item (.col (some p.1) p.2) none))
        = l.map (fun p => Proj.item (.col (some p.1) p.2) (some p.2)) := by
  intro l
  induction l with
  | nil => intro i _; rfl
  | cons p rest ih =>
    intro i hne
    obtain ⟨hp, hr⟩ := List.forall_mem_cons.mp hne
    simp [qualifyOutputs, outAlias, exprName, ih (i + 1) hr, hp]

end SqlglotModel.Qualify
