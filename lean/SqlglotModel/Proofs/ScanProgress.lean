/-
  Every iteration of `_scan` moves `_current` strictly forward (`stepIter_gt`), so a run makes at most as many iterations
  as there are characters left, whether the iterations are given as a list, as a function of `_current`, or may raise
  into the handler of `tokenize`.
-/
import SqlglotModel.Model.ScanProgress

namespace SqlglotModel.ScanProgress

theorem rel_replicate_fwd (j a : Nat) (rest : List Move) :
    rel (List.replicate j (.fwd 1) ++ rest) a = rel rest (a + j) := by
  induction j generalizing a with
  | zero => simp
  | succ j ih =>
    simp only [List.replicate_succ, List.cons_append, rel]
    rw [ih]; congr 1; omega

theorem rel_all_fwd : ∀ (ms : List Move) (a : Nat), ms.all Move.isFwd = true → ∃ a', rel ms a = some a' ∧ a ≤ a' := by
  intro ms
  induction ms with
  | nil => intro a _; exact ⟨a, rfl, Nat.le_refl _⟩
  | cons m ms ih =>
    intro a h
    simp only [List.all_cons, Bool.and_eq_true] at h
    cases m with
    | fwd k =>
      obtain ⟨a', h1, h2⟩ := ih (a + k) h.2
      exact ⟨a', by simpa [rel] using h1, by omega⟩
    | back k => simp [Move.isFwd] at h

theorem stepIter_gt {c c' : Nat} {it : Iter} (h : stepIter c it = some c') : c < c' := by
  unfold stepIter at h
  split at h <;> cases h
  have : 1 ≤ it.offset := by unfold Iter.offset; split <;> omega
  omega

/-- the iterations are counted against what is left to scan, which an iteration from `c < size` to `c1 > c` shrinks -/
theorem count_step {size c c1 n n' : Nat} (hlt : c < size) (g : c < c1) (h : n' ≤ n + 1 + (size - c1)) :
    n' ≤ n + (size - c) := by
  rw [Nat.add_assoc, Nat.add_comm 1] at h
  exact Nat.le_trans h (Nat.add_le_add_left (Nat.sub_lt_sub_left hlt g) n)

/-- … and by as much the fuel that is still needed -/
theorem fuel_step {size c c1 fuel : Nat} (hlt : c < size) (g : c < c1) (hf : size - c ≤ fuel + 1) :
    size - c1 ≤ fuel :=
  Nat.le_of_lt_succ (Nat.lt_of_lt_of_le (Nat.sub_lt_sub_left hlt g) hf)

/-- the middle clause is `n' - n ≤ c' - c` without subtraction: every iteration moved at least one character -/
theorem scanLoop_bound (size : Nat) :
    ∀ (its : List Iter) (c n c' n' : Nat), scanLoop size its c n = some (c', n') →
      c ≤ c' ∧ n' + c ≤ n + c' ∧ n' ≤ n + (size - c) := by
  intro its
  induction its with
  | nil => intro c n c' n' h; cases h; exact ⟨Nat.le_refl _, Nat.le_refl _, Nat.le_add_right _ _⟩
  | cons it its ih =>
    intro c n c' n' h
    unfold scanLoop at h
    split at h
    · rename_i hlt
      split at h
      · rename_i c1 hs
        have g := stepIter_gt hs
        obtain ⟨j1, j2, j3⟩ := ih c1 (n + 1) c' n' h
        exact ⟨by omega, by omega, count_step hlt g j3⟩
      · cases h
    · cases h; exact ⟨Nat.le_refl _, Nat.le_refl _, Nat.le_add_right _ _⟩

theorem scanRun_spec (size : Nat) (step : Nat → Option Nat) (hp : ∀ c c', step c = some c' → c < c') :
    ∀ (fuel c n : Nat), size - c ≤ fuel →
      scanRun size step fuel c n ≠ .outOfFuel ∧
        ∀ c' n', scanRun size step fuel c n = .done c' n' → size ≤ c' ∧ c ≤ c' ∧ n' ≤ n + (size - c) := by
  have stop : ∀ c n, ¬ c < size → (ScanOut.done c n ≠ .outOfFuel ∧
      ∀ c' n', ScanOut.done c n = .done c' n' → size ≤ c' ∧ c ≤ c' ∧ n' ≤ n + (size - c)) :=
    fun c n hge => ⟨nofun, fun c' n' h => by cases h; exact ⟨Nat.le_of_not_lt hge, Nat.le_refl _, Nat.le_add_right _ _⟩⟩
  intro fuel
  induction fuel with
  | zero =>
    intro c n hf
    have hge : ¬ c < size := by omega
    rw [scanRun, if_neg hge]
    exact stop c n hge
  | succ fuel ih =>
    intro c n hf
    unfold scanRun
    split
    · rename_i hlt
      split
      · rename_i c1 hs
        have g := hp c c1 hs
        obtain ⟨i1, i2⟩ := ih c1 (n + 1) (fuel_step hlt g hf)
        refine ⟨i1, fun c' n' h => ?_⟩
        obtain ⟨j1, j2, j3⟩ := i2 c' n' h
        exact ⟨j1, Nat.le_trans (Nat.le_of_lt g) j2, count_step hlt g j3⟩
      · exact ⟨nofun, nofun⟩
    · rename_i hge; exact stop c n hge

theorem funnel_broad (handlers raises : List String) (hb : handlers.contains "Exception" = true)
    (hr : raises = ["TokenError"]) (e : Exc) : funnel handlers raises e = .tokenError := by
  have hc : catches handlers e = true := by simp only [catches, hb, Bool.true_or]
  simp only [funnel, hc, hr, if_true]

theorem tokenizeModel_ends (handlers raises : List String) (size : Nat) (step : Nat → Except Exc Nat)
    (hp : ∀ c c', step c = .ok c' → c < c') :
    ∀ (fuel c : Nat), size - c ≤ fuel →
      tokenizeModel handlers raises size step fuel c = .ok ∨
        ∃ e, tokenizeModel handlers raises size step fuel c = funnel handlers raises e := by
  intro fuel
  induction fuel with
  | zero =>
    intro c hf
    rw [tokenizeModel, if_neg (by omega)]
    exact .inl rfl
  | succ fuel ih =>
    intro c hf
    unfold tokenizeModel
    split
    · rename_i hlt
      split
      · rename_i c1 hs
        exact ih c1 (fuel_step hlt (hp c c1 hs) hf)
      · exact .inr ⟨_, rfl⟩
    · exact .inl rfl

end SqlglotModel.ScanProgress
