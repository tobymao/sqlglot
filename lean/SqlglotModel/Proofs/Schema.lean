/-
  C18, flat specification: laws of the insertion-ordered dicts (`lookup`, `dictSet`), the continuations of a key in
  the key list (`suffixes`), how `raise_on_missing` enters the uncached `find`, and the cache-coherence invariant
  `Inv` with its preservation by every public method.
-/
import SqlglotModel.Model.Schema
import SqlglotModel.Proofs.List

namespace SqlglotModel.Schema
open SqlglotModel.Ident

theorem lookup_eq_find? {α β} [DecidableEq α] (l : List (α × β)) (a : α) :
    lookup l a = (l.find? (·.1 == a)).map (·.2) :=
  assoc_eq_find? (get := fun k l => lookup l k) (fun _ => rfl) (fun _ _ _ _ => rfl) a l

theorem lookup_dictSet {α β} [DecidableEq α] (l : List (α × β)) (a : α) (b : β) (k : α) :
    lookup (dictSet l a b) k = if a = k then some b else lookup l k := by
  induction l with
  | nil => rfl
  | cons x xs ih =>
    obtain ⟨k', v'⟩ := x
    rw [dictSet, lookup]
    by_cases h : k' = a
    · subst h
      rw [if_pos rfl, lookup]
      split <;> rfl
    · rw [if_neg h, lookup, ih]
      by_cases h2 : k' = k
      · rw [if_pos h2, if_neg (fun e => h (h2.trans e.symm)), if_pos h2]
      · rw [if_neg h2, if_neg h2]

theorem dictSet_dictSet {α β} [DecidableEq α] (l : List (α × β)) (a : α) (b b' : β) :
    dictSet (dictSet l a b) a b' = dictSet l a b' := by
  induction l with
  | nil => simp [dictSet]
  | cons x xs ih =>
    obtain ⟨k, v⟩ := x
    by_cases e : k = a <;> simp [dictSet, e, ih]

theorem lookup_append {α β} [DecidableEq α] (l1 l2 : List (α × β)) (a : α) :
    lookup (l1 ++ l2) a = (lookup l1 a).orElse fun _ => lookup l2 a := by
  simp only [lookup_eq_find?, List.find?_append, Option.map_or, Option.orElse_eq_or]

theorem map_key_dictSet {α β γ} [DecidableEq α] [DecidableEq γ] (f : α → γ) (hf : ∀ x y, f x = f y → x = y)
    (l : List (α × β)) (a : α) (b : β) :
    (dictSet l a b).map (fun p => f p.1) =
      if f a ∈ l.map (fun p => f p.1) then l.map (fun p => f p.1) else l.map (fun p => f p.1) ++ [f a] := by
  induction l with
  | nil => exact (if_neg List.not_mem_nil).symm
  | cons x xs ih =>
    obtain ⟨k, v⟩ := x
    rw [dictSet, List.map_cons]
    by_cases h : k = a
    · subst h
      rw [if_pos rfl, if_pos List.mem_cons_self]
      rfl
    · rw [if_neg h, List.map_cons, ih]
      by_cases hm : f a ∈ xs.map (fun p => f p.1)
      · rw [if_pos hm, if_pos (List.mem_cons_of_mem _ hm)]
      · rw [if_neg hm, if_neg fun hc => (List.mem_cons.mp hc).elim (fun e => h (hf _ _ e).symm) hm]
        rfl

theorem map_fst_dictSet {α β} [DecidableEq α] (l : List (α × β)) (a : α) (b : β) :
    (dictSet l a b).map (·.1) = if a ∈ l.map (·.1) then l.map (·.1) else l.map (·.1) ++ [a] :=
  map_key_dictSet id (fun _ _ h => h) l a b

theorem mem_of_lookup {α β} [DecidableEq α] {l : List (α × β)} {k : α} {v : β} (h : lookup l k = some v) :
    (k, v) ∈ l :=
  mem_of_find?_fst (lookup_eq_find? l k ▸ h)

theorem lookup_of_mem_nodup {α β} [DecidableEq α] {l : List (α × β)} (hn : (l.map (·.1)).Nodup) {k : α} {v : β}
    (h : (k, v) ∈ l) : lookup l k = some v :=
  (lookup_eq_find? l k).trans (find?_fst_of_mem hn h)

theorem lookup_none_iff {α β} [DecidableEq α] {l : List (α × β)} {k : α} :
    lookup l k = none ↔ k ∉ l.map (·.1) := by
  rw [lookup_eq_find?, find?_fst_eq_none]

theorem mem_keys_iff {α β} [DecidableEq α] {l : List (α × β)} {k : α} : k ∈ l.map (·.1) ↔ lookup l k ≠ none := by
  rw [Ne, lookup_none_iff, Decidable.not_not]

theorem mem_dictSet {α β} [DecidableEq α] {l : List (α × β)} {a : α} {b : β} {kv : α × β}
    (h : kv ∈ dictSet l a b) : kv = (a, b) ∨ kv ∈ l := by
  induction l with
  | nil => simp [dictSet] at h; exact Or.inl h
  | cons x xs ih =>
    obtain ⟨k', v'⟩ := x
    simp only [dictSet] at h
    split at h
    · rename_i e; subst e
      cases h with
      | head => exact Or.inl rfl
      | tail _ h => exact Or.inr (List.mem_cons_of_mem _ h)
    · cases h with
      | head => exact Or.inr (List.mem_cons_self ..)
      | tail _ h =>
        rcases ih h with h | h
        · exact Or.inl h
        · exact Or.inr (List.mem_cons_of_mem _ h)

theorem forall_mem_dictSet {α β} [DecidableEq α] {P : β → Prop} {l : List (α × β)} {a : α} {b : β}
    (hl : ∀ kv ∈ l, P kv.2) (hb : P b) : ∀ kv ∈ dictSet l a b, P kv.2 := by
  intro kv hkv
  rcases mem_dictSet hkv with h | h
  · subst h; exact hb
  · exact hl kv h

theorem nodup_dictSet {α β} [DecidableEq α] {l : List (α × β)} (hn : (l.map (·.1)).Nodup) (a : α) (b : β) :
    ((dictSet l a b).map (·.1)).Nodup := by
  rw [map_fst_dictSet]
  split
  · exact hn
  · rename_i h
    rw [List.nodup_append]
    refine ⟨hn, by simp, ?_⟩
    intro x hx y hy
    simp at hy; subst hy
    intro e; subst e; exact h hx

theorem dictSet_ne_nil {α β} [DecidableEq α] (l : List (α × β)) (a : α) (b : β) : dictSet l a b ≠ [] := by
  cases l with
  | nil => simp [dictSet]
  | cons x xs => obtain ⟨k, v⟩ := x; simp only [dictSet]; split <;> simp

/-- the continuations of `key` among the keys `l`: what `in_trie` walks down to and `flatten_schema` then lists -/
def suffixes (key : List Name) (l : List (List Name)) : List (List Name) :=
  (l.filter (fun k => key.isPrefixOf k)).map (fun k => k.drop key.length)

theorem inTrie_eq (trie : List (List Name)) (key : List Name) :
    inTrie trie key =
      if key = [] then .failed else if suffixes key trie = [] then .failed
      else if trie.contains key then .exists_ else .prefix_ (suffixes key trie).eraseDups := by
  unfold inTrie suffixes
  simp only [List.map_eq_nil_iff]

theorem mem_suffixes {key p : List Name} {l : List (List Name)} : p ∈ suffixes key l ↔ key ++ p ∈ l := by
  simp only [suffixes, List.mem_map, List.mem_filter, List.isPrefixOf_iff_prefix]
  constructor
  · rintro ⟨k, ⟨hk, t, rfl⟩, rfl⟩
    simpa using hk
  · exact fun h => ⟨key ++ p, ⟨h, List.prefix_append _ _⟩, by simp⟩

theorem suffixes_nil (l : List (List Name)) : suffixes [] l = l := by simp [suffixes]

theorem suffixes_append (key : List Name) (l1 l2 : List (List Name)) :
    suffixes key (l1 ++ l2) = suffixes key l1 ++ suffixes key l2 := by simp [suffixes]

theorem suffixes_cons_map (k k' : Name) (rest : List Name) (L : List (List Name)) :
    suffixes (k :: rest) (L.map (fun q => k' :: q)) = if k = k' then suffixes rest L else [] := by
  unfold suffixes
  rw [List.filter_map, List.map_map]
  by_cases e : k = k'
  · subst e; simp [Function.comp_def]
  · simp [Function.comp_def, e]

/-- what `raise_on_missing=False` makes of an answer: every exception becomes `None` -/
def FindR.quiet : FindR → FindR
  | .err _ => .notFound
  | r => r

theorem findU_false (m : List (Path × Cols)) (tr : List (List Name)) (t : List Ident) :
    findU m tr t false = (findU m tr t true).quiet := by
  unfold findU findInTrie
  simp only
  generalize (List.take _ (List.map (fun x => x.name) t).reverse) = parts
  cases inTrie tr parts with
  | failed => rfl
  | exists_ => dsimp only; cases lookup m parts.reverse <;> rfl
  | prefix_ ps =>
    match ps with
    | [p] => dsimp only; cases lookup m (parts ++ p).reverse <;> rfl
    | [] => rfl
    | _ :: _ :: _ => rfl

theorem FindR.quiet_eq_found {x : FindR} {v : Cols} : x.quiet = .found v ↔ x = .found v := by
  cases x <;> simp [quiet]

theorem findU_found_iff {m tr t v} (r : Bool) : findU m tr t r = .found v ↔ findU m tr t true = .found v := by
  cases r
  · rw [findU_false, FindR.quiet_eq_found]
  · rfl

theorem findU_found_raise {m tr t r v} (h : findU m tr t r = .found v) (r' : Bool) :
    findU m tr t r' = .found v :=
  (findU_found_iff r').mpr ((findU_found_iff r).mp h)

theorem findU_noraise (m : List (Path × Cols)) (tr : List (List Name)) (t : List Ident) (x : Err) :
    findU m tr t false ≠ .err x := by
  rw [findU_false]
  cases findU m tr t true <;> nofun

theorem stepN_find (E : Env) (ev : Evict) (S : St) (t : List Ident) (r e : Bool) :
    stepN E ev S (.find t r e) = ((find E S t r e).1, .findR (find E S t r e).2) := rfl

theorem stepN_hasColumn (E : Env) (ev : Evict) (S : St) (nt : List Ident) (nc : Name) :
    stepN E ev S (.hasColumn nt nc) = ((find E S nt false false).1, hasOut nc (find E S nt false false).2) := rfl

theorem stepN_columnType (E : Env) (ev : Evict) (S : St) (nt : List Ident) (nc : Name) (d : DialectRef) :
    stepN E ev S (.columnType nt nc d) = ((find E S nt false false).1, typeOut E d nc (find E S nt false false).2) := rfl

theorem stepN_columnNames (E : Env) (ev : Evict) (S : St) (nt : List Ident) (ov : Bool) :
    stepN E ev S (.columnNames nt ov) =
      ((find E S nt true false).1, namesOut E (depth S) nt ov (find E S nt true false).2) := rfl

/-- the state `add_table` leaves behind, on the flat view (`setCore` on the nested structures) -/
def setSt (S1 : St) (path : Path) (ncols : Cols) (fc : List (CKey × Cols)) : St :=
  ⟨dictSet S1.mapping path ncols, if S1.trie.contains path.reverse then S1.trie else S1.trie ++ [path.reverse], fc⟩

theorem stepN_addTable (E : Env) (ev : Evict) (S : St) (nt : List Ident) (ncols : Cols) :
    stepN E ev S (.addTable nt ncols) =
      if S.mapping ≠ [] ∧ nt.length ≠ depth S then (S, .err .depthMismatch)
      else if earlyReturn (find E S nt false false).2 ncols then ((find E S nt false false).1, .unit)
      else (setSt (find E S nt false false).1 (nt.map (·.name)) ncols (evict ev (find E S nt false false).1.cache nt),
            .unit) := rfl

/-- the four equations `stepN_find` … `stepN_columnNames` read as one: every method other than `add_table` is one `find`
    followed by a pure function of its answer and the depth.  The proofs about all methods go through this statement. -/
theorem stepN_read_or_add (E : Env) (ev : Evict) (op : NOp) :
    (∃ nt ncols, op = .addTable nt ncols) ∨
    ∃ t r e, ∃ out : Nat → FindR → Out,
      ∀ S, stepN E ev S op = ((find E S t r e).1, out (depth S) (find E S t r e).2) := by
  cases op with
  | addTable nt ncols => exact .inl ⟨nt, ncols, rfl⟩
  | columnNames nt ov => exact .inr ⟨nt, true, false, fun d => namesOut E d nt ov, fun _ => rfl⟩
  | columnType nt nc d => exact .inr ⟨nt, false, false, fun _ => typeOut E d nc, fun _ => rfl⟩
  | hasColumn nt nc => exact .inr ⟨nt, false, false, fun _ => hasOut nc, fun _ => rfl⟩
  | find t r e => exact .inr ⟨t, r, e, fun _ => .findR, fun _ => rfl⟩

/-- the invariant: the trie holds exactly the mapping's paths and every cache entry equals the uncached answer -/
structure Inv (E : Env) (S : St) : Prop where
  trie_eq : S.trie = S.mapping.map (fun p => p.1.reverse)
  coherent : ∀ k v, lookup S.cache k = some v →
    ∃ v', v = convCols E k.2 v' ∧ ∀ raise, findUncached S k.1 raise = .found v'

/-- the answer of `find(ensure_data_types=e)` computed without any cache -/
def convR (E : Env) (e : Bool) : FindR → FindR
  | .found c => .found (convCols E e c)
  | r => r

theorem find_snd (E : Env) (S : St) (hS : Inv E S) (t : List Ident) (r e : Bool) :
    (find E S t r e).2 = convR E e (findUncached S t r) := by
  unfold find
  cases hc : lookup S.cache (t, e) with
  | some cols =>
    obtain ⟨v', hv, hf⟩ := hS.coherent (t, e) cols hc
    simp [hf r, convR, hv]
  | none =>
    cases hf : findUncached S t r <;> simp [convR]

theorem find_false (E : Env) (S : St) (hS : Inv E S) (t : List Ident) (e : Bool) :
    (find E S t false e).2 = (find E S t true e).2.quiet := by
  rw [find_snd E S hS, find_snd E S hS, findUncached, findUncached, findU_false]
  cases findU S.mapping S.trie t true <;> rfl

theorem find_noraise (E : Env) (S : St) (t : List Ident) (e : Bool) (x : Err) :
    (find E S t false e).2 ≠ .err x := by
  unfold find
  cases lookup S.cache (t, e) with
  | some c => simp
  | none =>
    simp only
    cases h : findUncached S t false with
    | found c => simp
    | notFound => simp
    | err y => exact absurd h (findU_noraise _ _ _ _)

/-- `find` writes nothing but its cache -/
theorem find_frame (E : Env) (S : St) (t : List Ident) (r e : Bool) :
    (find E S t r e).1.mapping = S.mapping ∧ (find E S t r e).1.trie = S.trie := by
  unfold find
  cases hc : lookup S.cache (t, e) with
  | some cols => simp
  | none => cases hf : findUncached S t r <;> simp

theorem find_inv (E : Env) (S : St) (hS : Inv E S) (t : List Ident) (r e : Bool) : Inv E (find E S t r e).1 := by
  unfold find
  cases hc : lookup S.cache (t, e) with
  | some cols => exact hS
  | none =>
    cases hf : findUncached S t r with
    | notFound => exact hS
    | err x => exact hS
    | found cols =>
      -- the new entry is the uncached answer whatever `raise_on_missing`; the uncached `find` does not read the cache
      refine ⟨hS.trie_eq, fun k v hk => ?_⟩
      rw [lookup] at hk
      split at hk
      · rename_i hkk
        cases hk
        exact ⟨cols, hkk ▸ rfl, fun raise => hkk ▸ findU_found_raise hf raise⟩
      · exact hS.coherent k v hk

/-- with an empty cache coherence asks nothing: the state of a fresh schema, and the state `add_table` leaves behind
    when it clears the whole cache (`Evict.all`, the policy `Inv.stepN` is about) -/
theorem Inv.of_cache_nil {E : Env} {S : St} (ht : S.trie = S.mapping.map (fun p => p.1.reverse)) (hc : S.cache = []) :
    Inv E S :=
  ⟨ht, fun k v h => by rw [hc] at h; cases h⟩

theorem fresh_inv (E : Env) (S : St) : Inv E (fresh S) := .of_cache_nil rfl rfl

theorem empty_inv (E : Env) : Inv E empty := fresh_inv E empty

theorem trie_after_set (m : List (Path × Cols)) (path : Path) (c : Cols) :
    (dictSet m path c).map (fun p => p.1.reverse) =
      if (m.map (fun p => p.1.reverse)).contains path.reverse then m.map (fun p => p.1.reverse)
      else m.map (fun p => p.1.reverse) ++ [path.reverse] := by
  rw [map_key_dictSet List.reverse (fun _ _ => List.reverse_inj.mp)]
  by_cases h : path.reverse ∈ m.map (fun p => p.1.reverse)
  · rw [if_pos h, if_pos (List.contains_iff_mem.mpr h)]
  · rw [if_neg h, if_neg (mt List.contains_iff_mem.mp h)]

theorem Inv.stepN {E : Env} {S : St} (hS : Inv E S) (op : NOp) : Inv E (stepN E .all S op).1 := by
  obtain ⟨nt, ncols, rfl⟩ | ⟨t, r, e, out, h⟩ := stepN_read_or_add E .all op
  · have hI := find_inv E S hS nt false false
    rw [stepN_addTable]
    by_cases hc : S.mapping ≠ [] ∧ nt.length ≠ depth S
    · rw [if_pos hc]; exact hS
    · rw [if_neg hc]
      cases earlyReturn (find E S nt false false).2 ncols
      · rw [if_neg Bool.false_ne_true]
        exact .of_cache_nil (by rw [setSt, trie_after_set, hI.trie_eq]) rfl
      · exact hI
  · rw [h]; exact find_inv E S hS t r e

theorem Inv.run {E : Env} {S : St} (hS : Inv E S) (ops : List Op) : Inv E (run E .all S ops) := by
  induction ops generalizing S with
  | nil => exact hS
  | cons op ops ih => exact ih (hS.stepN (normOp E op))

theorem stepN_answer_eq {E : Env} {ev : Evict} {S T : St} (hS : Inv E S) (hT : Inv E T)
    (hm : S.mapping = T.mapping) (q : NOp) : (stepN E ev S q).2 = (stepN E ev T q).2 := by
  have ht : S.trie = T.trie := by rw [hS.trie_eq, hT.trie_eq, hm]
  have hF : ∀ t r e, (find E S t r e).2 = (find E T t r e).2 := by
    intro t r e; rw [find_snd E S hS, find_snd E T hT, findUncached, findUncached, hm, ht]
  have hd : depth S = depth T := by rw [depth, depth, hm]
  obtain ⟨nt, ncols, rfl⟩ | ⟨t, r, e, out, h⟩ := stepN_read_or_add E ev q
  · rw [stepN_addTable, stepN_addTable, hm, hd, hF]
    simp only [apply_ite Prod.snd]
  · rw [h, h, hF, hd]

theorem run_answers_fresh {E : Env} {S0 : St} (h0 : Inv E S0) (ops : List Op) (q : Op) :
    (step E .all (run E .all S0 ops) q).2 = (step E .all (fresh (run E .all S0 ops)) q).2 :=
  stepN_answer_eq (h0.run ops) (fresh_inv E _) rfl (normOp E q)

end SqlglotModel.Schema
