/-
  C18: the constructors build admissible states of the full model.  `MappingSchema(mapping, normalize=False)` is
  `coreOfMapping` (`coreOfMapping_spec`).  `normalize=True` is handled on the flat view first (`ctor_run`: under `CtorOK` it
  is `add_table` of each raw table) and then through the nested loops of `_normalize`, which keep `CtorInv`
  (`ctorLoop_spec`, `fInit_normalize_spec`).
-/
import SqlglotModel.Proofs.SchemaFull

namespace SqlglotModel.Schema
open SqlglotModel.Ident

variable {L : Layouts} {E : Env}

theorem coreOfMapping_types (m : Tree) : (coreOfMapping m).types = [] := by
  simp [coreOfMapping, cDepth]; split <;> rfl

theorem coreOfMapping_empty : CShape (coreOfMapping (.node [])) 0 ∧ absC (coreOfMapping (.node [])) 0 = empty :=
  ⟨.empty rfl rfl rfl rfl, rfl⟩

theorem coreOfMapping_eq {d : Nat} {m : Tree} (hu : Uniform (d + 1) m) :
    coreOfMapping m = ⟨m, trieOfPaths (flatten (d + 1) [] m), [], d + 1, 0, []⟩ := by
  simp [coreOfMapping, cDepth, uniform_not_empty hu, dictDepth_uniform _ _ hu]

theorem coreOfMapping_spec (d : Nat) (m : Tree) (hu : Uniform (d + 1) m) :
    CShape (coreOfMapping m) (d + 1) ∧
    Equiv (absC (coreOfMapping m) (d + 1)) (fresh ⟨flatView (d + 1) m, [], []⟩) := by
  have hfl := flatten_flatView d m [] hu.shape
  have hlen : ∀ p ∈ flatten (d + 1) [] m, p.length = d + 1 := by
    intro p hp
    rw [hfl] at hp
    obtain ⟨pc, hpc, e⟩ := List.mem_map.mp hp
    rw [← e]; exact flatView_lengths _ _ _ hpc
  obtain ⟨u, mem⟩ := trieOfPaths_spec d (flatten (d + 1) [] m) Trie.empty (Or.inr rfl) hlen
  have hU : UniformT (d + 1) (trieOfPaths (flatten (d + 1) [] m)) :=
    u (Or.inr (by rw [hfl]; simpa using flatView_ne_nil _ _ hu))
  rw [coreOfMapping_eq hu]
  refine ⟨.full d hu hU (Or.inr rfl) (Or.inl rfl), fun _ => rfl, Iff.rfl, rfl, fun q => ?_, rfl⟩
  simp only [absC, fresh, trieOfPaths]
  rw [mem q, hfl]
  simp [keysAt_empty, List.map_map, Function.comp_def]

theorem addOpOf_norm (E : Env) (kc : List Name × Cols) :
    normOp E (addOpOf E kc) =
      .addTable ((kc.1.map parseIdent).map (normIdent E.f E.self.dia true)) (ofPairs (normColPairs E kc.2)) := by
  simp only [addOpOf, normOp, normTable, if_true, normColPairs, List.map_map]
  rfl

theorem normKeys_eq (E : Env) (keys : List Name) :
    ((keys.map parseIdent).map (normIdent E.f E.self.dia true)).map (·.name) = normKeys E keys := by
  simp only [normKeys, List.map_map]
  rfl

/-- what `ctor_run` assumes about the raw mapping: uniform depth, every table has a column, and no two raw
    tables normalise to the same path (otherwise the constructor MERGES them while `add_table` replaces) -/
structure CtorOK (E : Env) (n : Nat) (raw : List (List Name × Cols)) : Prop where
  len : ∀ kc ∈ raw, kc.1.length = n + 1
  cols : ∀ kc ∈ raw, kc.2 ≠ []
  nocoll : (raw.map (fun kc => normKeys E kc.1)).Nodup

theorem ctorFlatStep_lengths (E : Env) (n : Nat) (fm : List (Path × Cols)) (kc : List Name × Cols)
    (hk : kc.1.length = n + 1) (hf : ∀ pc ∈ fm, pc.1.length = n + 1) :
    ∀ pc ∈ ctorFlatStep E fm kc, pc.1.length = n + 1 := by
  intro pc hpc
  rcases mem_dictSet hpc with h | h
  · rw [h]; simp [normKeys, hk]
  · exact hf pc h

theorem ctor_step (E : Env) (ev : Evict) (n : Nat) (S : St) (kc : List Name × Cols)
    (hall : ∀ pc ∈ S.mapping, pc.1.length = n + 1) (hlen : kc.1.length = n + 1) (hcols : kc.2 ≠ [])
    (hfresh : normKeys E kc.1 ∉ S.mapping.map (·.1)) :
    (step E ev S (addOpOf E kc)).1.mapping = ctorFlatStep E S.mapping kc := by
  have hdep : ¬ (S.mapping ≠ [] ∧ ((kc.1.map parseIdent).map (normIdent E.f E.self.dia true)).length ≠ depth S) :=
    fun h => h.2 (by rw [depth_of_lengths h.1 hall]; simp [hlen])
  have her : ∀ r, earlyReturn r (ofPairs (normColPairs E kc.2)) = false := by
    intro r
    have hne : ofPairs (normColPairs E kc.2) ≠ [] :=
      foldl_ne_nil (fun _ _ => dictSet_ne_nil _ _ _) _ _ (Or.inr (by simpa [normColPairs] using hcols))
    cases hq : ofPairs (normColPairs E kc.2) with
    | nil => exact absurd hq hne
    | cons a as => cases r <;> simp [earlyReturn]
  rw [step, addOpOf_norm, stepN_addTable, if_neg hdep, her]
  simp only [Bool.false_eq_true, if_false]
  rw [setSt, (find_frame E S _ false false).1, normKeys_eq, ctorFlatStep, lookup_none_iff.mpr hfresh]
  rfl

theorem ctor_run (E : Env) (ev : Evict) (n : Nat) : ∀ (raw : List (List Name × Cols)) (S : St),
    (∀ pc ∈ S.mapping, pc.1.length = n + 1) → CtorOK E n raw →
    (∀ kc ∈ raw, normKeys E kc.1 ∉ S.mapping.map (·.1)) →
    raw.foldl (ctorFlatStep E) S.mapping = (run E ev S (raw.map (addOpOf E))).mapping
  | [], S, _, _, _ => rfl
  | kc :: rest, S, hall, hok, hfresh => by
    have hstep := ctor_step E ev n S kc hall (hok.len kc (List.mem_cons_self ..)) (hok.cols kc (List.mem_cons_self ..))
      (hfresh kc (List.mem_cons_self ..))
    simp only [List.foldl_cons, List.map_cons, run]
    rw [← hstep]
    have hkeys : ((step E ev S (addOpOf E kc)).1.mapping).map (·.1) = S.mapping.map (·.1) ++ [normKeys E kc.1] := by
      rw [hstep]; unfold ctorFlatStep
      rw [map_fst_dictSet, if_neg (hfresh kc (List.mem_cons_self ..))]
    have hnd := hok.nocoll
    simp only [List.map_cons, List.nodup_cons] at hnd
    refine ctor_run E ev n rest _ ?_ ⟨fun x hx => hok.len x (List.mem_cons_of_mem _ hx),
      fun x hx => hok.cols x (List.mem_cons_of_mem _ hx), hnd.2⟩ ?_
    · rw [hstep]
      exact ctorFlatStep_lengths E n _ kc (hok.len kc (List.mem_cons_self ..)) hall
    · intro x hx
      rw [hkeys, List.mem_append]
      rintro (h | h)
      · exact hfresh x (List.mem_cons_of_mem _ hx) h
      · simp only [List.mem_singleton] at h
        exact hnd.1 (List.mem_map.mpr ⟨x, hx, h⟩)

theorem nestedSetCol_refines (d : Nat) (m : Tree) (path : Path) (col : Name) (ty : String)
    (hs : Shape (d + 1) m) (hl : path.length = d + 1) :
    Shape (d + 1) (nestedSetCol m path col ty) ∧
    ∀ q, lookup (flatView (d + 1) (nestedSetCol m path col ty)) q =
      if path = q then
        some (dictSet (match lookup (flatView (d + 1) m) path with | some c => c | none => []) col ty)
      else lookup (flatView (d + 1) m) q := by
  unfold nestedSetCol
  rw [nestedGet_flatView (d + 1) m path hs hl]
  cases lookup (flatView (d + 1) m) path <;> exact flatView_nestedSet d m path _ hs hl

/-- the flat meaning of one `nested_set(mapping, keys + [col], type)` -/
def colStep (np : Path) (fm : List (Path × Cols)) (c : Name × String) : List (Path × Cols) :=
  dictSet fm np (dictSet (match lookup fm np with | some x => x | none => []) c.1 c.2)

theorem colStep_lookEq {a b : List (Path × Cols)} (h : LookEq a b) (np : Path) (c : Name × String) :
    LookEq (colStep np a c) (colStep np b c) := by
  unfold colStep; rw [h np]; exact h.dictSet _ _

/-- once the table's path holds `v`, the column-by-column `nested_set`s only rewrite that one entry -/
theorem colStep_fold_set (np : Path) (fm : List (Path × Cols)) : ∀ (pairs : List (Name × String)) (v : Cols),
    pairs.foldl (colStep np) (dictSet fm np v) = dictSet fm np (pairs.foldl (fun cs c => dictSet cs c.1 c.2) v)
  | [], _ => rfl
  | p :: ps, v => by
    rw [List.foldl_cons, List.foldl_cons, colStep, lookup_dictSet, if_pos rfl, dictSet_dictSet]
    exact colStep_fold_set np fm ps _

theorem colStep_fold (np : Path) (fm : List (Path × Cols)) : ∀ (pairs : List (Name × String)), pairs ≠ [] →
    pairs.foldl (colStep np) fm =
      dictSet fm np (pairs.foldl (fun cs c => dictSet cs c.1 c.2) (match lookup fm np with | some x => x | none => []))
  | _ :: ps, _ => colStep_fold_set np fm ps _

theorem normKeysC_spec (hk : NameKeyOK L E) : ∀ (keys : List Name) (m : NameCache),
    NamesInv L E m → (normKeysC E L m keys).2 = normKeys E keys ∧ NamesInv L E (normKeysC E L m keys).1
  | [], m, hm => ⟨rfl, hm⟩
  | k :: rest, m, hm => by
    obtain ⟨h1, h2⟩ := nameCall_spec hk m hm ⟨k, false, E.self, true, true⟩
    obtain ⟨h3, h4⟩ := normKeysC_spec hk rest _ h2
    refine ⟨?_, h4⟩
    simp only [normKeysC, h1, h3, normKeys, List.map_cons]

/-- what the three nested loops of the constructor keep: the name cache is sound, the mapping built so far is uniform (or
    still `{}`), and its flat view is, as a finite map, the flat mapping `fm` -/
structure CtorInv (L : Layouts) (E : Env) (n : Nat) (acc : NameCache × Tree) (fm : List (Path × Cols)) : Prop where
  names : NamesInv L E acc.1
  filling : Filling (n + 1) acc.2
  look : LookEq (flatView (n + 1) acc.2) fm

theorem CtorInv.uniform {n : Nat} {acc : NameCache × Tree} {fm : List (Path × Cols)} (h : CtorInv L E n acc fm)
    (hne : fm ≠ []) : Uniform (n + 1) acc.2 := by
  refine h.filling.elim id fun e => ?_
  -- `{}` has no entry, `fm` has one
  match fm, hne with
  | (k, v) :: _, _ =>
    have := h.look k
    rw [e, flatView_emptyNode] at this
    simp [lookup] at this

theorem ctorCols_spec (hk : NameKeyOK L E) (n : Nat) (np : Path) (hl : np.length = n + 1) :
    ∀ (cols : Cols) (acc : NameCache × Tree) (fm : List (Path × Cols)), CtorInv L E n acc fm →
    CtorInv L E n (ctorCols E L np acc cols) ((normColPairs E cols).foldl (colStep np) fm)
  | [], _, _, h => h
  | (c, ty) :: rest, (names, m), fm,
      ⟨hn, (hm : Filling (n + 1) m), (hle : LookEq (flatView (n + 1) m) fm)⟩ => by
    obtain ⟨h1, h2⟩ := nameCall_spec hk names hn ⟨c, false, E.self, false, true⟩
    rw [ctorCols]
    generalize nameCall E.f L.name names ⟨c, false, E.self, false, true⟩ = r at h1 h2 ⊢
    obtain ⟨names1, nc⟩ := r
    obtain ⟨_, r2⟩ := nestedSetCol_refines n m np nc ty hm.shape hl
    subst h1
    -- after the first column the accumulator is uniform (non-empty) and stays so
    exact ctorCols_spec hk n np hl rest _ _ ⟨h2, Or.inl (uniform_nestedSet n m np _ hm hl),
      fun q => by rw [r2 q, hle np, hle q, colStep, lookup_dictSet]⟩

theorem ctorTable_spec (hk : NameKeyOK L E) (n : Nat) (raw : Tree) (hs : Shape (n + 1) raw)
    (keys : Path) (cols : Cols) (hmem : (keys, cols) ∈ flatView (n + 1) raw) (hc : cols ≠ [])
    (acc : NameCache × Tree) (fm : List (Path × Cols)) (h : CtorInv L E n acc fm) :
    ∃ acc', ctorTable E L raw acc keys = .ok acc' ∧ CtorInv L E n acc' (ctorFlatStep E fm (keys, cols)) := by
  have hg := nestedGet_of_mem (n + 1) raw hs keys cols hmem
  have hkl : keys.length = n + 1 := flatView_lengths _ _ _ hmem
  obtain ⟨k1, k2⟩ := normKeysC_spec hk keys acc.1 h.names
  have hnl : (normKeys E keys).length = n + 1 := by simp [normKeys, hkl]
  have c := ctorCols_spec hk n _ hnl cols (_, acc.2) fm ⟨k2, h.filling, h.look⟩
  rw [colStep_fold _ fm _ (by simpa [normColPairs] using hc)] at c
  refine ⟨_, ?_, c⟩
  unfold ctorTable
  rw [hg]
  cases cols with
  | nil => exact absurd rfl hc
  | cons c cs => exact congrArg (fun np => Except.ok (ctorCols E L np _ _)) k1

theorem ctorFlatStep_lookEq (E : Env) {a b : List (Path × Cols)} (h : LookEq a b) (kc : List Name × Cols) :
    LookEq (ctorFlatStep E a kc) (ctorFlatStep E b kc) := by
  unfold ctorFlatStep; rw [h _]; exact h.dictSet _ _

theorem ctorLoop_spec (hk : NameKeyOK L E) (n : Nat) (raw : Tree) (hs : Shape (n + 1) raw) :
    ∀ (entries : List (Path × Cols)), (∀ kc ∈ entries, kc ∈ flatView (n + 1) raw) → (∀ kc ∈ entries, kc.2 ≠ []) →
    ∀ (acc : NameCache × Tree) (fm : List (Path × Cols)), CtorInv L E n acc fm →
    ∃ acc', ctorLoop E L raw acc (entries.map (·.1)) = .ok acc' ∧
      CtorInv L E n acc' (entries.foldl (ctorFlatStep E) fm)
  | [], _, _, acc, _, h => ⟨acc, rfl, h⟩
  | (keys, cols) :: rest, hmem, hc, acc, fm, h => by
    obtain ⟨a1, e1, i1⟩ := ctorTable_spec hk n raw hs keys cols (hmem _ (List.mem_cons_self ..))
      (hc _ (List.mem_cons_self ..)) acc fm h
    obtain ⟨a2, e2, i2⟩ := ctorLoop_spec hk n raw hs rest (fun kc h => hmem kc (List.mem_cons_of_mem _ h))
      (fun kc h => hc kc (List.mem_cons_of_mem _ h)) a1 _ i1
    exact ⟨a2, by simp only [List.map_cons, ctorLoop, e1, e2], i2⟩

theorem fresh_equiv_of_lookEq (n : Nat) {a b : List (Path × Cols)} (h : LookEq a b) (ha : a ≠ []) (hb : b ≠ [])
    (la : ∀ pc ∈ a, pc.1.length = n + 1) : Equiv (fresh ⟨a, [], []⟩) (fresh ⟨b, [], []⟩) := by
  have key : ∀ p, p ∈ a.map (·.1) ↔ p ∈ b.map (·.1) := fun p => by rw [mem_keys_iff, mem_keys_iff, h p]
  -- equal as finite maps, so `b` has the paths of `a`, of the same length
  have lb : ∀ pc ∈ b, pc.1.length = n + 1 := fun pc hpc => by
    obtain ⟨pa, hpa, e⟩ := List.mem_map.mp ((key pc.1).mpr (List.mem_map_of_mem hpc))
    exact e ▸ la pa hpa
  refine ⟨h, ⟨fun x => absurd x ha, fun x => absurd x hb⟩,
    (depth_of_lengths ha la).trans (depth_of_lengths hb lb).symm, fun k => ?_, rfl⟩
  have e : ∀ l : List (Path × Cols), l.map (fun p => p.1.reverse) = (l.map (·.1)).map List.reverse :=
    fun l => by simp
  simp only [fresh, e]
  rw [List.mem_map, List.mem_map]
  simp only [key]

theorem fInit_normalize_spec (hk : NameKeyOK L E) (n : Nat) (raw : Tree)
    (hu : Uniform (n + 1) raw) (hc : ∀ kc ∈ flatView (n + 1) raw, kc.2 ≠ []) :
    ∃ F, fInit E L raw true = .ok F ∧ CShape F.core (n + 1) ∧ NamesInv L E F.names ∧ F.tables = [] ∧
      F.core.types = [] ∧
      Equiv (absC F.core (n + 1)) (fresh ⟨ctorFlat E (flatView (n + 1) raw), [], []⟩) := by
  have hfl : flatten (dictDepth raw - 1) [] raw = (flatView (n + 1) raw).map (·.1) := by
    rw [dictDepth_uniform _ _ hu, Nat.add_sub_cancel, flatten_flatView n raw [] hu.shape]
    simp
  have hne := flatView_ne_nil _ _ hu
  have hne' : ctorFlat E (flatView (n + 1) raw) ≠ [] := foldl_ne_nil (fun _ _ => dictSet_ne_nil _ _ _) _ _ (Or.inr hne)
  obtain ⟨⟨names', m'⟩, e1, i1⟩ := ctorLoop_spec hk n raw hu.shape (flatView (n + 1) raw) (fun _ h => h) hc
    ([], .node []) [] ⟨memoInv_nil _ _, Or.inr rfl, fun q => by simp [flatView, lookup]⟩
  have um : Uniform (n + 1) m' := i1.uniform hne'
  obtain ⟨s1, s2⟩ := coreOfMapping_spec n m' um
  refine ⟨⟨coreOfMapping m', names', []⟩, ?_, s1, i1.names, rfl, ?_, ?_⟩
  · simp only [fInit, if_true, hfl, e1]
  · exact coreOfMapping_types m'
  · exact s2.trans (fresh_equiv_of_lookEq n i1.look (flatView_ne_nil _ _ um) hne' fun pc h => flatView_lengths _ _ _ h)

end SqlglotModel.Schema
