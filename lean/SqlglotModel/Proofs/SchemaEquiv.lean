/-
  C18: the flat specification looks at the mapping only as a finite map and at the key list only as a set.  `findInTrie`
  is put in closed form over the continuations of the key (`findInTrie_eq`); `Equiv` relates the flat states the
  specification cannot tell apart, and every public method respects it (`stepN_congr`).
-/
import SqlglotModel.Model.SchemaTree
import SqlglotModel.Proofs.Schema

namespace SqlglotModel.Schema
open SqlglotModel.Ident

variable {E : Env}

/-- the single possibility of a PREFIX hit, if there is exactly one -/
def pick (ps : List (List Name)) : Option (List Name) :=
  match ps with
  | [p] => some p
  | _ => none

theorem pick_eq_some {ps : List (List Name)} {p : List Name} : pick ps = some p ↔ ps = [p] := by
  unfold pick
  split
  · simp
  · rename_i h
    constructor
    · intro e; cases e
    · intro e; exact absurd e (h p)

theorem findInTrie_eq_resolveR (trie : List (List Name)) (parts : List Name) (raise : Bool) :
    findInTrie trie parts raise = resolveR (inTrie trie parts) parts raise := by
  unfold findInTrie resolveR
  cases inTrie trie parts <;> rfl

theorem resolveR_prefix (ps : List (List Name)) (parts : List Name) (raise : Bool) :
    resolveR (.prefix_ ps) parts raise =
      match pick ps with
      | some p => .parts (parts ++ p)
      | none => if raise then .ambiguous else .none := by
  match ps with
  | [] => rfl
  | [_] => rfl
  | _ :: _ :: _ => rfl

def SameKeys (l1 l2 : List (List Name)) : Prop := ∀ k, k ∈ l1 ↔ k ∈ l2

/-- the same finite map, whatever the order of the entries: the `look` field of `Equiv` (`Equiv.lookEq`) -/
def LookEq (a b : List (Path × Cols)) : Prop := ∀ q, lookup a q = lookup b q

theorem LookEq.dictSet {a b : List (Path × Cols)} (h : LookEq a b) (p : Path) (c : Cols) :
    LookEq (dictSet a p c) (dictSet b p c) := by
  intro q; rw [lookup_dictSet, lookup_dictSet, h q]

theorem findInTrie_eq (l : List (List Name)) (parts : List Name) (raise : Bool) :
    findInTrie l parts raise =
      if parts = [] then .none else if suffixes parts l = [] then .none
      else if l.contains parts then .parts parts
      else match pick (suffixes parts l).eraseDups with
        | some p => .parts (parts ++ p)
        | none => if raise then .ambiguous else .none := by
  rw [findInTrie_eq_resolveR, inTrie_eq]
  simp only [apply_ite (resolveR · parts raise), resolveR_prefix]
  rfl

theorem pick_eraseDups_congr {a b : List (List Name)} (h : ∀ q, q ∈ a ↔ q ∈ b) : pick a.eraseDups = pick b.eraseDups :=
  Option.ext fun p => by
    simp only [pick_eq_some, eraseDups_singleton, ne_eq, List.eq_nil_iff_forall_not_mem, h]

theorem findInTrie_congr {l1 l2 : List (List Name)} (h : SameKeys l1 l2) (parts : List Name) (raise : Bool) :
    findInTrie l1 parts raise = findInTrie l2 parts raise := by
  have hs : ∀ p, p ∈ suffixes parts l1 ↔ p ∈ suffixes parts l2 :=
    fun p => mem_suffixes.trans ((h _).trans mem_suffixes.symm)
  have hnil : suffixes parts l1 = [] ↔ suffixes parts l2 = [] := by
    simp only [List.eq_nil_iff_forall_not_mem, hs]
  have hc : l1.contains parts = l2.contains parts := by
    rw [Bool.eq_iff_iff]; simp [h parts]
  simp only [findInTrie_eq, hnil, hc, pick_eraseDups_congr hs]

theorem findInTrie_parts_mem {l : List (List Name)} {parts ps : List Name} {r : Bool}
    (h : findInTrie l parts r = .parts ps) : ps ∈ l := by
  rw [findInTrie_eq] at h
  by_cases h1 : parts = []
  · rw [if_pos h1] at h; cases h
  by_cases h2 : suffixes parts l = []
  · rw [if_neg h1, if_pos h2] at h; cases h
  by_cases h3 : l.contains parts = true
  · rw [if_neg h1, if_neg h2, if_pos h3] at h
    cases h
    simpa using h3
  · rw [if_neg h1, if_neg h2, if_neg h3] at h
    cases hp : pick (suffixes parts l).eraseDups with
    | none => rw [hp] at h; cases r <;> cases h
    | some p =>
      rw [hp] at h
      cases h
      have : p ∈ (suffixes parts l).eraseDups := by rw [pick_eq_some.mp hp]; simp
      exact mem_suffixes.mp (List.mem_eraseDups.mp this)

theorem findUncached_eq (S : St) (t : List Ident) (r : Bool) :
    findUncached S t r =
      match findInTrie S.trie (((t.map (·.name)).reverse).take (depth S)) r with
      | .none => .notFound
      | .ambiguous => .err .ambiguous
      | .parts ps =>
        match lookup S.mapping ps.reverse with
        | some cols => .found cols
        | none => if r then .err .internal else .notFound := by
  unfold findUncached findU depth
  rfl

theorem findUncached_err {S : St} (hS : Inv E S) {t : List Ident} {r : Bool} {x : Err}
    (h : findUncached S t r = .err x) : x = .ambiguous := by
  rw [findUncached_eq] at h
  cases hf : findInTrie S.trie (((t.map (·.name)).reverse).take (depth S)) r with
  | none => rw [hf] at h; cases h
  | ambiguous => rw [hf] at h; cases h; rfl
  | parts ps =>
    -- the trie only knows registered paths: `nested_get` after a trie hit cannot miss
    have hmem := findInTrie_parts_mem hf
    rw [hS.trie_eq, List.mem_map] at hmem
    obtain ⟨pc, hpc, e⟩ := hmem
    have hk : ps.reverse ∈ S.mapping.map (·.1) := by
      rw [← e, List.reverse_reverse]; exact List.mem_map_of_mem hpc
    cases hl : lookup S.mapping ps.reverse with
    | none => exact absurd hl (mem_keys_iff.mp hk)
    | some c => rw [hf] at h; simp only [hl] at h; cases h

/-- two flat states the specification cannot tell apart -/
structure Equiv (S T : St) : Prop where
  look : ∀ q, lookup S.mapping q = lookup T.mapping q
  nil : S.mapping = [] ↔ T.mapping = []
  depth : depth S = depth T
  trie : SameKeys S.trie T.trie
  cache : S.cache = T.cache

theorem Equiv.lookEq {S T : St} (h : Equiv S T) : LookEq S.mapping T.mapping := h.look

theorem Equiv.refl (S : St) : Equiv S S := ⟨fun _ => rfl, Iff.rfl, rfl, fun _ => Iff.rfl, rfl⟩

theorem Equiv.trans {S T U : St} (h1 : Equiv S T) (h2 : Equiv T U) : Equiv S U :=
  ⟨fun q => (h1.look q).trans (h2.look q), h1.nil.trans h2.nil, h1.depth.trans h2.depth,
   fun k => (h1.trie k).trans (h2.trie k), h1.cache.trans h2.cache⟩

theorem findUncached_congr {S T : St} (h : Equiv S T) (t : List Ident) (r : Bool) :
    findUncached S t r = findUncached T t r := by
  rw [findUncached_eq, findUncached_eq, h.depth, findInTrie_congr h.trie]
  split
  · rfl
  · rfl
  · rw [h.look]

theorem find_congr (E : Env) {S T : St} (h : Equiv S T) (t : List Ident) (r e : Bool) :
    (find E S t r e).2 = (find E T t r e).2 ∧ Equiv (find E S t r e).1 (find E T t r e).1 := by
  unfold find
  rw [h.cache, findUncached_congr h]
  cases lookup T.cache (t, e) with
  | some cols => exact ⟨rfl, h⟩
  | none =>
    cases findUncached T t r with
    | found cols => exact ⟨rfl, ⟨h.look, h.nil, h.depth, h.trie, rfl⟩⟩
    | notFound => exact ⟨rfl, h⟩
    | err x => exact ⟨rfl, h⟩

theorem depth_of_lengths {S : St} {k : Nat} (hne : S.mapping ≠ []) (hall : ∀ pc ∈ S.mapping, pc.1.length = k) :
    depth S = k := by
  unfold depth
  match hm : S.mapping, hne with
  | x :: _, _ => exact hall x (by rw [hm]; exact List.mem_cons_self ..)

theorem depth_setSt (S : St) (p : Path) (c : Cols) (fc : List (CKey × Cols)) :
    depth (setSt S p c fc) = if S.mapping = [] then p.length else depth S := by
  obtain ⟨m, _, _⟩ := S
  cases m with
  | nil => rfl
  | cons x xs =>
    obtain ⟨k, v⟩ := x
    by_cases e : k = p <;> simp [setSt, dictSet, depth, e]

theorem mem_insertKey {l : List (List Name)} {key q : List Name} :
    q ∈ (if l.contains key then l else l ++ [key]) ↔ (q = key ∨ q ∈ l) := by
  split
  · rename_i c
    exact ⟨Or.inr, fun h => h.elim (· ▸ by simpa using c) id⟩
  · simp only [List.mem_append, List.mem_singleton]
    exact Or.comm

theorem Equiv.set {S T : St} (h : Equiv S T) (p : Path) (c : Cols) (f : List (CKey × Cols) → List (CKey × Cols)) :
    Equiv (setSt S p c (f S.cache)) (setSt T p c (f T.cache)) := by
  refine ⟨h.lookEq.dictSet p c, ?_, ?_, fun k => ?_, congrArg f h.cache⟩
  · exact ⟨fun x => absurd x (dictSet_ne_nil _ _ _), fun x => absurd x (dictSet_ne_nil _ _ _)⟩
  · rw [depth_setSt, depth_setSt]
    simp only [h.nil]
    split
    · rfl
    · exact h.depth
  · exact mem_insertKey.trans ((or_congr Iff.rfl (h.trie k)).trans mem_insertKey.symm)

theorem stepN_congr (E : Env) (ev : Evict) {S T : St} (h : Equiv S T) (op : NOp) :
    (stepN E ev S op).2 = (stepN E ev T op).2 ∧ Equiv (stepN E ev S op).1 (stepN E ev T op).1 := by
  obtain ⟨nt, ncols, rfl⟩ | ⟨t, r, e, out, hr⟩ := stepN_read_or_add E ev op
  · obtain ⟨e1, e2⟩ := find_congr E h nt false false
    have hcond : (S.mapping ≠ [] ∧ nt.length ≠ depth S) ↔ (T.mapping ≠ [] ∧ nt.length ≠ depth T) := by
      rw [h.depth, Ne, Ne, h.nil]
    rw [stepN_addTable, stepN_addTable, ← e1]
    by_cases hc : T.mapping ≠ [] ∧ nt.length ≠ depth T
    · rw [if_pos hc, if_pos (hcond.mpr hc)]
      exact ⟨rfl, h⟩
    · rw [if_neg hc, if_neg (mt hcond.mp hc)]
      cases earlyReturn (find E S nt false false).2 ncols
      · exact ⟨rfl, e2.set _ _ (evict ev · nt)⟩
      · exact ⟨rfl, e2⟩
  · obtain ⟨e1, e2⟩ := find_congr E h t r e
    rw [hr, hr, e1, h.depth]
    exact ⟨rfl, e2⟩

end SqlglotModel.Schema
