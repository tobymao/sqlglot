/-
  C18: the full model (Model/SchemaFull.lean) refines the flat specification (Model/Schema.lean).  A core state need
  only stand for a flat state up to `Equiv` (Proofs/SchemaEquiv.lean): `CShape` says which core states are admissible,
  `absC` what they stand for.  Three contracts, the strictest first: `Fills` (a call that only fills `_depth` /
  `_supported_table_args`), `Sim` (a method that leaves the depth alone), `Refines` (one that may change it);
  `coreStep_spec`: every public method commutes with `absC`.  The memo caches of the normalisation phase are transparent
  when the key of each determines the cached value (`KeysOK`), which gives `fStep_refines`.
-/
import SqlglotModel.Model.SchemaFull
import SqlglotModel.Proofs.SchemaEquiv
import SqlglotModel.Proofs.SchemaTree
import SqlglotModel.Proofs.SchemaMemo

namespace SqlglotModel.Schema
open SqlglotModel.Ident

variable {L : Layouts} {E : Env}

/-- admissible core states of schema depth `d` (`d = 0`: nothing registered yet).  The lazily cached `_depth` /
    `_supported_table_args` are either not filled yet or EQUAL to the recomputed value. -/
inductive CShape (C : Core) : Nat → Prop where
  | empty : C.mapping = .node [] → C.trie = Trie.empty → C.depthC = 0 → C.argsC = 0 → CShape C 0
  | full (d : Nat) : Uniform (d + 1) C.mapping → UniformT (d + 1) C.trie →
      (C.depthC = 0 ∨ C.depthC = d + 1) → (C.argsC = 0 ∨ C.argsC = d + 1) → CShape C (d + 1)

/-- the flat state a core state stands for -/
def absC (C : Core) (d : Nat) : St := ⟨flatView d C.mapping, keysAt d C.trie, C.findCache⟩

/-- `C'` differs from `C` at most in the two lazily cached numbers `depthC` and `argsC` -/
def SameData (C C' : Core) : Prop :=
  C'.mapping = C.mapping ∧ C'.trie = C.trie ∧ C'.findCache = C.findCache ∧ C'.types = C.types

theorem SameData.refl (C : Core) : SameData C C := ⟨rfl, rfl, rfl, rfl⟩

theorem SameData.mapping {C C' : Core} (h : SameData C C') : C'.mapping = C.mapping := h.1

theorem SameData.trie {C C' : Core} (h : SameData C C') : C'.trie = C.trie := h.2.1

theorem SameData.findCache {C C' : Core} (h : SameData C C') : C'.findCache = C.findCache := h.2.2.1

theorem SameData.types {C C' : Core} (h : SameData C C') : C'.types = C.types := h.2.2.2

theorem SameData.abs {C C' : Core} (h : SameData C C') (d : Nat) : absC C' d = absC C d := by
  rw [absC, h.mapping, h.trie, h.findCache]; rfl

/-- what a call promises that only fills `_depth` / `_supported_table_args`: it answers `v`, and the core state it leaves
    behind is admissible at the same depth and holds the same data -/
structure Fills (C : Core) (d : Nat) {α : Type} (x : Core × α) (v : α) : Prop where
  out : x.2 = v
  shape : CShape x.1 d
  same : SameData C x.1

theorem CShape.congr {C C' : Core} {d : Nat} (h : CShape C d) (hm : C'.mapping = C.mapping) (ht : C'.trie = C.trie)
    (hd : C'.depthC = C.depthC) (ha : C'.argsC = C.argsC) : CShape C' d := by
  cases h with
  | empty a b c e => exact .empty (hm.trans a) (ht.trans b) (hd.trans c) (ha.trans e)
  | full d a b c e => exact .full d (hm ▸ a) (ht ▸ b) (hd ▸ c) (ha ▸ e)

theorem uniform_not_empty {d : Nat} {m : Tree} (h : Uniform (d + 1) m) : m.isEmptyDict = false := by
  obtain ⟨kids, e, hne, _, _⟩ := h
  subst e
  cases kids with
  | nil => exact absurd rfl hne
  | cons x xs => rfl

theorem cDepth_spec {C : Core} {d : Nat} (h : CShape C d) : Fills C d (cDepth C) d := by
  cases h with
  | empty h1 h2 h3 h4 =>
    simp only [cDepth, h1, Tree.isEmptyDict, Bool.not_true, Bool.false_and, Bool.false_eq_true, if_false]
    exact ⟨h3, .empty h1 h2 h3 h4, .refl C⟩
  | full d hu ht hd ha =>
    have hne := uniform_not_empty hu
    have hdd := dictDepth_uniform _ _ hu
    unfold cDepth
    rcases hd with hd | hd
    · simp only [hne, Bool.not_false, Bool.true_and, hd, beq_self_eq_true, if_true, hdd]
      refine ⟨by omega, ?_, .refl C⟩
      exact .full d hu ht (Or.inr (by simp)) ha
    · have hc : ¬ ((!C.mapping.isEmptyDict && C.depthC == 0) = true) := by simp [hd]
      rw [if_neg hc]
      exact ⟨hd, .full d hu ht (Or.inr hd) ha, .refl C⟩

theorem cArgs_spec {C : Core} {d : Nat} (h : CShape C d) : Fills C d (cArgs C) d := by
  have hD := cDepth_spec h
  cases h with
  | empty h1 h2 h3 h4 =>
    simp only [cArgs, h1, Tree.isEmptyDict, Bool.not_true, Bool.and_false, Bool.false_eq_true, if_false]
    exact ⟨h4, .empty h1 h2 h3 h4, .refl C⟩
  | full d hu ht hd ha =>
    have hne := uniform_not_empty hu
    unfold cArgs
    rcases ha with ha | ha
    · simp only [ha, beq_self_eq_true, hne, Bool.not_false, Bool.and_self, if_true]
      refine ⟨hD.out, ?_, hD.same⟩
      cases hD.shape with
      | full _ hu' ht' hd' _ => exact .full d hu' ht' hd' (Or.inr hD.out)
    · have hc : ¬ ((C.argsC == 0 && !C.mapping.isEmptyDict) = true) := by simp [ha]
      rw [if_neg hc]
      exact ⟨ha, .full d hu ht hd (Or.inr ha), .refl C⟩

theorem depth_absC_full {C : Core} {d : Nat} (hu : Uniform (d + 1) C.mapping) :
    depth (absC C (d + 1)) = d + 1 ∧ (absC C (d + 1)).mapping ≠ [] :=
  ⟨depth_of_lengths (flatView_ne_nil _ _ hu) fun _ h => flatView_lengths _ _ _ h, flatView_ne_nil _ _ hu⟩

theorem depth_absC {C : Core} {d : Nat} (h : CShape C d) : depth (absC C d) = d := by
  cases h with
  | empty h1 _ _ _ => simp [absC, h1, flatView, depth]
  | full d hu _ _ _ => exact (depth_absC_full hu).1

theorem findInTrieT_eq {C : Core} {d : Nat} (h : CShape C d) (parts : List Name) (hl : parts.length ≤ d)
    (r : Bool) : findInTrieT C.trie parts r = findInTrie (keysAt d C.trie) parts r := by
  rw [findInTrie_eq_resolveR]
  unfold findInTrieT
  cases h with
  | empty h1 h2 h3 h4 =>
    have : parts = [] := List.length_eq_zero_iff.mp (Nat.le_zero.mp hl)
    subst this
    simp [inTrieT, inTrie]
  | full d hu ht hd ha => rw [inTrieT_refines d _ (Or.inl ht) parts hl]

theorem cFindU_spec {C : Core} {d : Nat} (h : CShape C d) (t : List Ident) (r : Bool) :
    Fills C d (cFindU C t r) (findUncached (absC C d) t r) := by
  have ha := cArgs_spec h
  have hfst : (cFindU C t r).1 = (cArgs C).1 := by
    unfold cFindU; simp only; split <;> rfl
  refine ⟨?_, hfst ▸ ha.shape, hfst ▸ ha.same⟩
  rw [findUncached_eq, depth_absC h]
  unfold cFindU
  simp only [ha.out]
  rw [ha.same.trie, ha.same.mapping, findInTrieT_eq h _ (List.length_take ▸ Nat.min_le_left _ _) r]
  simp only [absC]
  cases hf : findInTrie (keysAt d C.trie) (((t.map (·.name)).reverse).take d) r with
  | none | ambiguous => rfl
  | parts ps =>
    -- the resolved key is a key of the trie, hence of full length: `nested_get` walks the whole path
    have hmem := findInTrie_parts_mem hf
    have hpl : ps.length = d := keysAt_length _ _ _ hmem
    have hshape : Shape d C.mapping := by
      cases h with
      | empty _ h2 _ _ => rw [h2] at hmem; simp [Trie.empty, keysAt] at hmem
      | full d hu _ _ _ => exact hu.shape
    simp only
    rw [List.take_of_length_le (Nat.le_of_eq (List.length_reverse.trans hpl)), nestedGet_flatView d C.mapping ps.reverse hshape (List.length_reverse.trans hpl)]
    cases lookup (flatView d C.mapping) ps.reverse <;> rfl

/-- in this environment the type cache's key determines the parsed type (true for every covering layout; true
    for a text-only key exactly when the dialects in play parse the type texts alike) -/
def TypeKeyOK (L : Layouts) (E : Env) : Prop :=
  ∀ x y : TypeIn, typeKey L.ty x = typeKey L.ty y → tyParse E.ty x = tyParse E.ty y

/-- the type cache is sound (like `NamesInv`, `TablesInv` below); `TInv L E C` is this of `C.types` -/
def TypesInv (L : Layouts) (E : Env) (m : TypeCache) : Prop := MemoInv (typeKey L.ty) (tyParse E.ty) m

def TInv (L : Layouts) (E : Env) (C : Core) : Prop := MemoInv (typeKey L.ty) (tyParse E.ty) C.types

theorem SameData.tinv {C C' : Core} (h : SameData C C') (hT : TInv L E C) : TInv L E C' := by
  unfold TInv; rw [h.types]; exact hT

theorem typeCall_spec (hk : TypeKeyOK L E) (m : TypeCache) (hm : TypesInv L E m) (x : TypeIn) :
    (typeCall E.ty L.ty m x).2 = E.ty x.dialect.name x.tyStr ∧ TypesInv L E (typeCall E.ty L.ty m x).1 :=
  ⟨memoCall_snd _ _ _ _ _ m hm x, memoCall_inv _ _ _ _ _ (fun x y h => hk y x h) m hm x⟩

theorem convColsC_spec (hk : TypeKeyOK L E) : ∀ (cols : Cols) (m : TypeCache), TypesInv L E m →
    (convColsC E.ty L.ty E.self m cols).2 = convCols E true cols ∧ TypesInv L E (convColsC E.ty L.ty E.self m cols).1
  | [], m, hm => ⟨by simp [convColsC, convCols], hm⟩
  | (c, t) :: rest, m, hm => by
    obtain ⟨h1, h2⟩ := typeCall_spec hk m hm ⟨t, E.self⟩
    obtain ⟨h3, h4⟩ := convColsC_spec hk rest _ h2
    refine ⟨?_, h4⟩
    simp only [convColsC, h1, h3]
    simp [convCols]

/-- what a method that stays at its depth promises: the core returned `r` where the flat specification returns `s` — the
    same answer, and the core state left behind is admissible at depth `d`, has a sound type cache and stands for the
    flat state left behind -/
structure Sim (L : Layouts) (E : Env) (d : Nat) {α : Type} (r : Core × α) (s : St × α) : Prop where
  out : r.2 = s.2
  shape : CShape r.1 d
  types : TInv L E r.1
  abs : absC r.1 d = s.1

/-- what a method that may change the depth (`add_table` on an empty schema) promises: as `Sim`, but at some depth `d'`
    and up to `Equiv` (`nested_set` groups a new table under its parents, the flat `dictSet` appends it) -/
def Refines (L : Layouts) (E : Env) {α : Type} (r : Core × α) (s : St × α) : Prop :=
  r.2 = s.2 ∧ ∃ d', CShape r.1 d' ∧ TInv L E r.1 ∧ Equiv (absC r.1 d') s.1

theorem Sim.refines {d : Nat} {α : Type} {r : Core × α} {s : St × α} (h : Sim L E d r s) : Refines L E r s :=
  ⟨h.out, d, h.shape, h.types, h.abs ▸ Equiv.refl _⟩

theorem Sim.map {d : Nat} {α β : Type} {r : Core × α} {s : St × α} (h : Sim L E d r s) (f : α → β) :
    Sim L E d (r.1, f r.2) (s.1, f s.2) :=
  ⟨congrArg f h.out, h.shape, h.types, h.abs⟩

/-- a call followed by a step that itself keeps the contract, from whatever admissible state it starts in -/
theorem Sim.bind {d : Nat} {α β : Type} {r : Core × α} {s : St × α} (h : Sim L E d r s) {k : Core → α → Core × β}
    {o : α → β} (hk : ∀ C a, CShape C d → TInv L E C → Sim L E d (k C a) (absC C d, o a)) :
    Sim L E d (k r.1 r.2) (s.1, o s.2) :=
  h.out ▸ h.abs ▸ hk r.1 r.2 h.shape h.types

theorem cFind_spec (hk : TypeKeyOK L E) {C : Core} {d : Nat} (h : CShape C d)
    (hT : TInv L E C) (t : List Ident) (r e : Bool) :
    Sim L E d (cFind E L C t r e) (find E (absC C d) t r e) := by
  unfold cFind find
  rw [show (absC C d).cache = C.findCache from rfl]
  cases hl : lookup C.findCache (t, e) with
  | some cols => exact ⟨rfl, h, hT, rfl⟩
  | none =>
    simp only
    obtain ⟨out, shape, same⟩ := cFindU_spec h t r
    generalize cFindU C t r = cu at out shape same
    obtain ⟨C1, fr⟩ := cu
    simp only at out shape same
    rw [← out, ← same.abs d]
    have hT1 : TInv L E C1 := same.tinv hT
    cases fr with
    | notFound | err _ => exact ⟨rfl, shape, hT1, rfl⟩
    | found cols =>
      rw [← same.findCache]
      cases e with
      | false => exact ⟨rfl, shape.congr rfl rfl rfl rfl, hT1, rfl⟩
      | true =>
        obtain ⟨hc1, hc2⟩ := convColsC_spec hk cols C1.types hT1
        simp only [if_true, hc1]
        exact ⟨rfl, shape.congr rfl rfl rfl rfl, hc2, rfl⟩

/-- an empty schema may be read at any depth: what the writing half of `add_table` needs of a state of depth
    `0` or `n + 1` -/
theorem CShape.weaken {C : Core} {d : Nat} (h : CShape C d) {n : Nat} (hd : d = 0 ∨ d = n + 1) :
    Filling (n + 1) C.mapping ∧ FillingT (n + 1) C.trie ∧
    (C.depthC = 0 ∨ C.depthC = n + 1) ∧ (C.argsC = 0 ∨ C.argsC = n + 1) ∧ absC C d = absC C (n + 1) := by
  cases h with
  | empty h1 h2 h3 h4 => exact ⟨.inr h1, .inr h2, .inl h3, .inl h4, by simp [absC, h1, h2, flatView, keysAt, Trie.empty]⟩
  | full d0 hu ht hdc hac =>
    have : d0 = n := by omega
    subst this
    exact ⟨.inl hu, .inl ht, hdc, hac, rfl⟩

theorem setCore_spec {C1 : Core} {d : Nat} (h : CShape C1 d) (path : Path) (n : Nat) (hl : path.length = n + 1)
    (hd : d = 0 ∨ d = n + 1) (ncols : Cols) (fc : List (CKey × Cols)) :
    CShape (setCore C1 path ncols fc) (n + 1) ∧
    Equiv (absC (setCore C1 path ncols fc) (n + 1)) (setSt (absC C1 d) path ncols fc) := by
  obtain ⟨hm, ht, hdc, hac, habs⟩ := h.weaken hd
  rw [habs]
  have hU := uniform_nestedSet n C1.mapping path ncols hm hl
  have hT := trieInsert_spec path.reverse (n + 1) C1.trie ht (by simp [hl])
  have hF := flatView_nestedSet n C1.mapping path ncols hm.shape hl
  -- the depth cannot change, so a lazily cached `_depth` stays correct
  have hsh : CShape (setCore C1 path ncols fc) (n + 1) := .full n hU hT.1 hdc hac
  refine ⟨hsh, ?_, ?_, ?_, fun q => (hT.2 q).trans mem_insertKey.symm, rfl⟩
  · intro q
    simp only [absC, setCore, setSt, lookup_dictSet]
    exact hF.2 q
  · exact ⟨fun x => absurd x (depth_absC_full hU).2, fun x => absurd x (dictSet_ne_nil _ _ _)⟩
  · rw [depth_absC hsh, depth_setSt]
    split
    · exact hl.symm
    · rename_i hne
      rcases hm with hu | e
      · exact (depth_absC_full hu).1.symm
      · exact absurd (by simp [absC, e, flatView]) hne

theorem isEmptyDict_iff {C : Core} {d : Nat} (h : CShape C d) :
    C.mapping.isEmptyDict = true ↔ (absC C d).mapping = [] := by
  cases h with
  | empty h1 _ _ _ => simp [h1, Tree.isEmptyDict, absC, flatView]
  | full d0 hu _ _ _ => simp [uniform_not_empty hu, (depth_absC_full (C := C) hu).2]

/-- `find(raise_on_missing=False)` raises nothing, so the unchecked `add_table` is: return early, or write -/
theorem coreAddNoCheck_eq (E : Env) (L : Layouts) (C : Core) (nt : List Ident) (ncols : Cols)
    (hne : ∀ x, (cFind E L C nt false false).2 ≠ .err x) :
    coreAddNoCheck E L C nt ncols =
      if earlyReturn (cFind E L C nt false false).2 ncols then ((cFind E L C nt false false).1, .unit)
      else (setCore (cFind E L C nt false false).1 (nt.map Ident.name) ncols
        (evict L.evict (cFind E L C nt false false).1.findCache nt), .unit) := by
  unfold coreAddNoCheck
  generalize cFind E L C nt false false = cr at hne ⊢
  obtain ⟨C1, fr⟩ := cr
  cases fr with
  | err x => exact absurd rfl (hne x)
  | notFound | found _ => rfl

theorem coreAddNoCheck_spec (hk : TypeKeyOK L E) {C : Core} {d : Nat} (h : CShape C d)
    (hT : TInv L E C) (nt : List Ident) (ncols : Cols) (hnt : nt ≠ []) (hd : d = 0 ∨ nt.length = d) :
    Refines L E (coreAddNoCheck E L C nt ncols) (stepN E L.evict (absC C d) (.addTable nt ncols)) := by
  obtain ⟨n, hn⟩ : ∃ n, nt.length = n + 1 := by
    cases nt with
    | nil => exact absurd rfl hnt
    | cons a as => exact ⟨as.length, rfl⟩
  have hp : ¬ ((absC C d).mapping ≠ [] ∧ nt.length ≠ depth (absC C d)) := by
    rintro ⟨h1, h2⟩
    rcases hd with e | e
    · subst e; exact h1 ((isEmptyDict_iff h).mp (by cases h with | empty e1 _ _ _ => rw [e1]; rfl))
    · exact h2 (by rw [depth_absC h, e])
  have hf := cFind_spec hk h hT nt false false
  have hne : ∀ x, (cFind E L C nt false false).2 ≠ .err x := fun x => hf.out ▸ find_noraise E (absC C d) nt false x
  rw [stepN_addTable, if_neg hp, ← hf.out, ← hf.abs, coreAddNoCheck_eq E L C nt ncols hne]
  cases earlyReturn (cFind E L C nt false false).2 ncols
  · obtain ⟨s1, s2⟩ := setCore_spec hf.shape (nt.map Ident.name) n (by simpa using hn) (by omega) ncols
      (evict L.evict (cFind E L C nt false false).1.findCache nt)
    exact ⟨rfl, n + 1, s1, hf.types, s2⟩
  · exact ⟨rfl, d, hf.shape, hf.types, Equiv.refl _⟩

theorem cTypeOut_spec (hk : TypeKeyOK L E) {C : Core} {d : Nat} (h : CShape C d)
    (hT : TInv L E C) (dr : DialectRef) (nc : Name) (r : FindR) :
    Sim L E d (cTypeOut E L C dr nc r) (absC C d, typeOut E dr nc r) := by
  unfold cTypeOut typeOut
  cases r with
  | notFound | err _ => exact ⟨rfl, h, hT, rfl⟩
  | found cols =>
    simp only
    cases lookup cols nc with
    | none => exact ⟨rfl, h, hT, rfl⟩
    | some ty =>
      obtain ⟨t1, t2⟩ := typeCall_spec hk C.types hT ⟨ty, dr⟩
      exact ⟨congrArg Out.ty t1, h.congr rfl rfl rfl rfl, t2, rfl⟩

theorem cNamesOut_spec {C : Core} {d : Nat} (h : CShape C d) (hT : TInv L E C)
    (nt : List Ident) (ov : Bool) (r : FindR) :
    Sim L E d (cNamesOut E C nt ov r) (absC C d, namesOut E d nt ov r) := by
  have ha := cArgs_spec h
  unfold cNamesOut namesOut
  cases r with
  | notFound | err _ => exact ⟨rfl, h, hT, rfl⟩
  | found cols =>
    simp only [ha.out]
    split
    · exact ⟨rfl, h, hT, rfl⟩
    · cases E.vis (List.take d (List.map (fun x => x.name) nt)) <;> exact ⟨rfl, ha.shape, ha.same.tinv hT, ha.same.abs d⟩

/-- `FAdm` after normalisation: the table of an `add_table` still has a part -/
def NAdm : NOp → Prop
  | .addTable nt _ => nt ≠ []
  | _ => True

theorem coreStep_addTable (E : Env) (L : Layouts) (C : Core) (nt : List Ident) (ncols : Cols) :
    coreStep E L C (.addTable nt ncols) =
      if !C.mapping.isEmptyDict && nt.length != (cDepth C).2 then ((cDepth C).1, .err .depthMismatch)
      else coreAddNoCheck E L (if C.mapping.isEmptyDict then C else (cDepth C).1) nt ncols := rfl

/-- the nesting check of `add_table` on the core is the one of the flat specification -/
theorem depthCheck_iff {C : Core} {d : Nat} (h : CShape C d) (nt : List Ident) :
    (!C.mapping.isEmptyDict && nt.length != (cDepth C).2) = true ↔
      ((absC C d).mapping ≠ [] ∧ nt.length ≠ depth (absC C d)) := by
  simp [(cDepth_spec h).out, depth_absC h, ← isEmptyDict_iff h]

theorem coreStep_spec (hk : TypeKeyOK L E) {C : Core} {d : Nat} (h : CShape C d)
    (hT : TInv L E C) (op : NOp) (hop : NAdm op) :
    Refines L E (coreStep E L C op) (stepN E L.evict (absC C d) op) := by
  cases op with
  | find table raise ensure => exact ((cFind_spec hk h hT table raise ensure).map Out.findR).refines
  | hasColumn nt nc => exact ((cFind_spec hk h hT nt false false).map (hasOut nc)).refines
  | columnType nt nc dr =>
    exact ((cFind_spec hk h hT nt false false).bind fun _ r hC hT => cTypeOut_spec hk hC hT dr nc r).refines
  | columnNames nt ov =>
    rw [stepN_columnNames, depth_absC h]
    exact ((cFind_spec hk h hT nt true false).bind fun _ r hC hT => cNamesOut_spec hC hT nt ov r).refines
  | addTable nt ncols =>
    -- after the nesting check the call continues from `C` or from the state `cDepth` left: the same flat state
    have hD := cDepth_spec h
    have h0 : CShape (if C.mapping.isEmptyDict then C else (cDepth C).1) d ∧
        SameData C (if C.mapping.isEmptyDict then C else (cDepth C).1) := by
      split
      · exact ⟨h, .refl C⟩
      · exact ⟨hD.shape, hD.same⟩
    have hcond := depthCheck_iff h nt
    rw [coreStep_addTable]
    by_cases hc : (absC C d).mapping ≠ [] ∧ nt.length ≠ depth (absC C d)
    · rw [if_pos (hcond.mpr hc), stepN_addTable, if_pos hc]
      exact ⟨rfl, d, hD.shape, hD.same.tinv hT, hD.same.abs d ▸ Equiv.refl _⟩
    · rw [if_neg (mt hcond.mp hc), ← h0.2.abs d]
      refine coreAddNoCheck_spec hk h0.1 (h0.2.tinv hT) nt ncols hop ?_
      rw [depth_absC h] at hc
      cases h with
      | empty _ _ _ _ => exact Or.inl rfl
      | full d0 hu _ _ _ =>
        exact Or.inr (Decidable.byContradiction fun hne => hc ⟨(depth_absC_full hu).2, hne⟩)

/-- the name cache's key determines the normalised name (as `TypeKeyOK` for the type cache) -/
def NameKeyOK (L : Layouts) (E : Env) : Prop :=
  ∀ x y : NameIn, nameKey L.name x = nameKey L.name y → nameCompute E.f x = nameCompute E.f y

/-- the table cache stores an entry under the NORMALISED table, not under the key of the call that computed it, so the
    condition has the shape `memoCall_inv` asks for: whoever hits the entry stored for `x` computes what `x` computes -/
def TableKeyOK (L : Layouts) (E : Env) : Prop :=
  ∀ x y : TableIn, tableKey L.table y = tableKey L.table { x with table := tableCompute E.f x } →
    tableCompute E.f y = tableCompute E.f x

def NamesInv (L : Layouts) (E : Env) (m : NameCache) : Prop := MemoInv (nameKey L.name) (nameCompute E.f) m
def TablesInv (L : Layouts) (E : Env) (m : TableCache) : Prop := MemoInv (tableKey L.table) (tableCompute E.f) m

theorem nameCall_spec (hk : NameKeyOK L E) (m : NameCache) (hm : NamesInv L E m)
    (x : NameIn) : (nameCall E.f L.name m x).2 = nameCompute E.f x ∧ NamesInv L E (nameCall E.f L.name m x).1 :=
  ⟨memoCall_snd _ _ _ _ _ m hm x, memoCall_inv _ _ _ _ _ (fun x y h => hk y x h) m hm x⟩

theorem tableCall_spec (hk : TableKeyOK L E) (m : TableCache) (hm : TablesInv L E m)
    (x : TableIn) :
    (tableCall E.f L.table m x).2 = normTable E.f x.dialect.dia x.normalize x.table ∧
    TablesInv L E (tableCall E.f L.table m x).1 :=
  ⟨memoCall_snd _ _ _ _ _ m hm x, memoCall_inv _ _ _ _ _ (fun x y h => hk x y h) m hm x⟩

theorem nameCompute_col (f : CaseFns) (c : ColArg) (d : DialectRef) (norm : Bool) :
    nameCompute f (c.nameIn d false norm) = normCol f d.dia norm c.toIdent := by
  cases c <;> rfl

theorem normColsC_spec (hk : NameKeyOK L E) (d : DialectRef) (norm : Bool) :
    ∀ (cols : List (String × String)) (m : NameCache), NamesInv L E m →
    (normColsC E L d norm m cols).2 =
      (cols.map (fun c => ((ColArg.str c.1).toIdent, c.2))).map (fun c => (normCol E.f d.dia norm c.1, c.2)) ∧
    NamesInv L E (normColsC E L d norm m cols).1
  | [], m, hm => ⟨rfl, hm⟩
  | (c, ty) :: rest, m, hm => by
    obtain ⟨h1, h2⟩ := nameCall_spec hk m hm ⟨c, false, d, false, norm⟩
    obtain ⟨h3, h4⟩ := normColsC_spec hk d norm rest _ h2
    refine ⟨?_, h4⟩
    simp only [normColsC, h1, h3, List.map_cons]
    rw [← nameCompute_col E.f (.str c) d norm]
    rfl

theorem fNormOp_spec (hkn : NameKeyOK L E) (hkt : TableKeyOK L E) (F : FSt)
    (hn : NamesInv L E F.names) (ht : TablesInv L E F.tables) (op : FOp) :
    (fNormOp E L F op).2 = normOp E op.toOp ∧
    NamesInv L E (fNormOp E L F op).1.1 ∧ TablesInv L E (fNormOp E L F op).1.2 := by
  cases op with
  | find table raise ensure => exact ⟨rfl, hn, ht⟩
  | addTable d norm t cols =>
    obtain ⟨t1, t2⟩ := tableCall_spec hkt F.tables ht ⟨t.parts, t.isStr, d, norm⟩
    obtain ⟨c1, c2⟩ := normColsC_spec hkn d norm cols.pairs F.names hn
    simp only [fNormOp, FOp.toOp, normOp, t1, c1]
    exact ⟨trivial, c2, t2⟩
  | columnNames d norm t ov =>
    obtain ⟨t1, t2⟩ := tableCall_spec hkt F.tables ht ⟨t.parts, t.isStr, d, norm⟩
    simp only [fNormOp, FOp.toOp, normOp, t1]
    exact ⟨trivial, hn, t2⟩
  | columnType d norm t col | hasColumn d norm t col =>
    obtain ⟨t1, t2⟩ := tableCall_spec hkt F.tables ht ⟨t.parts, t.isStr, d, norm⟩
    obtain ⟨n1, n2⟩ := nameCall_spec hkn F.names hn (col.nameIn d false norm)
    simp only [fNormOp, FOp.toOp, normOp, t1, n1, nameCompute_col]
    exact ⟨trivial, n2, t2⟩

structure FInv (L : Layouts) (E : Env) (F : FSt) (d : Nat) : Prop where
  shape : CShape F.core d
  types : TInv L E F.core
  names : NamesInv L E F.names
  tables : TablesInv L E F.tables

/-- a schema as a constructor leaves it: the type cache and the table cache still empty -/
theorem FInv.init {F : FSt} {d : Nat} (h : CShape F.core d) (hy : F.core.types = []) (hn : NamesInv L E F.names)
    (ht : F.tables = []) : FInv L E F d :=
  ⟨h, by unfold TInv; rw [hy]; exact memoInv_nil _ _, hn, by unfold TablesInv; rw [ht]; exact memoInv_nil _ _⟩

/-- a `Table` always has at least its `this` part -/
def FAdm : FOp → Prop
  | .addTable _ _ t _ => t.parts ≠ []
  | _ => True

structure KeysOK (L : Layouts) (E : Env) : Prop where
  ty : TypeKeyOK L E
  name : NameKeyOK L E
  table : TableKeyOK L E

theorem normTable_ne_nil (f : CaseFns) (d : Dia) (norm : Bool) (t : List Ident) (h : t ≠ []) :
    normTable f d norm t ≠ [] := by
  unfold normTable; split
  · simpa using h
  · exact h

theorem fStep_refines (hk : KeysOK L E) {F : FSt} {d : Nat} {S : St}
    (hF : FInv L E F d) (hEq : Equiv (absC F.core d) S) (op : FOp) (hop : FAdm op) :
    (fStep E L F op).2 = (step E L.evict S op.toOp).2 ∧
    ∃ d', FInv L E (fStep E L F op).1 d' ∧ Equiv (absC (fStep E L F op).1.core d') (step E L.evict S op.toOp).1 := by
  obtain ⟨n1, n2, n3⟩ := fNormOp_spec hk.name hk.table F hF.names hF.tables op
  have hadm : NAdm (normOp E op.toOp) := by
    cases op with
    | addTable d norm t cols => exact normTable_ne_nil _ _ _ _ hop
    | _ => trivial
  unfold fStep step
  simp only
  rw [n1]
  obtain ⟨c1, d', c2, c3, c4⟩ := coreStep_spec hk.ty hF.shape hF.types (normOp E op.toOp) hadm
  obtain ⟨e1, e2⟩ := stepN_congr E L.evict hEq (normOp E op.toOp)
  exact ⟨c1.trans e1, d', ⟨c2, c3, n2, n3⟩, c4.trans e2⟩

theorem fRun_refines (hk : KeysOK L E) : ∀ (ops : List FOp) {F : FSt} {d : Nat} {S : St},
    FInv L E F d → Equiv (absC F.core d) S → (∀ op ∈ ops, FAdm op) →
    ∃ d', FInv L E (fRun E L F ops) d' ∧ Equiv (absC (fRun E L F ops).core d') (run E L.evict S (ops.map FOp.toOp))
  | [], F, d, S, hF, hEq, _ => ⟨d, hF, hEq⟩
  | op :: ops, F, d, S, hF, hEq, hadm => by
    obtain ⟨_, d', h1, h2⟩ := fStep_refines hk hF hEq op (hadm op (List.mem_cons_self ..))
    exact fRun_refines hk ops h1 h2 (fun o ho => hadm o (List.mem_cons_of_mem _ ho))

theorem fRun_refines_fresh (hk : KeysOK L E) (hev : L.evict = .all) {F0 : FSt} {d : Nat}
    {S0 : St} (hF : FInv L E F0 d) (hS : Inv E S0) (hEq : Equiv (absC F0.core d) S0) (ops : List FOp)
    (hadm : ∀ op ∈ ops, FAdm op) (q : FOp) (hq : FAdm q) :
    (fStep E L (fRun E L F0 ops) q).2 = (step E .all (fresh (run E .all S0 (ops.map FOp.toOp))) q.toOp).2 := by
  obtain ⟨d', h1, h2⟩ := fRun_refines hk ops hF hEq hadm
  obtain ⟨h3, _⟩ := fStep_refines hk h1 h2 q hq
  rw [h3, hev]
  exact run_answers_fresh hS _ _

/-! ### several live schemas -/

theorem wStep_other (W : World) (i j : Nat) (op : FOp) (h : i ≠ j) :
    (wStep E L W i op).1[j]? = W[j]? := by
  unfold wStep
  cases W[i]? with
  | none => rfl
  | some F => exact List.getElem?_set_ne h

theorem wRun_other (i j : Nat) (h : i ≠ j) : ∀ (ops : List FOp) (W : World),
    (ops.foldl (fun w op => (wStep E L w i op).1) W)[j]? = W[j]?
  | [], _ => rfl
  | op :: ops, W => (wRun_other i j h ops _).trans (wStep_other W i j op h)

/-- a copy is appended: the schemas that were there keep their places -/
theorem wCopy_other (W : World) (i j : Nat) (norm : Bool) (hj : j < W.length) :
    (wCopy E L W i norm).1[j]? = W[j]? := by
  unfold wCopy
  cases W[i]? with
  | none => rfl
  | some F =>
    dsimp only
    cases fCopy E L F norm with
    | error e => rfl
    | ok F' => exact List.getElem?_append_left hj

end SqlglotModel.Schema
