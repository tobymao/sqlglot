/-
  C18: expression-keyed dicts are content-keyed dicts while cached hashes are fresh (`AllFresh`): `hLookup` / `hSet` are
  `lookup` / `dictSet` on the `contentView`.  `Coh` adds that every cache entry is the uncached answer.
-/
import SqlglotModel.Model.SchemaHash
import SqlglotModel.Proofs.Schema

namespace SqlglotModel.Schema
open SqlglotModel.Ident

def AllFresh {β} (m : List (HKey × β)) : Prop := ∀ kv ∈ m, kv.1.Fresh

theorem hLookup_fresh {β} (m : List (HKey × β)) (hm : AllFresh m) (k : HKey) (hk : k.Fresh) :
    hLookup m k = lookup (contentView m) k.content := by
  induction m with
  | nil => rfl
  | cons x xs ih =>
    obtain ⟨k', v⟩ := x
    have hk' : k'.Fresh := hm (k', v) (List.mem_cons_self ..)
    simp only [hLookup, contentView, List.map_cons, lookup]
    rw [hk', hk]
    split
    · rfl
    · exact ih (fun kv h => hm kv (List.mem_cons_of_mem _ h))

theorem hSet_fresh {β} (m : List (HKey × β)) (hm : AllFresh m) (k : HKey) (hk : k.Fresh) (v : β) :
    contentView (hSet m k v) = dictSet (contentView m) k.content v ∧ AllFresh (hSet m k v) := by
  induction m with
  | nil =>
    refine ⟨rfl, ?_⟩
    intro kv h; simp [hSet] at h; subst h; exact hk
  | cons x xs ih =>
    obtain ⟨k', v'⟩ := x
    have hk' : k'.Fresh := hm (k', v') (List.mem_cons_self ..)
    obtain ⟨i1, i2⟩ := ih (fun kv h => hm kv (List.mem_cons_of_mem _ h))
    simp only [hSet, contentView, List.map_cons, dictSet]
    rw [hk', hk]
    split
    · refine ⟨rfl, ?_⟩
      intro kv h
      cases h with
      | head => exact hk'
      | tail _ h => exact hm kv (List.mem_cons_of_mem _ h)
    · refine ⟨by simp only [List.map_cons]; exact congrArg _ i1, ?_⟩
      intro kv h
      cases h with
      | head => exact hk'
      | tail _ h => exact i2 kv h

theorem renameParts_api_fresh (f : Ident → Ident) (t : HKey) : (renameParts true f t).Fresh := rfl

variable {look : List Ident → Option Cols} {cache : List (HKey × Cols)}

/-- the cache invariant of the reduced schema: every key is fresh and every entry is the uncached answer -/
def Coh (look : List Ident → Option Cols) (cache : List (HKey × Cols)) : Prop :=
  ∀ kv ∈ cache, kv.1.Fresh ∧ look kv.1.content = some kv.2

theorem Coh.allFresh (hc : Coh look cache) :
    AllFresh cache := fun kv h => (hc kv h).1

theorem Coh.look_of_mem (hc : Coh look cache)
    {p : List Ident} {c : Cols} (h : (p, c) ∈ contentView cache) : look p = some c := by
  obtain ⟨kv, hkv, e⟩ := List.mem_map.mp h
  cases e
  exact (hc kv hkv).2

theorem hLookup_coh (hc : Coh look cache)
    {k : HKey} (hk : k.Fresh) {c : Cols} (h : hLookup cache k = some c) : look k.content = some c :=
  hc.look_of_mem (mem_of_lookup (hLookup_fresh cache hc.allFresh k hk ▸ h))

theorem hSet_coh (hc : Coh look cache)
    {k : HKey} (hk : k.Fresh) {c : Cols} (hl : look k.content = some c) : Coh look (hSet cache k c) := by
  obtain ⟨e, hf⟩ := hSet_fresh cache hc.allFresh k hk c
  intro kv hkv
  have : (kv.1.content, kv.2) ∈ contentView (hSet cache k c) := List.mem_map.mpr ⟨kv, hkv, rfl⟩
  rw [e] at this
  rcases mem_dictSet this with h | h
  · exact ⟨hf kv hkv, by rw [(Prod.mk.inj h).1, (Prod.mk.inj h).2]; exact hl⟩
  · exact ⟨hf kv hkv, hc.look_of_mem h⟩

theorem findVia_api_spec (look : List Ident → Option Cols) (cache : List (HKey × Cols)) (hc : Coh look cache)
    (f : Ident → Ident) (norm : Bool) (t : HKey) (ht : t.Fresh) :
    (findVia true look cache f norm t).2 = look (if norm then t.content.map f else t.content) ∧
    Coh look (findVia true look cache f norm t).1 := by
  unfold findVia
  simp only
  have hnt : (if norm then renameParts true f ⟨t.content, some t.hashOf⟩ else ⟨t.content, some t.hashOf⟩ : HKey).Fresh := by
    cases norm
    · exact ht
    · exact renameParts_api_fresh f _
  have hcont : (if norm then renameParts true f ⟨t.content, some t.hashOf⟩ else ⟨t.content, some t.hashOf⟩ : HKey).content =
      (if norm then t.content.map f else t.content) := by
    cases norm <;> rfl
  generalize (if norm then renameParts true f ⟨t.content, some t.hashOf⟩ else ⟨t.content, some t.hashOf⟩ : HKey) = nt
    at hnt hcont
  rw [← hcont]
  cases hl : hLookup cache nt with
  | some c => exact ⟨(hLookup_coh hc hnt hl).symm, hc⟩
  | none =>
    simp only
    cases hq : look nt.content with
    | some c => exact ⟨rfl, hSet_coh hc hnt hq⟩
    | none => exact ⟨rfl, hc⟩

end SqlglotModel.Schema
