/-
  C18: a memo table never changes an answer when the key an entry is stored under determines the result (`MemoInv`).
  `_normalized_table_cache` stores under the NORMALISED table; that key determines the result because the schema's name
  normalisation is idempotent (`normTable_idem`, over `normalize_idem` of Proofs/Ident.lean).
-/
import SqlglotModel.Model.SchemaMemo
import SqlglotModel.Proofs.Schema
import SqlglotModel.Proofs.Ident

namespace SqlglotModel.Schema
open SqlglotModel.Ident

/-- the memo invariant: every stored entry equals the uncached value of every input that maps to its key.  (C10 runs the
    same argument for its own memo, which conses where this one uses `dictSet`: `Qualify.MemoOk`, Proofs/QualifyIdent.lean.) -/
def MemoInv {ι κ β} [DecidableEq κ] (key : ι → κ) (g : ι → β) (m : List (κ × β)) : Prop :=
  ∀ k v, lookup m k = some v → ∀ y, key y = k → g y = v

theorem memoInv_nil {ι κ β} [DecidableEq κ] (key : ι → κ) (g : ι → β) : MemoInv key g ([] : List (κ × β)) := by
  intro k v h; simp [lookup] at h

section
variable {ι κ β : Type} [DecidableEq κ] (key : ι → κ) (storeKey : ι → β → κ) (consult : ι → Bool) (g : ι → β)
  (truthy : β → Bool)

theorem memoCall_snd (m : List (κ × β)) (hm : MemoInv key g m) (x : ι) :
    (memoCall key storeKey consult g truthy m x).2 = g x := by
  unfold memoCall
  cases hc : consult x
  · simp
  · simp only [if_true]
    cases hl : lookup m (key x) with
    | none => simp
    | some v =>
      simp only
      split
      · exact (hm _ _ hl x rfl).symm
      · rfl

theorem memoCall_inv (hstore : ∀ x y, key y = storeKey x (g x) → g y = g x)
    (m : List (κ × β)) (hm : MemoInv key g m) (x : ι) :
    MemoInv key g (memoCall key storeKey consult g truthy m x).1 := by
  have hset : MemoInv key g (dictSet m (storeKey x (g x)) (g x)) := by
    intro k v hk y hy
    rw [lookup_dictSet] at hk
    split at hk
    · rename_i e
      injection hk with hk
      subst hk
      exact hstore x y (by rw [hy, e])
    · exact hm k v hk y hy
  unfold memoCall
  split
  · split
    · exact hm
    · exact hset
  · exact hset

theorem memoRun_inv (hstore : ∀ x y, key y = storeKey x (g x) → g y = g x)
    (m : List (κ × β)) (hm : MemoInv key g m) (xs : List ι) :
    MemoInv key g (memoRun key storeKey consult g truthy m xs) := by
  induction xs generalizing m with
  | nil => exact hm
  | cons x xs ih => exact ih _ (memoCall_inv key storeKey consult g truthy hstore m hm x)
end

theorem key_agrees {ι φ} [DecidableEq φ] (proj : φ → ι → FVal) {layout reads : List φ}
    (hc : covers layout reads = true) {x y : ι}
    (h : layout.map (fun fld => proj fld x) = layout.map (fun fld => proj fld y)) :
    ∀ fld ∈ reads, proj fld x = proj fld y :=
  fun fld hf => List.map_inj_left.mp h fld (by simpa using List.all_eq_true.mp hc fld hf)

theorem normIdent_idem (f : CaseFns) (hf : f.Ok) (d : Dia) (isT : Bool) (i : Ident) :
    normIdent f d isT (normIdent f d isT i) = normIdent f d isT i := by
  unfold normIdent
  split
  · cases isT
    · simp only [Bool.false_eq_true, if_false, hf.lower_idem]
    · rfl
  · exact normalize_idem f hf d.st i

theorem normTable_idem (f : CaseFns) (hf : f.Ok) (d : Dia) (norm : Bool) (t : List Ident) :
    normTable f d norm (normTable f d norm t) = normTable f d norm t := by
  cases norm
  · simp [normTable]
  · simp [normTable, List.map_map, Function.comp_def, normIdent_idem f hf]

end SqlglotModel.Schema
