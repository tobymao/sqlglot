/-
  C18: the nested dict and the nested trie refine the flat view on uniform-depth structures (`Shape` / `Uniform`,
  `UniformT`): `nested_get` / `nested_set` are `lookup` / `dictSet` on `flatView`, `in_trie` on the nested trie is `inTrie`
  on its key list `keysAt`.  Both structures are taken apart one level at a time through the slot of a key (`slot`,
  `slotT`: the child under the key, the empty structure when the key is new), so that hit and miss are one case.
  The trie half (from `UniformT` on) mirrors the dict half lemma by lemma: `keysAt` for `flatView`, `slotT` for `slot`,
  `trieInsert_spec` for `setSlot_spec`, membership in the key list for `lookup`; `trieOfPaths_spec` is `trieInsert_spec`
  along a list of paths.
-/
import SqlglotModel.Model.SchemaTree
import SqlglotModel.Proofs.Schema
import SqlglotModel.Proofs.List

namespace SqlglotModel.Schema

/-- shape of a mapping whose tables sit exactly `d` levels deep (dict keys are distinct) -/
def Shape : Nat → Tree → Prop
  | 0, t => ∃ cols, t = .leaf cols
  | d + 1, t => ∃ kids, t = .node kids ∧ (kids.map (·.1)).Nodup ∧ ∀ kv ∈ kids, Shape d kv.2

/-- … and no namespace level is empty -/
def Uniform : Nat → Tree → Prop
  | 0, t => ∃ cols, t = .leaf cols
  | d + 1, t => ∃ kids, t = .node kids ∧ kids ≠ [] ∧ (kids.map (·.1)).Nodup ∧ ∀ kv ∈ kids, Uniform d kv.2

theorem Uniform.shape : ∀ {d t}, Uniform d t → Shape d t
  | 0, _, h => h
  | _ + 1, _, ⟨kids, e, _, hn, hk⟩ => ⟨kids, e, hn, fun kv hkv => (hk kv hkv).shape⟩

theorem Uniform.leaf (c : Cols) : Uniform 0 (.leaf c) := ⟨c, rfl⟩

theorem Uniform.single {d : Nat} {t : Tree} (k : Name) (h : Uniform d t) : Uniform (d + 1) (.node [(k, t)]) :=
  ⟨_, rfl, by simp, by simp, by simpa using h⟩

theorem shape_empty (d : Nat) : Shape (d + 1) (.node []) := ⟨[], rfl, by simp, by simp⟩

/-- a nested dict that `add_table` / the constructor is filling: uniform of depth `d`, or still `{}` -/
def Filling (d : Nat) (m : Tree) : Prop := Uniform d m ∨ m = .node []

theorem Filling.kids {d : Nat} {t : Tree} (h : Filling (d + 1) t) :
    ∃ kids, t = .node kids ∧ (kids.map (·.1)).Nodup ∧ ∀ kv ∈ kids, Uniform d kv.2 := by
  rcases h with ⟨kids, e, _, hn, hk⟩ | e
  · exact ⟨kids, e, hn, hk⟩
  · exact ⟨[], e, by simp, by simp⟩

theorem Filling.shape {d : Nat} {m : Tree} (h : Filling (d + 1) m) : Shape (d + 1) m :=
  h.elim Uniform.shape (· ▸ shape_empty d)

theorem lookup_map_cons (l : List (Path × Cols)) (k' k : Name) (p : Path) :
    lookup (l.map (fun pc => (k' :: pc.1, pc.2))) (k :: p) = if k' = k then lookup l p else none := by
  induction l with
  | nil => simp [lookup]
  | cons x xs ih =>
    simp only [List.map_cons, lookup, List.cons.injEq, ih]
    by_cases e : k' = k <;> simp [e]

theorem flatView_emptyNode (d : Nat) : flatView d (.node []) = [] := by cases d <;> rfl

theorem getD_lookup_cases {γ} {P : γ → Prop} {kids : List (Name × γ)} (hk : ∀ kv ∈ kids, P kv.2) (k : Name) (e : γ) :
    P ((lookup kids k).getD e) ∨ (lookup kids k).getD e = e := by
  cases hlk : lookup kids k with
  | none => exact Or.inr rfl
  | some s => exact Or.inl (hk _ (mem_of_lookup hlk))

/-- the sub-dict under a key; a fresh `{}` when the key is new (its flat view is empty at every depth) -/
def slot (kids : List (Name × Tree)) (k : Name) : Tree := (lookup kids k).getD (.node [])

theorem slot_cons (k' : Name) (s' : Tree) (xs : List (Name × Tree)) (k : Name) :
    slot ((k', s') :: xs) k = if k' = k then s' else slot xs k := by
  unfold slot; simp only [lookup]; split <;> rfl

theorem lookup_flatView_node (d : Nat) (kids : List (Name × Tree)) (hn : (kids.map (·.1)).Nodup) (k : Name)
    (q : Path) : lookup (flatView (d + 1) (.node kids)) (k :: q) = lookup (flatView d (slot kids k)) q := by
  induction kids with
  | nil => exact (congrArg (lookup · q) (flatView_emptyNode d)).symm
  | cons x xs ih =>
    obtain ⟨k', s'⟩ := x
    simp only [List.map_cons, List.nodup_cons] at hn
    rw [show flatView (d + 1) (.node ((k', s') :: xs)) =
        (flatView d s').map (fun pc => (k' :: pc.1, pc.2)) ++ flatView (d + 1) (.node xs) from rfl,
      lookup_append, lookup_map_cons, ih hn.2, slot_cons]
    by_cases e : k' = k
    · subst e
      rw [if_pos rfl, if_pos rfl, slot, lookup_none_iff.mpr hn.1, Option.getD_none, flatView_emptyNode]
      cases lookup (flatView d s') q <;> rfl
    · rw [if_neg e, if_neg e]; rfl

theorem lookup_flatView_nil (d : Nat) (kids : List (Name × Tree)) :
    lookup (flatView (d + 1) (.node kids)) [] = none := by
  rw [lookup_none_iff]
  simp only [flatView, List.map_flatMap, List.mem_flatMap, List.mem_map, not_exists, not_and]
  intro kv _ p hp
  obtain ⟨pc, _, e⟩ := hp
  intro e2; rw [← e] at e2; cases e2

theorem nestedGet_flatView : ∀ (d : Nat) (m : Tree) (path : Path), Shape d m → path.length = d →
    nestedGet m path = match lookup (flatView d m) path with
      | some c => .found (.leaf c)
      | none => .missing
  | 0, m, path, ⟨cols, e⟩, hl => by
    subst e
    have : path = [] := List.length_eq_zero_iff.mp hl
    subst this
    simp [nestedGet, flatView, lookup]
  | d + 1, m, path, ⟨kids, e, hn, hk⟩, hl => by
    subst e
    match path, hl with
    | k :: rest, hl =>
      rw [lookup_flatView_node d kids hn]
      simp only [nestedGet, slot]
      cases hlk : lookup kids k with
      | none => rw [Option.getD_none, flatView_emptyNode]; rfl
      | some sub => exact nestedGet_flatView d sub rest (hk _ (mem_of_lookup hlk)) (by simpa using hl)

/-- what `nested_set` puts into the slot of a key: at the end of the path the value itself, before it the result
    of setting into the sub-dict the slot holds -/
def setSlot (sub : Tree) (path : Path) (v : Tree) : Tree := if path = [] then v else nestedSet sub path v

theorem nestedSet_node (kids : List (Name × Tree)) (k : Name) (rest : Path) (v : Tree) :
    nestedSet (.node kids) (k :: rest) v = .node (dictSet kids k (setSlot (slot kids k) rest v)) := by
  cases rest with
  | nil => rfl
  | cons k1 r => simp only [nestedSet, setSlot, slot]; cases lookup kids k <;> rfl

/-- `sub` is what the slot of a key holds in a well-shaped dict: a well-shaped sub-dict, or the fresh `{}` of a new key
    (which `Shape 0` does not cover: at the end of the path the slot of a new key holds `{}`, not a column dict);
    `Filling` is the same over `Uniform`.  Shape, uniformity and lookups go through one induction. -/
theorem setSlot_spec : ∀ (d : Nat) (sub : Tree) (path : Path) (c : Cols),
    (Shape d sub ∨ sub = .node []) → path.length = d →
    Shape d (setSlot sub path (.leaf c)) ∧
    (Filling d sub → Uniform d (setSlot sub path (.leaf c))) ∧
    ∀ q, lookup (flatView d (setSlot sub path (.leaf c))) q = if path = q then some c else lookup (flatView d sub) q
  | 0, sub, path, c, hs, hl => by
    obtain rfl : path = [] := List.length_eq_zero_iff.mp hl
    refine ⟨⟨c, rfl⟩, fun _ => ⟨c, rfl⟩, fun q => ?_⟩
    rw [show setSlot sub [] (.leaf c) = .leaf c from rfl]
    by_cases e : [] = q
    · subst e; simp [flatView, lookup]
    · rcases hs with ⟨cols, rfl⟩ | rfl <;> simp [flatView, lookup, e]
  | d + 1, sub, k :: rest, c, hs, hl => by
    obtain ⟨kids, rfl, hn, hk⟩ := hs.elim id (· ▸ shape_empty d)
    have ih := setSlot_spec d (slot kids k) rest c (getD_lookup_cases hk k _) (by simpa using hl)
    rw [show setSlot (.node kids) (k :: rest) (.leaf c) = _ from nestedSet_node kids k rest _]
    refine ⟨⟨_, rfl, nodup_dictSet hn _ _, forall_mem_dictSet hk ih.1⟩, fun hu => ?_, fun q => ?_⟩
    · obtain ⟨kids', e, _, hk'⟩ := hu.kids
      cases e
      exact ⟨_, rfl, dictSet_ne_nil _ _ _, nodup_dictSet hn _ _,
        forall_mem_dictSet hk' (ih.2.1 (getD_lookup_cases hk' k _))⟩
    cases q with
    | nil => simp [lookup_flatView_nil]
    | cons k2 q' =>
      rw [lookup_flatView_node _ _ (nodup_dictSet hn _ _), lookup_flatView_node _ _ hn, slot, lookup_dictSet]
      by_cases e : k = k2
      · subst e
        simp only [if_true, List.cons.injEq, true_and, Option.getD_some]
        exact ih.2.2 q'
      · simp [e, slot]

theorem flatView_nestedSet (d : Nat) (m : Tree) (path : Path) (c : Cols) (hs : Shape (d + 1) m)
    (hl : path.length = d + 1) :
    Shape (d + 1) (nestedSet m path (.leaf c)) ∧
    ∀ q, lookup (flatView (d + 1) (nestedSet m path (.leaf c))) q =
      if path = q then some c else lookup (flatView (d + 1) m) q := by
  match path, hl with
  | k :: rest, hl =>
    have h := setSlot_spec (d + 1) m (k :: rest) c (Or.inl hs) hl
    exact ⟨h.1, h.2.2⟩

theorem uniform_nestedSet (d : Nat) (m : Tree) (path : Path) (c : Cols) (hm : Filling (d + 1) m)
    (hl : path.length = d + 1) : Uniform (d + 1) (nestedSet m path (.leaf c)) := by
  match path, hl with
  | k :: rest, hl => exact (setSlot_spec (d + 1) m (k :: rest) c (Or.inl hm.shape) hl).2.1 hm

theorem dictDepth_uniform : ∀ (d : Nat) (m : Tree), Uniform d m → dictDepth m = d + 1
  | 0, _, ⟨cols, e⟩ => by subst e; rfl
  | d + 1, _, ⟨kids, e, hne, _, hk⟩ => by
    subst e
    match kids, hne, hk with
    | (k, t) :: rest, _, hk =>
      simp only [dictDepth]
      rw [dictDepth_uniform d t (hk _ (List.mem_cons_self ..))]
      omega

theorem flatView_ne_nil : ∀ (d : Nat) (m : Tree), Uniform d m → flatView d m ≠ []
  | 0, _, ⟨cols, e⟩ => by subst e; simp [flatView]
  | d + 1, _, ⟨kids, e, hne, _, hk⟩ => by
    subst e
    match kids, hne, hk with
    | (k, t) :: rest, _, hk =>
      cases hq : flatView d t with
      | nil => exact absurd hq (flatView_ne_nil d t (hk _ (List.mem_cons_self ..)))
      | cons a as => simp [flatView, hq]

theorem flatView_lengths : ∀ (d : Nat) (m : Tree) (pc : Path × Cols), pc ∈ flatView d m → pc.1.length = d
  | 0, .leaf cols, pc, h => by simp [flatView] at h; subst h; rfl
  | 0, .node _, pc, h => by simp [flatView] at h
  | d + 1, .leaf _, pc, h => by simp [flatView] at h
  | d + 1, .node kids, pc, h => by
    simp only [flatView, List.mem_flatMap, List.mem_map] at h
    obtain ⟨kv, _, pc', hpc', e⟩ := h
    subst e
    simp [flatView_lengths d kv.2 pc' hpc']

theorem flatView_keys_nodup : ∀ (d : Nat) (m : Tree), Shape d m → ((flatView d m).map (·.1)).Nodup
  | 0, _, ⟨cols, e⟩ => by subst e; simp [flatView]
  | d + 1, _, ⟨kids, e, hn, hk⟩ => by
    subst e
    have := nodup_flatMap_cons (fun t => (flatView d t).map (·.1)) hn fun kv hkv => flatView_keys_nodup d kv.2 (hk kv hkv)
    simpa only [flatView, List.map_flatMap, List.map_map, Function.comp_def] using this

theorem nestedGet_of_mem (d : Nat) (m : Tree) (hs : Shape d m) (keys : Path) (cols : Cols)
    (h : (keys, cols) ∈ flatView d m) : nestedGet m keys = .found (.leaf cols) := by
  rw [nestedGet_flatView d m keys hs (flatView_lengths d m _ h),
    lookup_of_mem_nodup (flatView_keys_nodup d m hs) h]

theorem flatten_flatView : ∀ (d : Nat) (m : Tree) (keys : List Name), Shape (d + 1) m →
    flatten (d + 1) keys m = (flatView (d + 1) m).map (fun pc => keys ++ pc.1)
  | 0, _, keys, ⟨kids, e, _, hk⟩ => by
    subst e
    simp only [flatten, flatView, List.map_flatMap, List.map_map, List.map_eq_flatMap (l := kids)]
    refine flatMap_congr fun kv hkv => ?_
    obtain ⟨cols, ec⟩ := hk kv hkv
    rw [ec]; rfl
  | d + 1, _, keys, ⟨kids, e, _, hk⟩ => by
    subst e
    simp only [flatten, flatView, List.map_flatMap, List.map_map]
    refine flatMap_congr fun kv hkv => ?_
    rw [flatten_flatView d kv.2 _ (hk kv hkv)]
    simp [Function.comp_def]

/-- a trie all of whose keys have length `d`, with distinct dict keys and no dead branch -/
def UniformT : Nat → Trie → Prop
  | 0, t => t = .node true []
  | d + 1, t => ∃ kids, t = .node false kids ∧ kids ≠ [] ∧ (kids.map (·.1)).Nodup ∧ ∀ kv ∈ kids, UniformT d kv.2

/-- the trie beside a dict that is being filled: uniform with keys of length `d`, or still empty -/
def FillingT (d : Nat) (t : Trie) : Prop := UniformT d t ∨ t = Trie.empty

theorem FillingT.kids {d : Nat} {t : Trie} (h : FillingT (d + 1) t) :
    ∃ kids, t = .node false kids ∧ (kids.map (·.1)).Nodup ∧ ∀ kv ∈ kids, UniformT d kv.2 := by
  rcases h with ⟨kids, e, _, hn, hk⟩ | e
  · exact ⟨kids, e, hn, hk⟩
  · exact ⟨[], e, by simp, by simp⟩

theorem keysAt_length : ∀ (d : Nat) (t : Trie) (q : List Name), q ∈ keysAt d t → q.length = d
  | 0, .node term _, q, h => by
    simp only [keysAt] at h
    split at h
    · simp at h; subst h; rfl
    · cases h
  | d + 1, .node _ kids, q, h => by
    simp only [keysAt, List.mem_flatMap, List.mem_map] at h
    obtain ⟨kv, _, q', hq', e⟩ := h
    subst e
    simp [keysAt_length d kv.2 q' hq']

theorem keysAt_ne_nil : ∀ (d : Nat) (t : Trie), UniformT d t → keysAt d t ≠ []
  | 0, _, e => by cases e; simp [keysAt]
  | d + 1, _, ⟨kids, e, hne, _, hk⟩ => by
    subst e
    match kids, hne, hk with
    | (k, t) :: rest, _, hk =>
      have := keysAt_ne_nil d t (hk _ (List.mem_cons_self ..))
      cases hq : keysAt d t with
      | nil => exact absurd hq this
      | cons a as => simp [keysAt, hq]

theorem keysAt_nodup : ∀ (d : Nat) (t : Trie), UniformT d t → (keysAt d t).Nodup
  | 0, _, e => by cases e; simp [keysAt]
  | d + 1, _, ⟨kids, e, _, hn, hk⟩ => by
    subst e
    exact nodup_flatMap_cons (keysAt d) hn fun kv hkv => keysAt_nodup d kv.2 (hk kv hkv)

theorem nil_not_mem_keysAt (d : Nat) (t : Trie) : [] ∉ keysAt (d + 1) t := by
  intro h; have := keysAt_length _ _ _ h; simp at this

theorem keysAt_empty (d : Nat) : keysAt d Trie.empty = [] := by cases d <;> rfl

/-- the sub-trie under a key; the empty trie when the key is new (it has no keys at any depth) -/
def slotT (kids : List (Name × Trie)) (k : Name) : Trie := (lookup kids k).getD Trie.empty

theorem suffixes_keysAt_node (d : Nat) (term : Bool) (kids : List (Name × Trie)) (hn : (kids.map (·.1)).Nodup)
    (k : Name) (rest : List Name) :
    suffixes (k :: rest) (keysAt (d + 1) (.node term kids)) = suffixes rest (keysAt d (slotT kids k)) := by
  simp only [keysAt]
  induction kids with
  | nil => rw [slotT, lookup, Option.getD_none, keysAt_empty]; rfl
  | cons x xs ih =>
    obtain ⟨k', s'⟩ := x
    simp only [List.map_cons, List.nodup_cons] at hn
    rw [List.flatMap_cons, suffixes_append, suffixes_cons_map, ih hn.2]
    simp only [slotT, lookup]
    by_cases e : k = k'
    · subst e
      rw [lookup_none_iff.mpr hn.1]
      simp [keysAt_empty, suffixes]
    · simp [e, Ne.symm e]

theorem mem_keysAt_node (d : Nat) (term : Bool) (kids : List (Name × Trie)) (hn : (kids.map (·.1)).Nodup)
    (k : Name) (q : List Name) : k :: q ∈ keysAt (d + 1) (.node term kids) ↔ q ∈ keysAt d (slotT kids k) := by
  rw [← suffixes_nil (keysAt d (slotT kids k)), ← suffixes_keysAt_node d term kids hn]
  exact (mem_suffixes (key := [k])).symm

theorem trieInsert_node (t : Bool) (kids : List (Name × Trie)) (k : Name) (rest : List Name) :
    trieInsert (.node t kids) (k :: rest) = .node t (dictSet kids k (trieInsert (slotT kids k) rest)) := by
  simp only [trieInsert, slotT]; cases lookup kids k <;> rfl

theorem trieInsert_spec : ∀ (key : List Name) (d : Nat) (t : Trie), FillingT d t → key.length = d →
    UniformT d (trieInsert t key) ∧ ∀ q, q ∈ keysAt d (trieInsert t key) ↔ (q = key ∨ q ∈ keysAt d t)
  | [], d, t, ht, hl => by
    obtain rfl : d = 0 := hl.symm
    rcases ht with e | rfl
    · cases e; simp [trieInsert, UniformT, keysAt]
    · simp [trieInsert, Trie.empty, UniformT, keysAt]
  | k :: rest, d + 1, t, ht, hl => by
    obtain ⟨kids, rfl, hn, hk⟩ := ht.kids
    have ih := trieInsert_spec rest d (slotT kids k) (getD_lookup_cases hk k _) (by simpa using hl)
    rw [trieInsert_node]
    refine ⟨⟨_, rfl, dictSet_ne_nil _ _ _, nodup_dictSet hn _ _, forall_mem_dictSet hk ih.1⟩, fun q => ?_⟩
    cases q with
    | nil =>
      simp only [reduceCtorEq, false_or]
      exact ⟨fun h => absurd h (nil_not_mem_keysAt _ _), fun h => absurd h (nil_not_mem_keysAt _ _)⟩
    | cons k2 q' =>
      rw [mem_keysAt_node _ _ _ (nodup_dictSet hn _ _), mem_keysAt_node _ _ _ hn, slotT, lookup_dictSet]
      by_cases e : k = k2
      · subst e
        simp only [if_true, Option.getD_some, List.cons.injEq, true_and]
        exact ih.2 q'
      · simp [e, Ne.symm e, slotT]

/-- `trieOfPaths`, stated on the fold from any trie `T0` so that the induction goes through; the result is uniform as soon as there is
    a first insert (it turns the empty trie into a uniform one), or `T0` was uniform already -/
theorem trieOfPaths_spec (d : Nat) : ∀ (paths : List (List Name)) (T0 : Trie),
    FillingT (d + 1) T0 → (∀ p ∈ paths, p.length = d + 1) →
    (UniformT (d + 1) T0 ∨ paths ≠ [] → UniformT (d + 1) (paths.foldl (fun t p => trieInsert t p.reverse) T0)) ∧
    ∀ q, q ∈ keysAt (d + 1) (paths.foldl (fun t p => trieInsert t p.reverse) T0) ↔
      (q ∈ keysAt (d + 1) T0 ∨ q ∈ paths.map List.reverse)
  | [], _, _, _ => ⟨fun h => h.elim id (absurd rfl), by simp⟩
  | p :: ps, T0, h0, hl => by
    obtain ⟨u, m⟩ := trieInsert_spec p.reverse (d + 1) T0 h0 (by simp [hl p (List.mem_cons_self ..)])
    obtain ⟨u2, m2⟩ := trieOfPaths_spec d ps (trieInsert T0 p.reverse) (Or.inl u)
      (fun q hq => hl q (List.mem_cons_of_mem _ hq))
    refine ⟨fun _ => u2 (Or.inl u), fun q => ?_⟩
    rw [List.foldl_cons, m2 q, m q, List.map_cons, List.mem_cons]
    exact or_assoc.trans or_left_comm

theorem trieWalk_spec : ∀ (key : List Name) (d : Nat) (t : Trie), UniformT d t → key.length ≤ d →
    match trieWalk t key with
    | some sub => UniformT (d - key.length) sub ∧ suffixes key (keysAt d t) = keysAt (d - key.length) sub
    | none => suffixes key (keysAt d t) = []
  | [], _, _, ht, _ => ⟨ht, suffixes_nil _⟩
  | _ :: _, 0, _, _, hl => absurd hl (by simp)
  | k :: rest, d + 1, _, ⟨kids, e, _, hn, hk⟩, hl => by
    subst e
    rw [suffixes_keysAt_node d _ kids hn]
    simp only [trieWalk, slotT, List.length_cons, Nat.add_sub_add_right]
    cases hlk : lookup kids k with
    | none => rw [Option.getD_none, keysAt_empty]; rfl
    | some sub => exact trieWalk_spec rest d sub (hk _ (mem_of_lookup hlk)) (by simpa using hl)

theorem trieDepth_uniform : ∀ (d : Nat) (t : Trie), UniformT d t → trieDepth t = d + 1
  | 0, _, e => by cases e; rfl
  | d + 1, _, ⟨kids, e, hne, _, hk⟩ => by
    subst e
    match kids, hne, hk with
    | (k, t) :: rest, _, hk =>
      simp only [trieDepth]
      rw [trieDepth_uniform d t (hk _ (List.mem_cons_self ..))]
      omega

theorem flattenTrie_uniform : ∀ (d : Nat) (t : Trie) (keys : List Name), UniformT (d + 1) t →
    flattenTrie (d + 1) keys t = (keysAt (d + 1) t).map (fun q => keys ++ q)
  | 0, _, keys, ⟨kids, e, _, _, hk⟩ => by
    subst e
    simp only [flattenTrie, keysAt, List.map_flatMap, List.map_map, List.map_eq_flatMap (l := kids)]
    refine flatMap_congr fun kv hkv => ?_
    rw [show kv.2 = .node true [] from hk kv hkv]; rfl
  | d + 1, _, keys, ⟨kids, e, _, _, hk⟩ => by
    subst e
    simp only [flattenTrie, List.map_flatMap, List.map_map, keysAt]
    refine flatMap_congr fun kv hkv => ?_
    rw [flattenTrie_uniform d kv.2 _ (hk kv hkv)]
    obtain ⟨kids', e', _⟩ := hk kv hkv
    rw [e']
    simp [Function.comp_def, keysAt]

theorem inTrieT_refines (d : Nat) (t : Trie) (ht : FillingT (d + 1) t) (key : List Name)
    (hl : key.length ≤ d + 1) : inTrieT t key = inTrie (keysAt (d + 1) t) key := by
  rw [inTrie_eq]
  unfold inTrieT
  by_cases hk : key = []
  · simp [hk]
  · simp only [hk, if_false]
    rcases ht with ht | e
    · have spec := trieWalk_spec key (d + 1) t ht hl
      cases hw : trieWalk t key with
      | none => rw [hw] at spec; simp only [spec, if_true]
      | some sub =>
        rw [hw] at spec
        obtain ⟨hu, hP⟩ := spec
        have hne : suffixes key (keysAt (d + 1) t) ≠ [] := hP ▸ keysAt_ne_nil _ _ hu
        simp only [hne, if_false]
        cases hr : d + 1 - key.length with
        | zero =>
          rw [hr] at hu hP
          cases hu
          -- the walk ends on a marker: the empty continuation is there, i.e. `key` itself is a key
          have hmem : key ∈ keysAt (d + 1) t := by
            have : [] ∈ suffixes key (keysAt (d + 1) t) := by rw [hP]; simp [keysAt]
            simpa using mem_suffixes.mp this
          simp [Trie.term, hmem]
        | succ r =>
          rw [hr] at hu hP
          obtain ⟨kids, e, _, _, _⟩ := id hu
          subst e
          have hnot : key ∉ keysAt (d + 1) t := fun h => by have := keysAt_length _ _ _ h; omega
          simp only [Trie.term, Bool.false_eq_true, if_false, List.contains_iff_mem, hnot]
          rw [trieDepth_uniform _ _ hu, hP, eraseDups_of_nodup _ (keysAt_nodup _ _ hu)]
          simp [flattenTrie_uniform r _ [] hu]
    · subst e
      cases key with
      | nil => exact absurd rfl hk
      | cons k rest => simp [Trie.empty, trieWalk, lookup, keysAt, suffixes]

end SqlglotModel.Schema
