/-
  C12 — `serde.dump` / `serde.load` (Model/Serde.lean).  `load (dump t) = t.norm` goes through two closed forms: the
  explicit-stack loop `dumpLoop` emits the recursive pre-order `flat t`, and the arena `load` builds from `flat t` is
  `seg t`, the cells in pre-order, each with its finished args dict and its parent link; `reify` reads `t.norm` back from
  `seg t`, and `flat` cannot tell `t` from `t.norm`.
  What is said of `seg t` is said of any arena in which it sits at its index (`At`): it reads back (`reify_at`), and its
  parent links are those the link invariant asks for (`cellOK`, `links_at`).  The link notions are defined by recursion over
  the args dict and used through what they say of a cell (`Cell.args`, `Cell.link`) and of a ref stored under an address
  (`Stored`): `linkIs_iff`, `slotsOK_iff`, `cellOK_iff`; only `links_atArgs` / `links_atVals`, which build the dict entry by
  entry, follow the recursion itself.
-/
import SqlglotModel.Model.Serde
import SqlglotModel.Proofs.List

namespace SqlglotModel.Serde

def stackSize : List Item → Nat
  | [] => 0
  | (v, _) :: st => v.size + stackSize st

def stackCnt : List Item → Nat
  | [] => 0
  | (v, _) :: st => v.cnt + stackCnt st

/-- the specification for a whole stack -/
def flatStack : List Item → Nat → List Payload
  | [], _ => []
  | (v, e) :: st, i => flat v e i ++ flatStack st (i + v.cnt)

theorem stackSize_append (a b : List Item) : stackSize (a ++ b) = stackSize a + stackSize b := by
  induction a with
  | nil => simp [stackSize]
  | cons x xs ih => obtain ⟨v, e⟩ := x; simp [stackSize, ih, Nat.add_assoc]

theorem stackCnt_append (a b : List Item) : stackCnt (a ++ b) = stackCnt a + stackCnt b := by
  induction a with
  | nil => simp [stackCnt]
  | cons x xs ih => obtain ⟨v, e⟩ := x; simp [stackCnt, ih, Nat.add_assoc]

theorem flatStack_append (a b : List Item) (i : Nat) :
    flatStack (a ++ b) i = flatStack a i ++ flatStack b (i + stackCnt a) := by
  induction a generalizing i with
  | nil => simp [flatStack, stackCnt]
  | cons x xs ih => obtain ⟨v, e⟩ := x; simp [flatStack, stackCnt, ih, Nat.add_assoc]

theorem stackSize_edgesVals (k : String) (i : Nat) (vs : List Val) :
    stackSize (edgesVals k i vs) = sizeVals vs := by
  induction vs with
  | nil => simp [edgesVals, stackSize, sizeVals]
  | cons v vs ih => simp [edgesVals, stackSize, sizeVals, ih]

theorem stackSize_edgesArg (i : Nat) (a : Arg) : stackSize (edgesArg i a) ≤ a.size := by
  cases a with
  | one k v => simp only [edgesArg, Arg.size]; split <;> simp [stackSize]
  | many k vs => simp [edgesArg, Arg.size, stackSize_edgesVals]

theorem stackSize_edgesArgs (i : Nat) (args : List Arg) : stackSize (edgesArgs i args) ≤ sizeArgs args := by
  induction args with
  | nil => simp [edgesArgs, stackSize, sizeArgs]
  | cons a as ih =>
    simp only [edgesArgs, sizeArgs, stackSize_append]
    have := stackSize_edgesArg i a
    omega

theorem stackCnt_edgesVals (k : String) (i : Nat) (vs : List Val) :
    stackCnt (edgesVals k i vs) = cntVals vs := by
  induction vs with
  | nil => simp [edgesVals, stackCnt, cntVals]
  | cons v vs ih => simp [edgesVals, stackCnt, cntVals, ih]

theorem stackCnt_edgesArg (i : Nat) (a : Arg) : stackCnt (edgesArg i a) = a.cnt := by
  cases a with
  | one k v => simp only [edgesArg, Arg.cnt]; split <;> simp [stackCnt]
  | many k vs => simp [edgesArg, Arg.cnt, stackCnt_edgesVals]

theorem flatStack_edgesVals (k : String) (p : Nat) (vs : List Val) (i : Nat) :
    flatStack (edgesVals k p vs) i = flatVals vs k p i := by
  induction vs generalizing i with
  | nil => simp [edgesVals, flatStack, flatVals]
  | cons v vs ih => simp [edgesVals, flatStack, flatVals, ih]

theorem flatStack_edgesArg (p : Nat) (a : Arg) (i : Nat) :
    flatStack (edgesArg p a) i = flatArg a p i := by
  cases a with
  | one k v => simp only [edgesArg, flatArg]; split <;> simp [flatStack]
  | many k vs => simp [edgesArg, flatArg, flatStack_edgesVals]

theorem flatStack_edgesArgs (p : Nat) (args : List Arg) (i : Nat) :
    flatStack (edgesArgs p args) i = flatArgs args p i := by
  induction args generalizing i with
  | nil => simp [edgesArgs, flatStack, flatArgs]
  | cons a as ih =>
    simp [edgesArgs, flatArgs, flatStack_append, flatStack_edgesArg, stackCnt_edgesArg, ih]

theorem stackCnt_edgesArgs (i : Nat) (args : List Arg) : stackCnt (edgesArgs i args) = cntArgs args := by
  induction args with
  | nil => simp [edgesArgs, stackCnt, cntArgs]
  | cons a as ih => simp [edgesArgs, cntArgs, stackCnt_append, stackCnt_edgesArg, ih]

theorem dumpMeta_eq (n : Nat)
    (ih : ∀ v : Val, v.size ≤ n → dumpLoop n [(v, none)] 0 [] = flat v none 0) :
    ∀ l : List MetaE, sizeMetaL l ≤ n →
      l.map (dumpMetaE fun v => dumpLoop n [(v, none)] 0 []) = flatMetaL l := by
  intro l
  induction l with
  | nil => intro _; simp [flatMetaL]
  | cons e es ihl =>
    intro h
    simp only [sizeMetaL] at h
    cases e with
    | raw k r => simp [dumpMetaE, flatMetaL, MetaE.flat, ihl (by omega)]
    | expr k v =>
      simp only [MetaE.size] at h
      simp [dumpMetaE, flatMetaL, MetaE.flat, ihl (by omega), ih v (by omega)]

theorem dumpLoop_spec : ∀ fuel st i out, stackSize st ≤ fuel →
    dumpLoop fuel st i out = out ++ flatStack st i := by
  intro fuel
  induction fuel with
  | zero =>
    intro st i out h
    cases st with
    | nil => simp [dumpLoop, flatStack]
    | cons x xs =>
      obtain ⟨v, e⟩ := x
      cases v <;> simp [stackSize, Val.size] at h <;> omega
  | succ n ih =>
    intro st i out h
    cases st with
    | nil => simp [dumpLoop, flatStack]
    | cons x xs =>
      obtain ⟨v, e⟩ := x
      cases v with
      | node cls ty c m args =>
        simp only [stackSize, Val.size] at h
        have hsz : stackSize (edgesArgs i args ++ xs) ≤ n := by
          rw [stackSize_append]; have := stackSize_edgesArgs i args; omega
        have ihv : ∀ v : Val, v.size ≤ n → dumpLoop n [(v, none)] 0 [] = flat v none 0 := by
          intro v hv
          have hs : stackSize [(v, (none : Option Edge))] ≤ n := by simpa [stackSize] using hv
          simp [ih _ 0 [] hs, flatStack]
        have hty : (ty.map fun t => dumpLoop n [(t, none)] 0 []) = flatTy ty := by
          cases ty with
          | none => rfl
          | some t => simp [flatTy, ihv t (by simp only [sizeOpt] at h; omega)]
        have hmeta : (m.map fun l => l.map (dumpMetaE fun v => dumpLoop n [(v, none)] 0 [])) = flatMeta m := by
          cases m with
          | none => simp [flatMeta]
          | some l =>
            have hl : sizeMetaL l ≤ n := by simp [sizeMeta] at h; omega
            simp [flatMeta, dumpMeta_eq n ihv l hl]
        simp only [dumpLoop, hty, hmeta, ih _ _ _ hsz, flatStack, flat, flatStack_append, flatStack_edgesArgs,
          stackCnt_edgesArgs, Val.cnt]
        simp [Nat.add_assoc, Nat.add_comm 1]
      | dtype s =>
        simp only [stackSize, Val.size] at h
        have hsz : stackSize xs ≤ n := by omega
        simp [dumpLoop, ih _ _ _ hsz, flatStack, flat, Val.cnt]
      | raw r =>
        simp only [stackSize, Val.size] at h
        have hsz : stackSize xs ≤ n := by omega
        simp [dumpLoop, ih _ _ _ hsz, flatStack, flat, Val.cnt]

theorem dump_eq_flat (t : Val) : dump t = flat t none 0 := by
  have h : stackSize [(t, (none : Option Edge))] ≤ t.size := by simp [stackSize]
  simp [dump, dumpLoop_spec t.size _ 0 [] h, flatStack]

/-- arena indices of the elements of a list-valued arg whose first element lands at `i` -/
def offsets : List Val → Nat → List Nat
  | [], _ => []
  | v :: vs, i => i :: offsets vs (i + v.cnt)

def Arg.slot : Arg → Nat → Slot
  | .one _ _, i => .one i
  | .many _ vs, i => .many (offsets vs i)

/-- the finished `args` dict of a node whose first child lands at `i` -/
def slotsOf : List Arg → Nat → Slots
  | [], _ => []
  | a :: as, i => if a.dropped then slotsOf as (i + a.cnt) else (a.key, a.slot i) :: slotsOf as (i + a.cnt)

/- the cells of a value placed at index `i` (pre-order), each with its final args and parent link -/
mutual
def seg : Val → Option Link → Nat → List Cell
  | .node cls ty c m args, l, i =>
    .node cls (normOpt ty) (normC c) (normMeta m) (slotsOf args (i + 1)) l none :: segArgs args i (i + 1)
  | .dtype s, _, _ => [.dtype s]
  | .raw r, _, _ => [.raw r]
def segArgs : List Arg → Nat → Nat → List Cell
  | [], _, _ => []
  | a :: as, p, i => segArg a p i ++ segArgs as p (i + a.cnt)
def segArg : Arg → Nat → Nat → List Cell
  | .one k v, p, i => if v.isNull then [] else seg v (some ⟨p, k, none⟩) i
  | .many k vs, p, i => segVals vs k p 0 i
def segVals : List Val → String → Nat → Nat → Nat → List Cell
  | [], _, _, _, _ => []
  | v :: vs, k, p, n, i => seg v (some ⟨p, k, some n⟩) i ++ segVals vs k p (n + 1) (i + v.cnt)
end

mutual
theorem seg_length : ∀ (v : Val) (l : Option Link) (i : Nat), (seg v l i).length = v.cnt
  | .node _ _ _ _ args, l, i => by simp [seg, Val.cnt, segArgs_length args i (i + 1), Nat.add_comm]
  | .dtype _, _, _ => by simp [seg, Val.cnt]
  | .raw _, _, _ => by simp [seg, Val.cnt]
theorem segArgs_length : ∀ (args : List Arg) (p i : Nat), (segArgs args p i).length = cntArgs args
  | [], _, _ => by simp [segArgs, cntArgs]
  | a :: as, p, i => by simp [segArgs, cntArgs, segArg_length a p i, segArgs_length as p (i + a.cnt)]
theorem segArg_length : ∀ (a : Arg) (p i : Nat), (segArg a p i).length = a.cnt
  | .one k v, p, i => by
    simp only [segArg, Arg.cnt]; split
    · simp
    · exact seg_length v _ i
  | .many k vs, p, i => by simp [segArg, Arg.cnt, segVals_length vs k p 0 i]
theorem segVals_length : ∀ (vs : List Val) (k : String) (p n i : Nat), (segVals vs k p n i).length = cntVals vs
  | [], _, _, _, _ => by simp [segVals, cntVals]
  | v :: vs, k, p, n, i => by
    simp [segVals, cntVals, seg_length v _ i, segVals_length vs k p (n + 1) (i + v.cnt)]
end

theorem dropped_cnt (a : Arg) (h : a.dropped = true) : a.cnt = 0 := by
  cases a with
  | one k v => simp [Arg.dropped] at h; simp [Arg.cnt, h]
  | many k vs => cases vs <;> simp_all [Arg.dropped, Arg.cnt, cntVals]

theorem dropped_segArg (a : Arg) (p i : Nat) (h : a.dropped = true) : segArg a p i = [] := by
  cases a with
  | one k v => simp [Arg.dropped] at h; simp [segArg, h]
  | many k vs => cases vs <;> simp_all [Arg.dropped, segArg, segVals]

theorem dropped_flatArg (a : Arg) (p i : Nat) (h : a.dropped = true) : flatArg a p i = [] := by
  cases a with
  | one k v => simp [Arg.dropped] at h; simp [flatArg, h]
  | many k vs => cases vs <;> simp_all [Arg.dropped, flatArg, flatVals]

/-- the segment `S` sits in the arena `A` at index `i` -/
def At (A : List Cell) (i : Nat) (S : List Cell) : Prop := ∃ pre post, A = pre ++ S ++ post ∧ pre.length = i

section
variable {A S T : List Cell} {i : Nat}

theorem At.mid {pre post : List Cell} (hi : pre.length = i) : At (pre ++ S ++ post) i S :=
  ⟨pre, post, rfl, hi⟩

theorem At.whole : At S 0 S :=
  ⟨[], [], by simp, rfl⟩

theorem At.head {c : Cell} (h : At A i (c :: S)) : A[i]? = some c := by
  obtain ⟨pre, post, rfl, rfl⟩ := h
  simp

theorem At.left (h : At A i (S ++ T)) : At A i S := by
  obtain ⟨pre, post, rfl, hi⟩ := h
  exact ⟨pre, T ++ post, by simp, hi⟩

theorem At.right {n : Nat} (h : At A i (S ++ T)) (hn : S.length = n) : At A (i + n) T := by
  obtain ⟨pre, post, rfl, hi⟩ := h
  exact ⟨pre ++ S, post, by simp, by simp [hi, hn]⟩

theorem At.tail {c : Cell} (h : At A i (c :: S)) : At A (i + 1) S :=
  h.right (S := [c]) rfl

end

/- Reading back depends only on the cells of the segment, wherever in an arena it sits. -/
mutual
theorem reify_at : ∀ (v : Val) (l : Option Link) (A : List Cell) (i fuel : Nat),
    At A i (seg v l i) → v.cnt ≤ fuel → reify A fuel i = some v.norm
  | .node cls ty c m args, l, A, i, fuel, h, hf => by
    cases fuel with
    | zero => simp [Val.cnt] at hf
    | succ n =>
      simp only [seg] at h
      simp [reify, h.head, reifyCell, Val.norm,
        reify_atArgs args i A (i + 1) n h.tail (by simp [Val.cnt] at hf; omega)]
  | .dtype s, l, A, i, fuel, h, hf => by
    cases fuel with
    | zero => simp [Val.cnt] at hf
    | succ n => simp only [seg] at h; simp [reify, h.head, reifyCell, Val.norm]
  | .raw r, l, A, i, fuel, h, hf => by
    cases fuel with
    | zero => simp [Val.cnt] at hf
    | succ n => simp only [seg] at h; simp [reify, h.head, reifyCell, Val.norm]
theorem reify_atArgs : ∀ (args : List Arg) (p : Nat) (A : List Cell) (i fuel : Nat),
    At A i (segArgs args p i) → cntArgs args ≤ fuel →
    reifySlots (reify A fuel) (slotsOf args i) = some (normArgs args)
  | [], _, _, _, _, _, _ => by simp [slotsOf, reifySlots, normArgs]
  | a :: as, p, A, i, fuel, h, hf => by
    simp only [segArgs] at h
    simp only [cntArgs] at hf
    have hrest := reify_atArgs as p A (i + a.cnt) fuel (h.right (segArg_length a p i)) (by omega)
    by_cases hd : a.dropped = true
    · simpa [slotsOf, normArgs, hd, dropped_cnt a hd] using hrest
    cases a with
    | one k v =>
      have hn : v.isNull = false := by simpa [Arg.dropped] using hd
      simp only [segArg, hn, Arg.cnt, Bool.false_eq_true, ↓reduceIte] at h hf hrest
      have hv := reify_at v _ A i fuel h.left (by omega)
      simp [slotsOf, hd, normArgs, Arg.key, Arg.slot, reifySlots, reifySlot, Arg.norm, Arg.cnt, hn, hv, hrest]
    | many k vs =>
      simp only [segArg, Arg.cnt] at h hf hrest
      have hv := reify_atVals vs k p 0 A i fuel h.left (by omega)
      simp [slotsOf, hd, normArgs, Arg.key, Arg.slot, reifySlots, reifySlot, Arg.norm, Arg.cnt, hv, hrest]
theorem reify_atVals : ∀ (vs : List Val) (k : String) (p n : Nat) (A : List Cell) (i fuel : Nat),
    At A i (segVals vs k p n i) → cntVals vs ≤ fuel →
    reifyRefs (reify A fuel) (offsets vs i) = some (normVals vs)
  | [], _, _, _, _, _, _, _, _ => by simp [offsets, reifyRefs, normVals]
  | v :: vs, k, p, n, A, i, fuel, h, hf => by
    simp only [segVals] at h
    simp only [cntVals] at hf
    have hv := reify_at v _ A i fuel h.left (by omega)
    have hrest := reify_atVals vs k p (n + 1) A (i + v.cnt) fuel (h.right (seg_length v _ i)) (by omega)
    simp [offsets, reifyRefs, normVals, hv, hrest]
end

theorem reify_segArgs : ∀ (args : List Arg) (p : Nat) (pre post : List Cell) (i fuel : Nat),
    pre.length = i → cntArgs args ≤ fuel →
    reifySlots (reify (pre ++ segArgs args p i ++ post) fuel) (slotsOf args i) = some (normArgs args) :=
  fun args p _ _ i fuel hi => reify_atArgs args p _ i fuel (.mid hi)

theorem reify_segVals : ∀ (vs : List Val) (k : String) (p n : Nat) (pre post : List Cell) (i fuel : Nat),
    pre.length = i → cntVals vs ≤ fuel →
    reifyRefs (reify (pre ++ segVals vs k p n i ++ post) fuel) (offsets vs i) = some (normVals vs) :=
  fun vs k p n _ _ i fuel hi => reify_atVals vs k p n _ i fuel (.mid hi)

/- The readers are monotone in the function that reads a ref, so more fuel reads the same (`reify_mono`). -/
section
variable {g g' : Nat → Option Val} (hg : ∀ r y, g r = some y → g' r = some y)
include hg

theorem reifyRefs_mono : ∀ (rs : List Nat) (vs : List Val), reifyRefs g rs = some vs → reifyRefs g' rs = some vs
  | [], _, h => h
  | r :: rs, vs, h => by
    simp only [reifyRefs, Option.bind_eq_some_iff] at h ⊢
    obtain ⟨y, h1, ys, h2, h3⟩ := h
    exact ⟨y, hg r y h1, ys, reifyRefs_mono rs ys h2, h3⟩

theorem reifySlots_mono : ∀ (s : Slots) (as : List Arg), reifySlots g s = some as → reifySlots g' s = some as
  | [], _, h => h
  | (k, sl) :: s, as, h => by
    simp only [reifySlots, Option.bind_eq_some_iff] at h ⊢
    obtain ⟨a, h1, ys, h2, h3⟩ := h
    refine ⟨a, ?_, ys, reifySlots_mono s ys h2, h3⟩
    cases sl with
    | one r =>
      simp only [reifySlot, Option.map_eq_some_iff] at h1 ⊢
      exact h1.imp fun y h => ⟨hg r y h.1, h.2⟩
    | many rs =>
      simp only [reifySlot, Option.map_eq_some_iff] at h1 ⊢
      exact h1.imp fun ys' h => ⟨reifyRefs_mono hg rs ys' h.1, h.2⟩

theorem reifyCell_mono (c : Cell) (x : Val) (h : reifyCell g c = some x) : reifyCell g' c = some x := by
  cases c with
  | node cls ty cm m args l hsh =>
    simp only [reifyCell, Option.map_eq_some_iff] at h ⊢
    exact h.imp fun as h => ⟨reifySlots_mono hg args as h.1, h.2⟩
  | dtype s => exact h
  | raw r => exact h

end

theorem reify_mono (A : List Cell) : ∀ f i x, reify A f i = some x → ∀ f', f ≤ f' → reify A f' i = some x := by
  intro f
  induction f with
  | zero => intro i x h; simp [reify] at h
  | succ f ih =>
    intro i x h f' hf
    obtain ⟨f', rfl⟩ : ∃ n, f' = n + 1 := ⟨f' - 1, by omega⟩
    simp only [reify] at h ⊢
    cases hc : A[i]? with
    | none => simp [hc] at h
    | some c0 =>
      simp only [hc] at h ⊢
      exact reifyCell_mono (fun r y hr => ih r y hr f' (by omega)) c0 x h

/- The fields of a cell that statements about arenas read.  A scalar / DType has no args, no cached hash and no parent
   fields, so what is asked through these of every cell asks nothing of a scalar. -/
def Cell.args : Cell → Slots
  | .node _ _ _ _ args _ _ => args
  | _ => []

def Cell.hash : Cell → Option Nat
  | .node _ _ _ _ _ _ h => h
  | _ => none

/-- the parent fields of a cell: `some link` for an Expression, `none` for a scalar / DType -/
def Cell.link : Cell → Option (Option Link)
  | .node _ _ _ _ _ l _ => some l
  | _ => none

def Cell.isNodeC : Cell → Bool
  | .node .. => true
  | _ => false

/-- `node.args = args` -/
def Cell.withArgs : Cell → Slots → Cell
  | .node cls ty c m _ l h, args => .node cls ty c m args l h
  | c, _ => c

theorem Cell.args_withArgs {c : Cell} (h : c.isNodeC = true) (s : Slots) : (c.withArgs s).args = s := by
  cases c with
  | node => rfl
  | _ => cases h

theorem Cell.link_withArgs (c : Cell) (s : Slots) : (c.withArgs s).link = c.link := by cases c <;> rfl

theorem Cell.hash_withArgs (c : Cell) (s : Slots) : (c.withArgs s).hash = c.hash := by cases c <;> rfl

theorem Cell.isNodeC_withArgs (c : Cell) (s : Slots) : (c.withArgs s).isNodeC = c.isNodeC := by cases c <;> rfl

theorem Cell.withArgs_withArgs (c : Cell) (s s' : Slots) : (c.withArgs s).withArgs s' = c.withArgs s' := by cases c <;> rfl

theorem Cell.withArgs_args (c : Cell) : c.withArgs c.args = c := by cases c <;> rfl

/-- cell `j` is an Expression whose `(parent, arg_key, index)` is `l`, or a scalar / DType (no parent fields) -/
def LinkIs (A : List Cell) (j : Nat) (l : Link) : Prop :=
  match A[j]? with
  | some (.node _ _ _ _ _ l' _) => l' = some l
  | some _ => True
  | none => False

def refsOK (A : List Cell) (p : Nat) (k : String) : Nat → List Nat → Prop
  | _, [] => True
  | n, r :: rs => LinkIs A r ⟨p, k, some n⟩ ∧ refsOK A p k (n + 1) rs

def slotsOK (A : List Cell) (p : Nat) : Slots → Prop
  | [] => True
  | (k, .one r) :: rest => LinkIs A r ⟨p, k, none⟩ ∧ slotsOK A p rest
  | (k, .many rs) :: rest => refsOK A p k 0 rs ∧ slotsOK A p rest

/-- for the node at `j`: `args[k].parent is node ∧ .arg_key == k ∧ .index is None`, and
    `args[k][n].parent is node ∧ .arg_key == k ∧ .index == n`, for every key -/
def cellOK (A : List Cell) (j : Nat) : Prop :=
  match A[j]? with
  | some (.node _ _ _ _ args _ _) => slotsOK A j args
  | _ => True

theorem linkIs_iff {A : List Cell} {r : Nat} {l : Link} :
    LinkIs A r l ↔ ∃ c, A[r]? = some c ∧ (c.link = none ∨ c.link = some (some l)) := by
  unfold LinkIs
  cases A[r]? with
  | none => simp
  | some c => simp only [Option.some.injEq, exists_eq_left']; cases c <;> simp [Cell.link]

theorem linkIs_append_right {A S : List Cell} {r : Nat} {l : Link} (h : A.length ≤ r) :
    LinkIs (A ++ S) r l ↔ LinkIs S (r - A.length) l := by
  simp only [linkIs_iff, List.getElem?_append_right h]

theorem linkIs_scalar {S : List Cell} {n : Nat} {x : Cell} (hx : S[n]? = some x) (hk : x.link = none) (l : Link) :
    LinkIs S n l :=
  linkIs_iff.mpr ⟨x, hx, Or.inl hk⟩

theorem link_withLink {cell : Cell} {lnk l' : Link} (h : (cell.withLink lnk).link = some (some l')) : l' = lnk := by
  cases cell <;> simp_all [Cell.withLink, Cell.link]

theorem linkIs_withLink (cell : Cell) (lnk : Link) : LinkIs [cell.withLink lnk] 0 lnk :=
  linkIs_iff.mpr ⟨_, rfl, by cases cell <;> simp [Cell.withLink, Cell.link]⟩

theorem linkIs_unique {A : List Cell} {r : Nat} {l l' : Link} {cls ty c m args lnk h}
    (hr : A[r]? = some (Cell.node cls ty c m args lnk h)) (h1 : LinkIs A r l) (h2 : LinkIs A r l') : l = l' := by
  rw [LinkIs, hr] at h1 h2
  exact Option.some.inj (h1.symm.trans h2)

theorem cellOK_iff {A : List Cell} {j : Nat} : cellOK A j ↔ ∀ c, A[j]? = some c → slotsOK A j c.args := by
  unfold cellOK
  cases A[j]? with
  | none => exact ⟨fun _ _ e => (nomatch e), fun _ => trivial⟩
  | some c0 =>
    cases c0 with
    | node => exact ⟨fun hs _ e => by cases e; exact hs, fun hs => hs _ rfl⟩
    | _ => exact ⟨fun _ _ e => by cases e; trivial, fun _ => trivial⟩

/-- slot `s` holds ref `r` at index `i`: `none` for a single value, `some n` for the n-th element of a list -/
def Slot.holds : Slot → Option Nat → Nat → Prop
  | .one r', none, r => r' = r
  | .many rs, some n, r => rs[n]? = some r
  | _, _, _ => False

/-- ref `r` is stored at `args[k]` (`i = none`) or at `args[k][n]` (`i = some n`): the address that the parent fields
    `(arg_key, index)` of a child record -/
def Stored (args : Slots) (k : String) (i : Option Nat) (r : Nat) : Prop := ∃ s, (k, s) ∈ args ∧ s.holds i r

theorem refsOK_iff {A : List Cell} {p : Nat} {k : String} : ∀ {rs : List Nat} {n : Nat},
    refsOK A p k n rs ↔ ∀ m r, rs[m]? = some r → LinkIs A r ⟨p, k, some (n + m)⟩
  | [], n => ⟨fun _ m r h => (nomatch h), fun _ => trivial⟩
  | r0 :: rs, n => by
    simp only [refsOK, refsOK_iff (rs := rs)]
    constructor
    · rintro ⟨h0, h⟩ m r hm
      cases m with
      | zero => cases Option.some.inj hm; exact h0
      | succ m => have := h m r hm; rwa [Nat.add_right_comm, Nat.add_assoc] at this
    · intro h
      exact ⟨h 0 r0 rfl, fun m r hm => by have := h (m + 1) r hm; rwa [← Nat.add_assoc, Nat.add_right_comm] at this⟩

theorem slotsOK_iff {A : List Cell} {p : Nat} : ∀ {args : Slots},
    slotsOK A p args ↔ ∀ k i r, Stored args k i r → LinkIs A r ⟨p, k, i⟩
  | [] => ⟨fun _ _ _ _ ⟨_, h, _⟩ => (nomatch h), fun _ => trivial⟩
  | (k0, s) :: rest => by
    have hcons : (∀ k i r, Stored ((k0, s) :: rest) k i r → LinkIs A r ⟨p, k, i⟩) ↔
        (∀ i r, s.holds i r → LinkIs A r ⟨p, k0, i⟩) ∧ ∀ k i r, Stored rest k i r → LinkIs A r ⟨p, k, i⟩ := by
      simp only [Stored, List.mem_cons]
      constructor
      · intro h
        exact ⟨fun i r hh => h k0 i r ⟨s, Or.inl rfl, hh⟩, fun k i r ⟨s', hm, hh⟩ => h k i r ⟨s', Or.inr hm, hh⟩⟩
      · rintro ⟨h0, h⟩ k i r ⟨s', e | hm, hh⟩
        · cases e; exact h0 i r hh
        · exact h k i r ⟨s', hm, hh⟩
    rw [hcons, ← slotsOK_iff (args := rest)]
    cases s with
    | one r0 =>
      refine and_congr_left' ⟨fun h i r hh => ?_, fun h => h none r0 rfl⟩
      cases i with
      | none => exact (show r0 = r from hh) ▸ h
      | some n => exact hh.elim
    | many rs =>
      refine and_congr_left' (refsOK_iff.trans ⟨fun h i r hh => ?_, fun h m r hm => (Nat.zero_add m).symm ▸ h (some m) r hm⟩)
      cases i with
      | none => exact hh.elim
      | some m => exact Nat.zero_add m ▸ h m r hh

theorem At.link {A : List Cell} {i : Nat} {v : Val} {l : Link} (h : At A i (seg v (some l) i)) : LinkIs A i l := by
  cases v <;> simp only [seg] at h <;> exact linkIs_iff.mpr ⟨_, h.head, by simp [Cell.link]⟩

theorem head_link (v : Val) (l : Link) (pre post : List Cell) (i : Nat) (hi : pre.length = i) :
    LinkIs (pre ++ seg v (some l) i ++ post) i l :=
  (At.mid hi).link

theorem forall_range_add {P : Nat → Prop} {i a b : Nat} (h1 : ∀ j, i ≤ j → j < i + a → P j)
    (h2 : ∀ j, i + a ≤ j → j < i + a + b → P j) : ∀ j, i ≤ j → j < i + (a + b) → P j := fun j hi hj =>
  if h : j < i + a then h1 j hi h else h2 j (by omega) (by omega)

/- The link invariant for the arena of a dumped tree, read off the closed form with the exact addresses; `links_kept`
   (SerdeArena) proves it of the arena of every payload list `load` accepts, where there is no closed form. -/
mutual
theorem links_at : ∀ (v : Val) (l : Option Link) (A : List Cell) (i : Nat), At A i (seg v l i) →
    ∀ j, i ≤ j → j < i + v.cnt → cellOK A j
  | .node cls ty c m args, l, A, i, h, j, h1, h2 => by
    simp only [seg] at h
    have hrec := links_atArgs args i A (i + 1) h.tail
    by_cases hj : j = i
    · subst hj
      exact cellOK_iff.mpr fun c hc => by cases h.head.symm.trans hc; exact hrec.2
    · exact hrec.1 j (by omega) (by simp [Val.cnt] at h2; omega)
  | .dtype s, l, A, i, h, j, h1, h2 => by
    have hj : j = i := by simp [Val.cnt] at h2; omega
    subst hj
    simp only [seg] at h
    exact cellOK_iff.mpr fun c hc => by cases h.head.symm.trans hc; trivial
  | .raw r, l, A, i, h, j, h1, h2 => by
    have hj : j = i := by simp [Val.cnt] at h2; omega
    subst hj
    simp only [seg] at h
    exact cellOK_iff.mpr fun c hc => by cases h.head.symm.trans hc; trivial
theorem links_atArgs : ∀ (args : List Arg) (p : Nat) (A : List Cell) (i : Nat), At A i (segArgs args p i) →
    (∀ j, i ≤ j → j < i + cntArgs args → cellOK A j) ∧ slotsOK A p (slotsOf args i)
  | [], p, A, i, _ => ⟨fun j h1 h2 => by simp [cntArgs] at h2; omega, by simp [slotsOf, slotsOK]⟩
  | a :: as, p, A, i, h => by
    simp only [segArgs] at h
    have hrest := links_atArgs as p A (i + a.cnt) (h.right (segArg_length a p i))
    by_cases hd : a.dropped = true
    · simpa [slotsOf, hd, dropped_cnt a hd, cntArgs] using hrest
    cases a with
    | one k v =>
      have hn : v.isNull = false := by simpa [Arg.dropped] using hd
      simp only [segArg, hn, Arg.cnt, Bool.false_eq_true, ↓reduceIte] at h hrest
      simp only [slotsOf, hd, Arg.cnt, hn, cntArgs, Arg.key, Arg.slot, slotsOK, Bool.false_eq_true, ↓reduceIte]
      exact ⟨forall_range_add (links_at v _ A i h.left) hrest.1, h.left.link, hrest.2⟩
    | many k vs =>
      simp only [segArg, Arg.cnt] at h hrest
      have hv := links_atVals vs k p 0 A i h.left
      simp only [slotsOf, hd, Arg.cnt, cntArgs, Arg.key, Arg.slot, slotsOK, Bool.false_eq_true, ↓reduceIte]
      exact ⟨forall_range_add hv.1 hrest.1, hv.2, hrest.2⟩
theorem links_atVals : ∀ (vs : List Val) (k : String) (p n : Nat) (A : List Cell) (i : Nat), At A i (segVals vs k p n i) →
    (∀ j, i ≤ j → j < i + cntVals vs → cellOK A j) ∧ refsOK A p k n (offsets vs i)
  | [], k, p, n, A, i, _ => ⟨fun j h1 h2 => by simp [cntVals] at h2; omega, by simp [offsets, refsOK]⟩
  | v :: vs, k, p, n, A, i, h => by
    simp only [segVals] at h
    have hrest := links_atVals vs k p (n + 1) A (i + v.cnt) (h.right (seg_length v _ i))
    simp only [offsets, refsOK, cntVals]
    exact ⟨forall_range_add (links_at v _ A i h.left) hrest.1, h.left.link, hrest.2⟩
end

theorem links_segArgs : ∀ (args : List Arg) (p : Nat) (pre post : List Cell) (i : Nat), pre.length = i →
    (∀ j, i ≤ j → j < i + cntArgs args → cellOK (pre ++ segArgs args p i ++ post) j) ∧
    slotsOK (pre ++ segArgs args p i ++ post) p (slotsOf args i) :=
  fun args p _ _ i hi => links_atArgs args p _ i (.mid hi)

theorem links_segVals : ∀ (vs : List Val) (k : String) (p n : Nat) (pre post : List Cell) (i : Nat), pre.length = i →
    (∀ j, i ≤ j → j < i + cntVals vs → cellOK (pre ++ segVals vs k p n i ++ post) j) ∧
    refsOK (pre ++ segVals vs k p n i ++ post) p k n (offsets vs i) :=
  fun vs k p n _ _ i hi => links_atVals vs k p n _ i (.mid hi)

def keysS (s : Slots) : List String := s.map (·.1)

theorem lookupKey_eq_find? (k : String) (args : Slots) : lookupKey k args = (args.find? (·.1 == k)).map (·.2) :=
  assoc_eq_find? (fun _ => rfl) (fun _ _ _ _ => rfl) k args

theorem lookupKey_append {k : String} {cur : Slots} (rest : Slots) (h : k ∉ keysS cur) :
    lookupKey k (cur ++ rest) = lookupKey k rest := by
  simp only [lookupKey_eq_find?, List.find?_append, Option.map_or, find?_fst_eq_none.mpr h, Option.none_or]

theorem setKey_append {k : String} {cur : Slots} (s : Slot) (rest : Slots) (h : k ∉ keysS cur) :
    setKey k s (cur ++ rest) = cur ++ setKey k s rest := by
  induction cur with
  | nil => rfl
  | cons x xs ih =>
    obtain ⟨k', s'⟩ := x
    simp only [keysS, List.map_cons, List.mem_cons, not_or] at h
    simpa [setKey, Ne.symm h.1] using ih h.2

theorem lookupKey_notin {k : String} {cur : Slots} (h : k ∉ keysS cur) : lookupKey k cur = none := by
  simpa [lookupKey] using lookupKey_append [] h

theorem setKey_notin {k : String} {cur : Slots} (s : Slot) (h : k ∉ keysS cur) :
    setKey k s cur = cur ++ [(k, s)] := by
  simpa [setKey] using setKey_append s [] h

theorem lookupKey_snoc {k : String} {cur : Slots} (s : Slot) (h : k ∉ keysS cur) :
    lookupKey k (cur ++ [(k, s)]) = some s := by
  simp [lookupKey_append _ h, lookupKey]

theorem setKey_snoc {k : String} {cur : Slots} (s0 s : Slot) (h : k ∉ keysS cur) :
    setKey k s (cur ++ [(k, s0)]) = cur ++ [(k, s)] := by
  simp [setKey_append _ _ h, setKey]

/-- the keys still to come stay absent from the dict when the first of them has been entered -/
theorem keys_fresh_snoc {cur : Slots} {a : Arg} {rest : List Arg} (hnd : a.key ∉ keysOf rest)
    (hdis : ∀ k ∈ keysOf (a :: rest), k ∉ keysS cur) (s : Slot) : ∀ k ∈ keysOf rest, k ∉ keysS (cur ++ [(a.key, s)]) := by
  intro k hk
  simp only [keysS, List.map_append, List.mem_append, List.map_cons, List.map_nil, List.mem_singleton, not_or]
  exact ⟨hdis k (by simp [keysOf, hk]), fun e => hnd (e ▸ hk)⟩

theorem mem_setKey {k : String} {s : Slot} {e : String × Slot} :
    ∀ {args : Slots}, e ∈ setKey k s args → e = (k, s) ∨ e ∈ args
  | [], h => Or.inl (List.mem_singleton.mp h)
  | (k', s') :: rest, h => by
    simp only [setKey] at h
    split at h
    · exact (List.mem_cons.mp h).imp_right (List.mem_cons_of_mem _)
    · rcases List.mem_cons.mp h with h | h
      · exact Or.inr (h ▸ List.mem_cons_self ..)
      · exact (mem_setKey h).imp_right (List.mem_cons_of_mem _)

theorem mem_eraseKey {k : String} {e : String × Slot} : ∀ {args : Slots}, e ∈ eraseKey k args → e ∈ args
  | (k', s') :: rest, h => by
    simp only [eraseKey] at h
    split at h
    · exact List.mem_cons_of_mem _ h
    · exact (List.mem_cons.mp h).elim (fun h => h ▸ List.mem_cons_self ..) fun h => List.mem_cons_of_mem _ (mem_eraseKey h)

theorem mem_of_lookupKey {k : String} {s : Slot} {args : Slots} (h : lookupKey k args = some s) : (k, s) ∈ args :=
  mem_of_assoc (fun _ => rfl) (fun _ _ _ _ => rfl) h

/-- the args of a node while the elements of its list-valued arg `k` are being appended -/
def withList (cur : Slots) (k : String) : List Nat → Slots
  | [] => cur
  | r :: rs => cur ++ [(k, .many (r :: rs))]

theorem appendRef_snoc {k : String} {cur : Slots} (refs : List Nat) (j : Nat) (h : k ∉ keysS cur) :
    appendRef (cur ++ [(k, .many refs)]) k j = (cur ++ [(k, .many (refs ++ [j]))], refs.length) := by
  simp [appendRef, lookupKey_snoc _ h, setKey_snoc _ _ h]

theorem appendRef_withList {k : String} {cur : Slots} (refs : List Nat) (j : Nat) (h : k ∉ keysS cur) :
    appendRef (withList cur k refs) k j = (withList cur k (refs ++ [j]), refs.length) := by
  cases refs with
  | nil => simp [withList, appendRef, lookupKey_notin h, setKey_notin _ h]
  | cons r rs => exact appendRef_snoc (r :: rs) j h

theorem withList_append_cons {cur : Slots} {k : String} (refs : List Nat) (j : Nat) (rest : List Nat) :
    withList cur k (refs ++ j :: rest) = cur ++ [(k, .many (refs ++ j :: rest))] := by
  cases refs <;> simp [withList]

theorem set_append_left' (B S : List Cell) (j : Nat) (x : Cell) (h : j < B.length) :
    (B ++ S).set j x = B.set j x ++ S := by
  simp [h]

theorem nonempty_of_not_isEmpty {α} {l : List α} (h : ¬ l.isEmpty = true) : ∃ x xs, l = x :: xs := by
  cases l with
  | nil => simp at h
  | cons x xs => exact ⟨x, xs, rfl⟩

theorem clearUp_none {A : List Cell} {p : Nat} {cls ty c m cur l}
    (h : A[p]? = some (.node cls ty c m cur l none)) (fuel : Nat) : clearUp A fuel p = A := by
  cases fuel with
  | zero => rfl
  | succ n => simp [clearUp, h]

theorem attach_ok {A : List Cell} {p : Nat} {cls ty c m cur l} (cell : Cell) (k : String) (arr : Bool)
    (h : A[p]? = some (.node cls ty c m cur l none)) :
    attach A cell p k arr = some (A.set p (.node cls ty c m (linkArgs cur k arr A.length cell.isRawNull).1 l none)
      ++ [cell.withLink ⟨p, k, (linkArgs cur k arr A.length cell.isRawNull).2⟩]) := by
  rw [attach, if_pos (lt_of_get h)]
  simp only [clearUp_none h, h]

theorem loadList_cons (p : Payload) (ps : List Payload) (A : List Cell) :
    loadList (p :: ps) A = (mkCell p).bind fun cell => (pIndex p).bind fun idx => (pKey p).bind fun k =>
      (attach A cell idx k (pArr p)).bind (loadList ps) := by
  simp only [loadList]
  cases mkCell p <;> cases pIndex p <;> cases pKey p <;> try rfl
  simp only [Option.bind_some]; cases attach _ _ _ _ _ <;> rfl

theorem loadList_append (xs ys : List Payload) (A : List Cell) :
    loadList (xs ++ ys) A = (loadList xs A).bind (loadList ys) := by
  induction xs generalizing A with
  | nil => rfl
  | cons x xs ih => simp only [List.cons_append, loadList_cons, Option.bind_assoc, funext ih]

theorem isRawNull_raw (r : Raw) : (Cell.raw r).isRawNull = (Val.raw r).isNull := by
  cases r <;> rfl

theorem load_cons (p : Payload) (tail : List Payload) :
    load (p :: tail) = (loadArena (p :: tail)).bind fun A => (reify A A.length 0).map some := by
  simp only [load, loadArena]
  cases mkRoot p with
  | none => rfl
  | some root =>
    dsimp only
    cases loadList tail [root] with
    | none => rfl
    | some A => dsimp only [Option.bind_some]; cases reify A A.length 0 <;> rfl

theorem load_of_arena (v : Val) (h : loadArena (flat v none 0) = some (seg v none 0)) :
    load (flat v none 0) = some (some v.norm) := by
  have hr := reify_at v none _ 0 _ .whole (Nat.le_of_eq (seg_length v none 0).symm)
  cases v <;> simp only [flat] at h ⊢ <;> simp [load_cons, h, hr]

/- `load` on a dumped tree, by the recursion of `flat`.  The payloads of `args` are attached under the parent at `j`, whose
   hash is `None`, so the hash walk of `attach` stops at once (`attach_ok`: what `attachS_ok` in SerdeHeap says of `set` /
   `append` without the walk).  The invariant of that loop: the parent's dict is `cur ++ slotsOf` of the args done, and no key
   still to come is in `cur` (`keys_fresh_snoc`), so each `set` enters its key at the end.  Inside a list-valued arg `k` the
   dict is `withList cur k refs`: `append` creates the key at the first element, which is why `withList` exists here and not
   for the copy, where `args[k] = []` is assigned first (`copyArgs_closed` in SerdeCopy is the twin of `load_flatArgs`, with
   the parent read through `Cell.args` / `Cell.withArgs`). -/
mutual
theorem load_flat_val : ∀ (v : Val), v.WF → ∀ (A : List Cell) (p : Nat) (k : String) (arr : Bool)
    (cls : String) (ty : Option Val) (c : Comments) (m : Meta) (cur : Slots) (l : Option Link),
    A[p]? = some (.node cls ty c m cur l none) →
    loadList (flat v (some ⟨p, k, arr⟩) A.length) A =
      some (A.set p (.node cls ty c m (linkArgs cur k arr A.length v.isNull).1 l none)
        ++ seg v (some ⟨p, k, (linkArgs cur k arr A.length v.isNull).2⟩) A.length)
  | .node cls' ty' c' m' args, hwf, A, p, k, arr, cls, ty, c, m, cur, l, hA => by
    simp only [Val.WF] at hwf
    obtain ⟨hcls, hty, hmt, hnd, hargs⟩ := hwf
    have hcell : mkCell (Payload.mk (some p) (some k) arr (some cls') (flatTy ty') (normC c') (flatMeta m') none) =
        some (.node cls' (normOpt ty') (normC c') (normMeta m') [] none none) := by
      simp [mkCell, mkObj, hcls, loadTy_flatTy ty' hty, loadMeta_flatMeta m' hmt]
    have hB := fun x lk => load_flatArgs args hargs hnd
      (A.set p x ++ [.node cls' (normOpt ty') (normC c') (normMeta m') [] (some lk) none])
      A.length cls' (normOpt ty') (normC c') (normMeta m') [] (some lk) (by simp) (by simp [keysS])
    simp only [List.length_append, List.length_set, List.length_singleton] at hB
    simp only [flat, loadList, hcell, nodeP, pIndex, pKey, pArr, eIndex, eKey, eArr]
    rw [attach_ok _ _ _ hA]
    simp only [Cell.isRawNull, Cell.withLink, Val.isNull]
    rw [hB]
    simp [seg]
  | .dtype s, _, A, p, k, arr, cls, ty, c, m, cur, l, hA => by
    have hcell : mkCell (Payload.mk (some p) (some k) arr (some dataTypeCls) none none none (some (.str s))) = some (.dtype s) := by
      simp [mkCell, mkObj]
    simp only [flat, loadList, hcell, dtypeP, pIndex, pKey, pArr, eIndex, eKey, eArr]
    rw [attach_ok _ _ _ hA]
    simp [Cell.isRawNull, Cell.withLink, Val.isNull, seg]
  | .raw r, _, A, p, k, arr, cls, ty, c, m, cur, l, hA => by
    have hcell : mkCell (Payload.mk (some p) (some k) arr none none none none (some r)) = some (.raw r) := by
      simp [mkCell]
    simp only [flat, loadList, hcell, rawP, pIndex, pKey, pArr, eIndex, eKey, eArr]
    rw [attach_ok _ _ _ hA]
    simp [isRawNull_raw, Cell.withLink, seg]
-- (the argument of the structural recursion is named, here and below, because `ty` and `m` have types of the family too:
-- with several candidates in several members Lean stops searching and compiles the block by well-founded recursion,
-- which is far dearer to check)
termination_by structural x => x
theorem loadTy_flatTy : ∀ (ty : Option Val), wfOpt ty → loadTy (flatTy ty) = some (normOpt ty)
  | none, _ => by simp [flatTy, loadTy, normOpt]
  | some t, h => by
    simp only [wfOpt] at h
    simp [flatTy, loadTy, normOpt, load_of_arena t (loadArena_flat t h.2 h.1)]
theorem loadMeta_flatMeta : ∀ (m : Option (List MetaE)), wfMeta m → loadMeta (flatMeta m) = some (normMeta m)
  | none, _ => by simp [flatMeta, loadMeta, normMeta]
  | some l, h => by
    simp only [wfMeta] at h
    simp [flatMeta, loadMeta, normMeta, loadMetaL_flatMetaL l h]
theorem loadMetaL_flatMetaL : ∀ (l : List MetaE), wfMetaL l → loadMetaL (flatMetaL l) = some (normMetaL l)
  | [], _ => by simp [flatMetaL, loadMetaL, normMetaL]
  | .raw k r :: es, h => by
    simp only [wfMetaL] at h
    simp [flatMetaL, MetaE.flat, loadMetaL, loadMetaE, normMetaL, MetaE.norm, loadMetaL_flatMetaL es h.2]
  | .expr k v :: es, h => by
    simp only [wfMetaL, MetaE.WF] at h
    have hobj : v.isObj = true := by
      cases v <;> simp_all [Val.isNode, Val.isObj]
    simp [flatMetaL, MetaE.flat, loadMetaL, loadMetaE, normMetaL, MetaE.norm, loadMetaL_flatMetaL es h.2,
      load_of_arena v (loadArena_flat v h.1.2 hobj)]
theorem loadArena_flat : ∀ (v : Val), v.WF → v.isObj = true → loadArena (flat v none 0) = some (seg v none 0)
  | .node cls ty c m args, hwf, _ => by
    simp only [Val.WF] at hwf
    obtain ⟨hcls, hty, hmt, hnd, hargs⟩ := hwf
    have hB := load_flatArgs args hargs hnd [Cell.node cls (normOpt ty) (normC c) (normMeta m) [] none none] 0
      cls (normOpt ty) (normC c) (normMeta m) [] none (by simp) (by simp [keysS])
    simp only [List.length_singleton] at hB
    simp [flat, loadArena, nodeP, mkRoot, mkObj, hcls, loadTy_flatTy ty hty, loadMeta_flatMeta m hmt, eIndex, eKey, eArr,
      hB, seg]
  | .dtype s, _, _ => by simp [flat, loadArena, dtypeP, mkRoot, mkObj, loadList, seg, eIndex, eKey, eArr]
  | .raw r, _, h => by simp [Val.isObj] at h
theorem load_flatArgs : ∀ (args : List Arg), wfArgs args → (keysOf args).Nodup →
    ∀ (A : List Cell) (j : Nat) (cls : String) (ty : Option Val) (c : Comments) (m : Meta) (cur : Slots) (l : Option Link),
    A[j]? = some (.node cls ty c m cur l none) → (∀ k ∈ keysOf args, k ∉ keysS cur) →
    loadList (flatArgs args j A.length) A =
      some (A.set j (.node cls ty c m (cur ++ slotsOf args A.length) l none) ++ segArgs args j A.length)
  | [], _, _, A, j, cls, ty, c, m, cur, l, hA, _ => by
    simp [flatArgs, loadList, slotsOf, segArgs]
    exact (set_self _ _ _ hA).symm
  | a :: as, hwf, hnd, A, j, cls, ty, c, m, cur, l, hA, hdis => by
    simp only [wfArgs] at hwf
    simp only [keysOf, List.nodup_cons] at hnd
    have hj := lt_of_get hA
    by_cases hd : a.dropped = true
    · have h0 := dropped_cnt a hd
      have hrec := load_flatArgs as hwf.2 hnd.2 A j cls ty c m cur l hA
        (fun k hk => hdis k (by simp [keysOf, hk]))
      simpa [flatArgs, dropped_flatArg a j _ hd, h0, slotsOf, hd, segArgs, dropped_segArg a j _ hd] using hrec
    · have hd' : a.dropped = false := by simpa using hd
      have hka : a.key ∉ keysS cur := hdis a.key (by simp [keysOf])
      have hstep := load_flatArg a hwf.1 hd' A j cls ty c m cur l hA hka
      have hrec := load_flatArgs as hwf.2 hnd.2 (A.set j _ ++ segArg a j A.length) j cls ty c m
        (cur ++ [(a.key, a.slot A.length)]) l (get_set_append _ _ _ _ hj) (keys_fresh_snoc hnd.1 hdis _)
      simp only [List.length_append, List.length_set, segArg_length] at hrec
      simp only [flatArgs, loadList_append, hstep, Option.bind_some, hrec]
      simp [slotsOf, hd', segArgs, hj]
termination_by structural x => x
theorem load_flatArg : ∀ (a : Arg), a.WF → a.dropped = false →
    ∀ (A : List Cell) (j : Nat) (cls : String) (ty : Option Val) (c : Comments) (m : Meta) (cur : Slots) (l : Option Link),
    A[j]? = some (.node cls ty c m cur l none) → a.key ∉ keysS cur →
    loadList (flatArg a j A.length) A =
      some (A.set j (.node cls ty c m (cur ++ [(a.key, a.slot A.length)]) l none) ++ segArg a j A.length)
  | .one k v, hwf, hd, A, j, cls, ty, c, m, cur, l, hA, hk => by
    have hn : v.isNull = false := by simpa [Arg.dropped] using hd
    have h := load_flat_val v hwf A j k false cls ty c m cur l hA
    simp only [Arg.key] at hk
    simpa [flatArg, hn, segArg, linkArgs, setKey_notin _ hk, Arg.key, Arg.slot] using h
  | .many k vs, hwf, hd, A, j, cls, ty, c, m, cur, l, hA, hk => by
    simp only [Arg.key] at hk
    have h := load_flatVals vs hwf A j k [] cls ty c m cur l hk (by simpa [withList] using hA)
    cases vs with
    | nil => simp [Arg.dropped] at hd
    | cons v vs => simpa [flatArg, segArg, Arg.key, Arg.slot, offsets, withList] using h
termination_by structural x => x
theorem load_flatVals : ∀ (vs : List Val), wfVals vs →
    ∀ (A : List Cell) (j : Nat) (k : String) (refs : List Nat) (cls : String) (ty : Option Val) (c : Comments)
      (m : Meta) (cur : Slots) (l : Option Link), k ∉ keysS cur →
    A[j]? = some (.node cls ty c m (withList cur k refs) l none) →
    loadList (flatVals vs k j A.length) A =
      some (A.set j (.node cls ty c m (withList cur k (refs ++ offsets vs A.length)) l none)
        ++ segVals vs k j refs.length A.length)
  | [], _, A, j, k, refs, cls, ty, c, m, cur, l, _, hA => by
    simp [flatVals, loadList, offsets, segVals]
    exact (set_self _ _ _ hA).symm
  | v :: vs, hwf, A, j, k, refs, cls, ty, c, m, cur, l, hk, hA => by
    simp only [wfVals] at hwf
    have hj := lt_of_get hA
    have hstep := load_flat_val v hwf.1 A j k true cls ty c m (withList cur k refs) l hA
    simp only [linkArgs, appendRef_withList refs A.length hk, if_true] at hstep
    have hrec := load_flatVals vs hwf.2 (A.set j _ ++ seg v (some ⟨j, k, some refs.length⟩) A.length) j k
      (refs ++ [A.length]) cls ty c m cur l hk (get_set_append _ _ _ _ hj)
    simp only [List.length_append, List.length_set, seg_length] at hrec
    simp only [flatVals, loadList_append, hstep, Option.bind_some, hrec]
    simp [offsets, segVals, hj]
termination_by structural x => x
end

theorem isNull_norm (v : Val) : v.norm.isNull = v.isNull := by
  cases v with
  | node => simp [Val.norm, Val.isNull]
  | dtype => simp [Val.norm]
  | raw r => simp [Val.norm]

theorem normVals_isEmpty (vs : List Val) : (normVals vs).isEmpty = vs.isEmpty := by
  cases vs <;> simp [normVals]

theorem dropped_norm (a : Arg) : a.norm.dropped = a.dropped := by
  cases a with
  | one k v => simp [Arg.norm, Arg.dropped, isNull_norm]
  | many k vs => simp [Arg.norm, Arg.dropped, normVals_isEmpty]

theorem normC_idem (c : Comments) : normC (normC c) = normC c := by
  cases c with
  | none => rfl
  | some l => cases l <;> rfl

mutual
theorem norm_idem : ∀ (v : Val), v.norm.norm = v.norm
  | .node cls ty c m args => by
    simp [Val.norm, normOpt_idem ty, normC_idem, normMeta_idem m, normArgs_idem args]
  | .dtype _ => by simp [Val.norm]
  | .raw _ => by simp [Val.norm]
theorem normOpt_idem : ∀ (ty : Option Val), normOpt (normOpt ty) = normOpt ty
  | none => by simp [normOpt]
  | some v => by simp [normOpt, norm_idem v]
theorem normMeta_idem : ∀ (m : Option (List MetaE)), normMeta (normMeta m) = normMeta m
  | none => by simp [normMeta]
  | some l => by simp [normMeta, normMetaL_idem l]
theorem normMetaL_idem : ∀ (l : List MetaE), normMetaL (normMetaL l) = normMetaL l
  | [] => by simp [normMetaL]
  | .raw k r :: es => by simp [normMetaL, MetaE.norm, normMetaL_idem es]
  | .expr k v :: es => by simp [normMetaL, MetaE.norm, norm_idem v, normMetaL_idem es]
theorem normArgs_idem : ∀ (args : List Arg), normArgs (normArgs args) = normArgs args
  | [] => by simp [normArgs]
  | a :: as => by
    by_cases hd : a.dropped = true
    · simp [normArgs, hd, normArgs_idem as]
    · simp [normArgs, hd, dropped_norm, normArg_idem a, normArgs_idem as]
theorem normArg_idem : ∀ (a : Arg), a.norm.norm = a.norm
  | .one k v => by simp [Arg.norm, norm_idem v]
  | .many k vs => by simp [Arg.norm, normVals_idem vs]
theorem normVals_idem : ∀ (vs : List Val), normVals (normVals vs) = normVals vs
  | [] => by simp [normVals]
  | v :: vs => by simp [normVals, norm_idem v, normVals_idem vs]
end

mutual
theorem cnt_norm : ∀ (v : Val), v.norm.cnt = v.cnt
  | .node cls ty c m args => by simp [Val.norm, Val.cnt, cntArgs_norm args]
  | .dtype _ => by simp [Val.norm]
  | .raw _ => by simp [Val.norm]
theorem cntArgs_norm : ∀ (args : List Arg), cntArgs (normArgs args) = cntArgs args
  | [] => by simp [normArgs]
  | a :: as => by
    by_cases hd : a.dropped = true
    · simp [normArgs, hd, cntArgs, dropped_cnt a hd, cntArgs_norm as]
    · simp [normArgs, hd, cntArgs, cntArg_norm a, cntArgs_norm as]
theorem cntArg_norm : ∀ (a : Arg), a.norm.cnt = a.cnt
  | .one k v => by simp [Arg.norm, Arg.cnt, isNull_norm, cnt_norm v]
  | .many k vs => by simp [Arg.norm, Arg.cnt, cntVals_norm vs]
theorem cntVals_norm : ∀ (vs : List Val), cntVals (normVals vs) = cntVals vs
  | [] => by simp [normVals]
  | v :: vs => by simp [normVals, cntVals, cnt_norm v, cntVals_norm vs]
end

mutual
theorem flat_norm : ∀ (v : Val) (e : Option Edge) (i : Nat), flat v.norm e i = flat v e i
  | .node cls ty c m args, e, i => by
    simp [Val.norm, flat, nodeP, normC_idem, flatTy_norm ty, flatMeta_norm m, flatArgs_norm args i (i + 1)]
  | .dtype _, _, _ => by simp [Val.norm]
  | .raw _, _, _ => by simp [Val.norm]
theorem flatTy_norm : ∀ (ty : Option Val), flatTy (normOpt ty) = flatTy ty
  | none => by simp [normOpt]
  | some v => by simp [normOpt, flatTy, flat_norm v none 0]
theorem flatMeta_norm : ∀ (m : Option (List MetaE)), flatMeta (normMeta m) = flatMeta m
  | none => by simp [normMeta]
  | some l => by simp [normMeta, flatMeta, flatMetaL_norm l]
theorem flatMetaL_norm : ∀ (l : List MetaE), flatMetaL (normMetaL l) = flatMetaL l
  | [] => by simp [normMetaL]
  | .raw k r :: es => by simp [normMetaL, MetaE.norm, flatMetaL, MetaE.flat, flatMetaL_norm es]
  | .expr k v :: es => by simp [normMetaL, MetaE.norm, flatMetaL, MetaE.flat, flat_norm v none 0, flatMetaL_norm es]
theorem flatArgs_norm : ∀ (args : List Arg) (p i : Nat), flatArgs (normArgs args) p i = flatArgs args p i
  | [], _, _ => by simp [normArgs]
  | a :: as, p, i => by
    by_cases hd : a.dropped = true
    · simp [normArgs, hd, flatArgs, dropped_flatArg a p i hd, dropped_cnt a hd, flatArgs_norm as p i]
    · simp [normArgs, hd, flatArgs, flatArg_norm a p i, cntArg_norm a, flatArgs_norm as p (i + a.cnt)]
theorem flatArg_norm : ∀ (a : Arg) (p i : Nat), flatArg a.norm p i = flatArg a p i
  | .one k v, p, i => by simp [Arg.norm, flatArg, isNull_norm, flat_norm v]
  | .many k vs, p, i => by simp [Arg.norm, flatArg, flatVals_norm vs k p i]
theorem flatVals_norm : ∀ (vs : List Val) (k : String) (p i : Nat), flatVals (normVals vs) k p i = flatVals vs k p i
  | [], _, _, _ => by simp [normVals]
  | v :: vs, k, p, i => by
    simp [normVals, flatVals, flat_norm v, cnt_norm v, flatVals_norm vs k p (i + v.cnt)]
end

end SqlglotModel.Serde
