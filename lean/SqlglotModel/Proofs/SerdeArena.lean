/-
  C12 — what holds of every arena `load` and `copy` build.  An args dict stores a ref under an address (`Stored`), and the
  link invariant says that the child records it (`slotsOK_iff`).  Every heap operation, each step of the hash walk
  included, is a `Write`: one cell is rewritten (read through `Cell.args`, `Cell.link`, `Cell.hash`), fresh ones are
  appended (the first allocation is a write on the empty arena); `Write.get` and `Write.linkIs` say what that leaves of a
  cell.  A property `Kept` by writes holds of both arenas; refs closed and acyclic (`RInv`), hashes only from `hashOf`
  (`HInv`) and the parent links (`LinksOK`) are each shown to be kept once, and what `load` guarantees (`AInv`) is the first
  two with no hash to carry over (`ainv_iff`).  Then which payload lists `load` accepts: those that name, at each step, an
  Expression among the cells built so far (`kinds`).
-/
import SqlglotModel.Proofs.SerdeHeap

namespace SqlglotModel.Serde

theorem stored_setKey {args : Slots} {k k' : String} {s : Slot} {i : Option Nat} {r : Nat}
    (h : Stored (setKey k s args) k' i r) : Stored args k' i r ∨ (k' = k ∧ s.holds i r) := by
  obtain ⟨s', hm, hh⟩ := h
  rcases mem_setKey hm with e | hm
  · cases e; exact Or.inr ⟨rfl, hh⟩
  · exact Or.inl ⟨s', hm, hh⟩

/-- `append` writes `rs ++ [j]` under `k`, `rs` being the refs of the list that was there (none without one) -/
theorem appendRef_eq (args : Slots) (k : String) (j : Nat) :
    ∃ rs, (∀ m r, rs[m]? = some r → Stored args k (some m) r) ∧
      appendRef args k j = (setKey k (.many (rs ++ [j])) args, rs.length) := by
  unfold appendRef
  split
  · rename_i rs hl
    exact ⟨rs, fun m r h => ⟨_, mem_of_lookupKey hl, h⟩, rfl⟩
  · exact ⟨[], fun _ _ h => by simp at h, rfl⟩

theorem stored_linkArgs {args : Slots} {k k' : String} {arr b : Bool} {n r : Nat} {i : Option Nat}
    (h : Stored (linkArgs args k arr n b).1 k' i r) :
    Stored args k' i r ∨ (r = n ∧ k' = k ∧ i = (linkArgs args k arr n b).2) := by
  unfold linkArgs at h ⊢
  cases arr with
  | true =>
    obtain ⟨rs, hold, e⟩ := appendRef_eq args k n
    simp only [if_true, e] at h ⊢
    rcases stored_setKey h with h | ⟨rfl, hh⟩
    · exact Or.inl h
    · cases i with
      | none => exact hh.elim
      | some m =>
        simp only [Slot.holds] at hh
        by_cases hlt : m < rs.length
        · rw [List.getElem?_append_left hlt] at hh
          exact Or.inl (hold m r hh)
        · rw [List.getElem?_append_right (Nat.le_of_not_lt hlt)] at hh
          have hm : m = rs.length := by
            cases hd : m - rs.length with
            | zero => omega
            | succ d => simp [hd] at hh
          subst hm
          simp only [Nat.sub_self, List.getElem?_cons_zero, Option.some.injEq] at hh
          exact Or.inr ⟨hh.symm, rfl, rfl⟩
  | false =>
    simp only [Bool.false_eq_true, if_false] at h ⊢
    split at h
    · obtain ⟨s, hm, hh⟩ := h
      exact Or.inl ⟨s, mem_eraseKey hm, hh⟩
    · rcases stored_setKey h with h | ⟨rfl, hh⟩
      · exact Or.inl h
      · cases i with
        | none => exact Or.inr ⟨hh.symm, rfl, by simp [*]⟩
        | some m => exact hh.elim

theorem mkObj_inv {cn : String} {tyv : Option (Option Val)} {c : Comments} {mv : Option Meta} {value : Option Raw}
    {cell : Cell} (h : mkObj cn tyv c mv value = some cell) :
    (∃ s, cell = .dtype s) ∨ (∃ t m, cell = .node cn t c m [] none none) := by
  unfold mkObj at h
  split at h
  · split at h
    · simp at h; exact Or.inl ⟨_, h.symm⟩
    · simp at h
  · split at h
    · simp at h; exact Or.inr ⟨_, _, h.symm⟩
    · simp at h

theorem mkCell_inv {p : Payload} {cell : Cell} (h : mkCell p = some cell) :
    (∃ s, cell = .dtype s) ∨ (∃ r, cell = .raw r) ∨ (∃ cn t c m, cell = .node cn t c m [] none none) := by
  obtain ⟨i, k, a, cls, ty, c, m, value⟩ := p
  cases cls with
  | none =>
    cases value with
    | none => simp [mkCell] at h
    | some r => simp [mkCell] at h; exact Or.inr (Or.inl ⟨r, h.symm⟩)
  | some cn =>
    simp only [mkCell] at h
    rcases mkObj_inv h with ⟨s, hs⟩ | ⟨t, m', hm⟩
    · exact Or.inl ⟨s, hs⟩
    · exact Or.inr (Or.inr ⟨cn, t, c, m', hm⟩)

theorem mkCell_of_mkRoot {p : Payload} {root : Cell} (h : mkRoot p = some root) : mkCell p = some root := by
  obtain ⟨i, k, a, cls, ty, c, m, value⟩ := p
  cases cls with
  | none => simp [mkRoot] at h
  | some cn => exact h

/-- a freshly built object: a scalar, or an Expression without children and without a cached hash -/
def freshCell (c : Cell) : Prop := c.args = [] ∧ c.hash = none

theorem freshCell_withLink (cell : Cell) (lnk : Link) (h : freshCell cell) : freshCell (cell.withLink lnk) := by
  cases cell <;> exact h

theorem toCell_fresh (v : Val) : freshCell v.toCell := by
  cases v <;> exact ⟨rfl, rfl⟩

theorem mkCell_fresh {p : Payload} {cell : Cell} (h : mkCell p = some cell) : freshCell cell := by
  rcases mkCell_inv h with ⟨s, rfl⟩ | ⟨r, rfl⟩ | ⟨cn, t, c, m, rfl⟩ <;> exact ⟨rfl, rfl⟩

theorem mkCell_nolink {p : Payload} {cell : Cell} (h : mkCell p = some cell) (lnk : Link) : cell.link ≠ some (some lnk) := by
  rcases mkCell_inv h with ⟨s, rfl⟩ | ⟨r, rfl⟩ | ⟨cn, t, c, m, rfl⟩ <;> simp [Cell.link]

theorem toCell_nolink (v : Val) (lnk : Link) : v.toCell.link ≠ some (some lnk) := by
  cases v <;> simp [Val.toCell, emptyCell, Cell.link]

/-- What the heap operations do, each step of the hash walk included (`set` / `append`, a direct `args[k] = …`, the filling
    of the scalar fields, `node._hash = None`): the cell at `j` is rewritten, its parent fields stay; fresh cells with
    parent `j` are allocated at the end; every ref its args store afterwards they stored before at the same address, or it is
    one of the new cells, which records that address; the `_hash` stays, is cleared, or is `hashOf v` for some `v`.
    The first allocation (`first`) puts a fresh cell without parent fields into the empty arena. -/
inductive Write (hashOf : Val → Option Nat) : List Cell → List Cell → Prop
  | mk {A : List Cell} {j : Nat} {c : Cell} (c' : Cell) (cells : List Cell)
      (get : A[j]? = some c)
      (link : c'.link = c.link)
      (fresh : ∀ x ∈ cells, freshCell x ∧ ∀ lnk, x.link = some (some lnk) → lnk.parent = j)
      (stored : ∀ k i r, Stored c'.args k i r →
        Stored c.args k i r ∨ (A.length ≤ r ∧ LinkIs cells (r - A.length) ⟨j, k, i⟩))
      (hash : c'.hash = c.hash ∨ c'.hash = none ∨ ∃ v, c'.hash = hashOf v) :
      Write hashOf A (A.set j c' ++ cells)
  | first (c : Cell) (fresh : freshCell c) (nolink : ∀ lnk, c.link ≠ some (some lnk)) : Write hashOf [] [c]

/-- a write that stores no new ref and allocates nothing -/
theorem Write.fields {hashOf : Val → Option Nat} {A : List Cell} {j : Nat} {c : Cell} (c' : Cell) (get : A[j]? = some c)
    (args : c'.args = c.args) (link : c'.link = c.link) (hash : c'.hash = c.hash ∨ c'.hash = none ∨ ∃ v, c'.hash = hashOf v) :
    Write hashOf A (A.set j c') := by
  simpa using Write.mk c' [] get link (fun _ hx => nomatch hx) (fun _ _ _ hs => Or.inl (args ▸ hs)) hash

/-- a write changes no parent fields: the cell it rewrites keeps them, the others stay -/
theorem Write.linkIs {hashOf : Val → Option Nat} {A B : List Cell} (hw : Write hashOf A B) {r : Nat} {l : Link}
    (hl : LinkIs A r l) : LinkIs B r l := by
  cases hw with
  | @mk A j c c' cells get link fresh stored hash =>
    obtain ⟨c0, hc0, hk⟩ := linkIs_iff.mp hl
    refine linkIs_iff.mpr ?_
    by_cases hri : r = j
    · subst hri
      cases get.symm.trans hc0
      exact ⟨c', get_set_append _ _ _ _ (lt_of_get hc0), by rw [link]; exact hk⟩
    · exact ⟨c0, get_write_old hri hc0 _ _, hk⟩
  | first => exact (linkIs_iff.mp hl).elim fun _ h => nomatch h.1

theorem Write.length_le {hashOf : Val → Option Nat} {A B : List Cell} (hw : Write hashOf A B) : A.length ≤ B.length := by
  cases hw <;> simp

/-- A cell of the arena after a write.  It is an old cell: its parent fields are what they were, a ref its args store
    they stored before at the same address or it is a new cell that records that address, and its hash stayed, was cleared
    or is `hashOf v` for some `v` (the cell that was not written is the case where all stayed).  Or it is a fresh cell, whose
    parent is an old one.  This and `Write.linkIs` are what an invariant needs of a write. -/
theorem Write.get {hashOf : Val → Option Nat} {A B : List Cell} (hw : Write hashOf A B) {i : Nat} {x : Cell}
    (hi : B[i]? = some x) :
    (∃ c, A[i]? = some c ∧ x.link = c.link ∧
      (∀ k ix r, Stored x.args k ix r → Stored c.args k ix r ∨ (A.length ≤ r ∧ LinkIs B r ⟨i, k, ix⟩)) ∧
      (x.hash = c.hash ∨ x.hash = none ∨ ∃ v, x.hash = hashOf v)) ∨
    (A.length ≤ i ∧ freshCell x ∧ ∀ lnk, x.link = some (some lnk) → lnk.parent < A.length) := by
  cases hw with
  | @mk A j c c' cells get link fresh stored hash =>
    rcases get_write (lt_of_get get) _ cells hi with ⟨rfl, rfl⟩ | ⟨-, hi⟩ | ⟨hge, hi⟩
    · exact Or.inl ⟨c, get, link, fun k ix r hs => (stored k ix r hs).imp_right fun ⟨hge, hl⟩ =>
        ⟨hge, (linkIs_append_right (by simpa using hge)).mpr (by simpa using hl)⟩, hash⟩
    · exact Or.inl ⟨x, hi, rfl, fun _ _ _ hs => Or.inl hs, Or.inl rfl⟩
    · have hf := fresh x (List.mem_of_getElem? hi)
      exact Or.inr ⟨hge, hf.1, fun lnk hl => hf.2 lnk hl ▸ lt_of_get get⟩
  | first c fresh nolink =>
    cases List.mem_singleton.mp (List.mem_of_getElem? hi)
    exact Or.inr ⟨Nat.zero_le i, fresh, fun lnk hl => absurd hl (nolink lnk)⟩

theorem attachS_write (hashOf : Val → Option Nat) {A B : List Cell} {cell : Cell} {idx : Nat} {k : String} {arr : Bool}
    (hf : freshCell cell) (h : attachS A cell idx k arr = some B) : Write hashOf A B := by
  obtain ⟨c, hget, hn, rfl⟩ := attachS_some h
  refine .mk _ _ hget (c.link_withArgs _) (fun x hx => ?_) (fun k' i r hs => ?_) (Or.inl (c.hash_withArgs _))
  · cases List.mem_singleton.mp hx
    exact ⟨freshCell_withLink cell _ hf, fun lnk hl => by cases link_withLink hl; rfl⟩
  · rw [Cell.args_withArgs hn] at hs
    rcases stored_linkArgs hs with hs | ⟨rfl, rfl, rfl⟩
    · exact Or.inl hs
    · exact Or.inr ⟨Nat.le_refl _, by rw [Nat.sub_self]; exact linkIs_withLink ..⟩

theorem assignArg_write (hashOf : Val → Option Nat) {A B : List Cell} {j : Nat} {k : String} {s : Slot} {cells : List Cell}
    (h : assignArg A j k s cells = some B) (hc : ∀ x ∈ cells, freshCell x ∧ x.link = none)
    (hs : ∀ i r, s.holds i r → A.length ≤ r ∧ r - A.length < cells.length) : Write hashOf A B := by
  obtain ⟨c, hget, hn, rfl⟩ := assignArg_some h
  refine .mk _ _ hget (c.link_withArgs _) (fun x hx => ⟨(hc x hx).1, fun lnk hl => ?_⟩) (fun k' i r hst => ?_)
    (Or.inl (c.hash_withArgs _))
  · rw [(hc x hx).2] at hl; cases hl
  · rw [Cell.args_withArgs hn] at hst
    rcases stored_setKey hst with hst | ⟨rfl, hh'⟩
    · exact Or.inl hst
    · have := hs i r hh'
      exact Or.inr ⟨this.1, linkIs_scalar (List.getElem?_eq_getElem this.2) (hc _ (List.getElem_mem _)).2 _⟩

theorem fillCell_write {hashOf : Val → Option Nat} {A B : List Cell} {j : Nat} {c : Comments} {ty : Option Val} {m : Meta}
    {v : Val} (h : fillCell A j c ty m (hashOf v) = some B) : Write hashOf A B := by
  obtain ⟨c0, c1, hget, rfl, hargs, hlink, hhash⟩ := fillCell_some h
  exact .fields c1 hget hargs hlink (Or.inr (Or.inr ⟨v, hhash⟩))

/-- a property of arenas that every heap operation of `load` and of `__deepcopy__` keeps: one kept by writes -/
structure Kept (hashOf : Val → Option Nat) (P : List Cell → Prop) : Prop where
  nil : P []
  write : ∀ {A B}, P A → Write hashOf A B → P B

/-- the hash walk is a sequence of writes -/
theorem Kept.clear {hashOf : Val → Option Nat} {P : List Cell → Prop} (K : Kept hashOf P) (fuel : Nat) {A : List Cell}
    (i : Nat) (hA : P A) : P (clearUp A fuel i) :=
  clearUp_induct (fun hget h => K.write h (.fields _ hget (args_eH _) (link_eH _) (Or.inr (Or.inl (hash_eH _))))) fuel i hA

theorem Kept.attach {hashOf : Val → Option Nat} {P : List Cell → Prop} (K : Kept hashOf P) {A B : List Cell} {cell : Cell}
    {idx : Nat} {k : String} {arr : Bool} (hA : P A) (hf : freshCell cell) (h : attach A cell idx k arr = some B) : P B := by
  rw [attach_eq] at h
  exact K.write (K.clear _ _ hA) (attachS_write hashOf hf h)

theorem Kept.loadList {hashOf : Val → Option Nat} {P : List Cell → Prop} (K : Kept hashOf P) :
    ∀ (ps : List Payload) {A A' : List Cell}, P A → loadList ps A = some A' → P A'
  | [], _, _, hP, h => Option.some.inj h ▸ hP
  | p :: ps, A, _, hP, h => by
    rw [loadList_cons] at h
    obtain ⟨cell, hc, h⟩ := Option.bind_eq_some_iff.mp h
    obtain ⟨idx, -, h⟩ := Option.bind_eq_some_iff.mp h
    obtain ⟨k, -, h⟩ := Option.bind_eq_some_iff.mp h
    obtain ⟨A1, hat, h⟩ := Option.bind_eq_some_iff.mp h
    exact K.loadList ps (K.attach hP (mkCell_fresh hc) hat) h

theorem loadArena_kept {hashOf : Val → Option Nat} {P : List Cell → Prop} (K : Kept hashOf P) :
    ∀ {ps : List Payload} {A : List Cell}, loadArena ps = some A → P A
  | [], _, h => Option.some.inj h ▸ K.nil
  | p :: tail, _, h => by
    simp only [loadArena] at h
    cases hr : mkRoot p with
    | none => simp [hr] at h
    | some root =>
      rw [hr] at h
      exact K.loadList tail (K.write K.nil (.first root (mkCell_fresh (mkCell_of_mkRoot hr)) (mkCell_nolink (mkCell_of_mkRoot hr)))) h

theorem Kept.copyVals {hashOf : Val → Option Nat} {P : List Cell → Prop} (K : Kept hashOf P) (j : Nat) (k : String) :
    ∀ (vs : List Val) {A : List Cell} {pushed : List CItem} {r : List Cell × List CItem},
      P A → copyVals Serde.attach j k vs A pushed = some r → P r.1
  | [], _, _, _, hP, h => by simp only [Serde.copyVals, Option.some.injEq] at h; exact h ▸ hP
  | v :: vs, _, _, _, hP, h => by
    rw [copyVals_cons] at h
    obtain ⟨A', h1, h⟩ := Option.bind_eq_some_iff.mp h
    exact K.copyVals j k vs (K.attach hP (toCell_fresh v) h1) h

theorem Kept.copyArgs {hashOf : Val → Option Nat} {P : List Cell → Prop} (K : Kept hashOf P) (j : Nat) :
    ∀ (args : List Arg) {A : List Cell} {pushed : List CItem} {r : List Cell × List CItem},
      P A → copyArgs Serde.attach j args A pushed = some r → P r.1
  | [], _, _, _, hP, h => by simp only [Serde.copyArgs, Option.some.injEq] at h; exact h ▸ hP
  | .one k v :: rest, A, _, _, hP, h => by
    rw [copyArgs_one] at h
    split at h
    · obtain ⟨A', h1, h⟩ := Option.bind_eq_some_iff.mp h
      exact K.copyArgs j rest (K.attach hP (toCell_fresh v) h1) h
    · rename_i hn
      obtain ⟨A', h1, h⟩ := Option.bind_eq_some_iff.mp h
      -- a scalar value: one fresh cell without parent fields, stored under `args[k]`
      refine K.copyArgs j rest (K.write hP (assignArg_write hashOf h1 (fun x hx => ?_) fun i r hh => ?_)) h
      · cases List.mem_singleton.mp hx
        exact ⟨toCell_fresh v, by cases v with | node => exact absurd rfl hn | _ => rfl⟩
      · cases i with
        | none => cases hh; simp
        | some n => exact hh.elim
  | .many k vs :: rest, A, _, _, hP, h => by
    rw [copyArgs_many] at h
    obtain ⟨A0, h1, h⟩ := Option.bind_eq_some_iff.mp h
    obtain ⟨r1, h2, h⟩ := Option.bind_eq_some_iff.mp h
    refine K.copyArgs j rest (K.copyVals j k vs (K.write hP (assignArg_write hashOf h1 (fun _ hx => nomatch hx)
      fun i r hh => ?_)) h2) h
    cases i with
    | none => exact hh.elim
    | some n => cases hh

theorem Kept.copyLoop {hashOf : Val → Option Nat} {P : List Cell → Prop} (K : Kept hashOf P) :
    ∀ (fuel : Nat) (st : List CItem) {A B : List Cell}, P A → copyLoopWith Serde.attach hashOf fuel st A = some B → P B
  | _, [], _, _, hP, h => by simp only [copyLoopWith, Option.some.injEq] at h; exact h ▸ hP
  | 0, _ :: _, _, _, _, h => by simp [copyLoopWith] at h
  | _ + 1, (.dtype _, _) :: _, _, _, _, h => by simp [copyLoopWith] at h
  | _ + 1, (.raw _, _) :: _, _, _, _, h => by simp [copyLoopWith] at h
  | fuel + 1, (.node cls ty c m args, j) :: st, _, _, hP, h => by
    rw [copyLoopWith_node] at h
    obtain ⟨ty', -, h⟩ := Option.bind_eq_some_iff.mp h
    obtain ⟨m', -, h⟩ := Option.bind_eq_some_iff.mp h
    obtain ⟨A1, h1, h⟩ := Option.bind_eq_some_iff.mp h
    obtain ⟨r, h2, h⟩ := Option.bind_eq_some_iff.mp h
    exact K.copyLoop fuel _ (K.copyArgs j args (K.write hP (fillCell_write h1)) h2) h

theorem copyArena_kept {hashOf : Val → Option Nat} {P : List Cell → Prop} (K : Kept hashOf P) {t : Val} {B : List Cell}
    (h : copyArena hashOf t = some B) : P B :=
  K.copyLoop t.size [(t, 0)] (K.write K.nil (.first _ (toCell_fresh t) (toCell_nolink t))) h

/-- no cached hash is invented: every `_hash` in the copy is `None` or the cached hash of some source node -/
def HInv (hashOf : Val → Option Nat) (A : List Cell) : Prop :=
  ∀ (j : Nat) cls ty c m args l h, A[j]? = some (Cell.node cls ty c m args l h) → h = none ∨ ∃ v, h = hashOf v

theorem hinv_iff {hashOf : Val → Option Nat} {A : List Cell} :
    HInv hashOf A ↔ ∀ (j : Nat) (c : Cell), A[j]? = some c → c.hash = none ∨ ∃ v, c.hash = hashOf v :=
  ⟨fun h j c hj => by
    cases c with
    | node => exact h j _ _ _ _ _ _ _ hj
    | _ => exact Or.inl rfl,
   fun h j _ _ _ _ _ _ _ hj => h j _ hj⟩

theorem hinv_kept (hashOf : Val → Option Nat) : Kept hashOf (HInv hashOf) where
  nil := fun j _ _ _ _ _ _ _ hj => nomatch hj
  write := fun hA hw => hinv_iff.mpr fun i x hi => by
    rcases hw.get hi with ⟨c, hc, -, -, e | e | hv⟩ | ⟨-, hf, -⟩
    · rw [e]; exact hinv_iff.mp hA i c hc
    · exact Or.inl e
    · exact Or.inr hv
    · exact Or.inl hf.2

theorem copy_hashes_from_source (hashOf : Val → Option Nat) (t : Val) (B : List Cell)
    (h : copyArena hashOf t = some B) : HInv hashOf B :=
  copyArena_kept (hinv_kept hashOf) h

def Slot.refs : Slot → List Nat
  | .one r => [r]
  | .many rs => rs

def slotsRefs : Slots → List Nat
  | [] => []
  | (_, s) :: rest => s.refs ++ slotsRefs rest

theorem mem_refs {s : Slot} {r : Nat} : r ∈ s.refs ↔ ∃ i, s.holds i r := by
  cases s with
  | one r' =>
    refine ⟨fun h => ⟨none, (List.mem_singleton.mp h).symm⟩, fun ⟨i, h⟩ => ?_⟩
    cases i with
    | none => exact List.mem_singleton.mpr (show r' = r from h).symm
    | some n => exact h.elim
  | many rs =>
    refine ⟨fun h => (List.mem_iff_getElem?.mp h).elim fun n hn => ⟨some n, hn⟩, fun ⟨i, h⟩ => ?_⟩
    cases i with
    | none => exact h.elim
    | some n => exact List.mem_of_getElem? h

theorem mem_slotsRefs {r : Nat} : ∀ {args : Slots}, r ∈ slotsRefs args ↔ ∃ k i, Stored args k i r
  | [] => ⟨fun h => (nomatch h), fun ⟨_, _, _, h, _⟩ => (nomatch h)⟩
  | (k0, s) :: rest => by
    simp only [slotsRefs, List.mem_append, mem_slotsRefs (args := rest), mem_refs, Stored, List.mem_cons]
    constructor
    · rintro (⟨i, h⟩ | ⟨k, i, s', hm, h⟩)
      · exact ⟨k0, i, s, Or.inl rfl, h⟩
      · exact ⟨k, i, s', Or.inr hm, h⟩
    · rintro ⟨k, i, s', e | hm, h⟩
      · cases e; exact Or.inl ⟨i, h⟩
      · exact Or.inr ⟨k, i, s', hm, h⟩

/-- structure of a proper heap tree: children refs point forwards and inside the arena, parent indices backwards -/
def CellInvS (n j : Nat) : Cell → Prop
  | .node _ _ _ _ args link _ => (∀ r ∈ slotsRefs args, j < r ∧ r < n) ∧ (∀ l, link = some l → l.parent < j)
  | _ => True

def RInv (A : List Cell) : Prop := ∀ j c, A[j]? = some c → CellInvS A.length j c

theorem cellInvS_iff {n j : Nat} {c : Cell} :
    CellInvS n j c ↔ (∀ r ∈ slotsRefs c.args, j < r ∧ r < n) ∧ ∀ l, c.link = some (some l) → l.parent < j := by
  cases c with
  | node =>
    exact ⟨fun h => ⟨h.1, fun l hl => h.2 l (Option.some.inj hl)⟩, fun h => ⟨h.1, fun l hl => h.2 l (congrArg some hl)⟩⟩
  | _ => exact ⟨fun _ => ⟨fun _ hr => (nomatch hr), fun _ hl => (nomatch hl)⟩, fun _ => trivial⟩

theorem rinv_kept (hashOf : Val → Option Nat) : Kept hashOf RInv where
  nil := fun j _ hj => nomatch hj
  write := fun {A B} hA hw i x hi => by
    rcases hw.get hi with ⟨c, hc, link, stored, -⟩ | ⟨hge, hf, hpar⟩
    · have hold := cellInvS_iff.mp (hA i c hc)
      refine cellInvS_iff.mpr ⟨fun r hr => ?_, by rw [link]; exact hold.2⟩
      obtain ⟨k, ix, hs⟩ := mem_slotsRefs.mp hr
      rcases stored k ix r hs with hs | ⟨hge, hl⟩
      · have := hold.1 r (mem_slotsRefs.mpr ⟨k, ix, hs⟩)
        exact ⟨this.1, Nat.lt_of_lt_of_le this.2 hw.length_le⟩
      · -- a new ref lies behind every old cell, and a cell that records a link is there
        obtain ⟨y, hy, -⟩ := linkIs_iff.mp hl
        exact ⟨Nat.lt_of_lt_of_le (lt_of_get hc) hge, lt_of_get hy⟩
    · -- a fresh cell stores nothing, and its parent is an old cell
      exact cellInvS_iff.mpr ⟨fun r hr => (by rw [hf.1] at hr; nomatch hr),
        fun l' hl' => Nat.lt_of_lt_of_le (hpar l' hl') hge⟩

theorem copyArena_rinv (hashOf : Val → Option Nat) (t : Val) (B : List Cell)
    (h : copyArena hashOf t = some B) : RInv B :=
  copyArena_kept (rinv_kept hashOf) h

/-- what holds of the cell at index `j` in an arena of `n` cells: no cached hash, children refs point forwards and
    inside the arena, the parent index points backwards -/
def CellInv (n j : Nat) : Cell → Prop
  | .node _ _ _ _ args link h =>
    h = none ∧ (∀ r ∈ slotsRefs args, j < r ∧ r < n) ∧ (∀ l, link = some l → l.parent < j)
  | _ => True

def AInv (A : List Cell) : Prop := ∀ j c, A[j]? = some c → CellInv A.length j c

theorem cellInv_iff {n j : Nat} {c : Cell} : CellInv n j c ↔ c.hash = none ∧ CellInvS n j c := by
  cases c with
  | node => exact Iff.rfl
  | _ => exact ⟨fun _ => ⟨rfl, trivial⟩, fun _ => trivial⟩

/-- what `load` guarantees is what `copy` guarantees with no source hash to carry over -/
theorem ainv_iff (A : List Cell) : AInv A ↔ HInv (fun _ => none) A ∧ RInv A := by
  rw [hinv_iff]
  exact ⟨fun h => ⟨fun j c hj => Or.inl (cellInv_iff.mp (h j c hj)).1, fun j c hj => (cellInv_iff.mp (h j c hj)).2⟩,
    fun ⟨hH, hR⟩ j c hj => cellInv_iff.mpr ⟨(hH j c hj).elim id fun ⟨_, e⟩ => e, hR j c hj⟩⟩

/- (`load` caches no hash: any `hashOf` would do for the three invariants of a loaded arena, `fun _ => none` says so) -/
theorem loadArena_inv (ps : List Payload) (A : List Cell) (h : loadArena ps = some A) : AInv A :=
  (ainv_iff A).mpr ⟨loadArena_kept (hinv_kept fun _ => none) h, loadArena_kept (rinv_kept fun _ => none) h⟩

theorem unpickleArena_noState (ps : List Payload) : unpickleArena ⟨ps, none⟩ = loadArena ps := by
  simp only [unpickleArena]; cases loadArena ps <;> rfl

def LinksOK (A : List Cell) : Prop := ∀ j, cellOK A j

theorem links_kept (hashOf : Val → Option Nat) : Kept hashOf LinksOK where
  nil := fun j => cellOK_iff.mpr fun _ hj => nomatch hj
  write := fun {A B} hA hw j => cellOK_iff.mpr fun x hj => by
    rcases hw.get hj with ⟨c, hc, -, stored, -⟩ | ⟨-, hf, -⟩
    · refine slotsOK_iff.mpr fun k i r hs => ?_
      rcases stored k i r hs with hs | ⟨-, hl⟩
      · exact hw.linkIs (slotsOK_iff.mp (cellOK_iff.mp (hA j) c hc) k i r hs)
      · exact hl
    · rw [hf.1]; trivial

theorem loadArena_links (ps : List Payload) (A : List Cell) (h : loadArena ps = some A) : LinksOK A :=
  loadArena_kept (links_kept fun _ => none) h

theorem copy_links (hashOf : Val → Option Nat) (t : Val) (B : List Cell)
    (h : copyArena hashOf t = some B) : LinksOK B :=
  copyArena_kept (links_kept hashOf) h

/-- which cells of the arena are Expressions: all that `load` asks of the arena when it attaches the next payload
    (`attach_isSome`) -/
def kinds (A : List Cell) : List Bool := A.map Cell.isNodeC

/-- `kinds[i]` says whether payload `i` built an Expression. A later payload is accepted iff it builds a cell by itself
    (`mkCell`: has CLASS — with loadable nested TYPE / `__expr__` lists and, for the DType marker, a str VALUE — or has
    VALUE), has ARG_KEY, and its INDEX names an *earlier* payload that built an Expression. -/
def tailOK (kinds : List Bool) : List Payload → Bool
  | [] => true
  | p :: ps => match mkCell p, pIndex p, pKey p with
    | some cell, some idx, some _ => kinds.getD idx false && tailOK (kinds ++ [cell.isNodeC]) ps
    | _, _, _ => false

/-- the empty list is accepted (`load` returns `None`); otherwise the first payload must have a CLASS (`mkRoot`) -/
def accepts : List Payload → Bool
  | [] => true
  | p :: ps => match mkRoot p with
    | some root => tailOK [root.isNodeC] ps
    | none => false

theorem isNodeC_eH (c : Cell) : (eH c).isNodeC = c.isNodeC := by cases c <;> rfl

theorem kinds_mapE (A : List Cell) : kinds (mapE A) = kinds A := by
  simp [kinds, mapE, List.map_map, Function.comp_def, isNodeC_eH]

theorem kinds_clearUp (A : List Cell) (fuel i : Nat) : kinds (clearUp A fuel i) = kinds A := by
  rw [← kinds_mapE, clearUp_mapE, kinds_mapE]

theorem withLink_isNodeC (c : Cell) (l : Link) : (c.withLink l).isNodeC = c.isNodeC := by
  cases c <;> rfl

theorem attachS_isSome (A : List Cell) (cell : Cell) (idx : Nat) (k : String) (arr : Bool) :
    (attachS A cell idx k arr).isSome = (kinds A).getD idx false := by
  simp only [attachS_eq, kinds, List.getD, List.getElem?_map]
  cases A[idx]? with
  | none => rfl
  | some c => cases h : c.isNodeC <;> simp [h]

theorem kinds_attachS {A A' : List Cell} {cell : Cell} {idx : Nat} {k : String} {arr : Bool}
    (h : attachS A cell idx k arr = some A') : kinds A' = kinds A ++ [cell.isNodeC] := by
  obtain ⟨c, hget, -, rfl⟩ := attachS_some h
  simp only [kinds, List.map_append, List.map_set, List.map_cons, List.map_nil, withLink_isNodeC, Cell.isNodeC_withArgs]
  rw [set_self _ _ _ (by simp [hget])]

theorem attach_isSome (A : List Cell) (cell : Cell) (idx : Nat) (k : String) (arr : Bool) :
    (attach A cell idx k arr).isSome = (kinds A).getD idx false := by
  rw [attach_eq, attachS_isSome, kinds_clearUp]

theorem kinds_attach {A A' : List Cell} {cell : Cell} {idx : Nat} {k : String} {arr : Bool}
    (h : attach A cell idx k arr = some A') : kinds A' = kinds A ++ [cell.isNodeC] := by
  rw [attach_eq] at h
  rw [kinds_attachS h, kinds_clearUp]

theorem loadList_accepts : ∀ (ps : List Payload) (A : List Cell), (loadList ps A).isSome = tailOK (kinds A) ps
  | [], A => rfl
  | p :: ps, A => by
    rw [loadList_cons]
    simp only [tailOK]
    cases mkCell p with
    | none => rfl
    | some cell =>
      cases pIndex p with
      | none => rfl
      | some idx =>
        cases pKey p with
        | none => rfl
        | some k =>
          simp only [Option.bind_some]
          rw [← attach_isSome A cell idx k (pArr p)]
          cases ha : attach A cell idx k (pArr p) with
          | none => rfl
          | some A' => rw [← kinds_attach ha]; simpa using loadList_accepts ps A'

theorem loadArena_accepts (ps : List Payload) : (loadArena ps).isSome = accepts ps := by
  cases ps with
  | nil => rfl
  | cons p ps =>
    simp only [loadArena, accepts]
    cases hr : mkRoot p with
    | none => simp
    | some root => simpa [kinds] using loadList_accepts ps [root]

end SqlglotModel.Serde
