/-
  C12 — `copy t = t` for `Expression.__deepcopy__` (`copyLoopWith`, Model/Serde.lean).  It is proved for the loop whose
  `set` / `append` skip the hash-invalidation walk (`attachS`): one pass over the args has a closed form, and from any stack of
  pending copies the loop never writes a finished cell again and makes every pending index read back as its source
  (`copyLoopS_ok`).  The real loop builds the same arena up to `_hash` fields (`copyLoop_sim`).
-/
import SqlglotModel.Proofs.SerdeHeap

namespace SqlglotModel.Serde

/-- everything one args pass allocates: (source value, arena index, parent link), in allocation order -/
def allocVals (j : Nat) (k : String) : List Val → Nat → Nat → List (Val × Nat × Link)
  | [], _, _ => []
  | v :: vs, p, i => (v, i, ⟨j, k, some p⟩) :: allocVals j k vs (p + 1) (i + 1)

def alloc (j : Nat) : List Arg → Nat → List (Val × Nat × Link)
  | [], _ => []
  | .one k v :: rest, i => (v, i, ⟨j, k, none⟩) :: alloc j rest (i + 1)
  | .many k vs :: rest, i => allocVals j k vs 0 i ++ alloc j rest (i + vs.length)

def cellOf (e : Val × Nat × Link) : Cell := e.1.toCell.withLink e.2.2
def itemOf (e : Val × Nat × Link) : CItem := (e.1, e.2.1)
def pushedOf (l : List (Val × Nat × Link)) : List CItem := (l.map itemOf).filter fun e => e.1.isNode

/-- the finished `args` dict of the copy when its first allocated cell is `i` -/
def cslots : List Arg → Nat → Slots
  | [], _ => []
  | .one k _ :: rest, i => (k, .one i) :: cslots rest (i + 1)
  | .many k vs :: rest, i => (k, .many (List.range' i vs.length)) :: cslots rest (i + vs.length)

theorem allocVals_length (j : Nat) (k : String) (vs : List Val) (p i : Nat) :
    (allocVals j k vs p i).length = vs.length := by
  induction vs generalizing p i with
  | nil => simp [allocVals]
  | cons v vs ih => simp [allocVals, ih]

theorem alloc_length_one (j : Nat) (k : String) (v : Val) (rest : List Arg) (i : Nat) :
    (alloc j (.one k v :: rest) i).length = 1 + (alloc j rest (i + 1)).length := by
  simp [alloc, Nat.add_comm]

theorem withLink_scalar (v : Val) (l : Link) (h : v.isNode = false) : v.toCell.withLink l = v.toCell := by
  cases v <;> simp_all [Val.isNode, Val.toCell, Cell.withLink]

theorem toCell_isRawNull (v : Val) : v.toCell.isRawNull = v.isNull := by
  cases v with
  | node => simp [Val.toCell, emptyCell, Cell.isRawNull, Val.isNull]
  | dtype => simp [Val.toCell, Cell.isRawNull, Val.isNull]
  | raw r => exact isRawNull_raw r

theorem copyVals_closed (j : Nat) (k : String) : ∀ (vs : List Val) (A : List Cell) (pushed : List CItem)
    (refs : List Nat) (c : Cell) (cur : Slots), A[j]? = some c → c.isNodeC = true → c.args = cur ++ [(k, .many refs)] →
    k ∉ keysS cur →
    copyVals attachS j k vs A pushed =
      some (A.set j (c.withArgs (cur ++ [(k, .many (refs ++ List.range' A.length vs.length))]))
              ++ (allocVals j k vs refs.length A.length).map cellOf,
            pushed ++ pushedOf (allocVals j k vs refs.length A.length)) := by
  intro vs
  induction vs with
  | nil =>
    intro A pushed refs c cur hA _ hargs _
    have hself : A.set j (c.withArgs (cur ++ [(k, .many refs)])) = A :=
      set_self _ _ _ (by rw [← hargs, Cell.withArgs_args]; exact hA)
    simp [copyVals, allocVals, pushedOf, hself]
  | cons v vs ih =>
    intro A pushed refs c cur hA hc hargs hk
    have hj := lt_of_get hA
    rw [copyVals_cons, attachS_ok _ k true hA hc]
    simp only [hargs, linkArgs, if_true, appendRef_snoc _ _ hk, Option.bind_some]
    rw [ih _ _ (refs ++ [A.length]) _ cur (get_set_append _ _ _ _ hj) ((c.isNodeC_withArgs _).trans hc)
      (Cell.args_withArgs hc _) hk]
    cases hn : v.isNode <;>
      simp [hn, allocVals, pushedOf, itemOf, cellOf, hj, List.range'_succ, Cell.withArgs_withArgs]

theorem copyArgs_closed (j : Nat) : ∀ (args : List Arg), (keysOf args).Nodup →
    ∀ (A : List Cell) (pushed : List CItem) (c : Cell), A[j]? = some c → c.isNodeC = true →
    (∀ k ∈ keysOf args, k ∉ keysS c.args) →
    copyArgs attachS j args A pushed =
      some (A.set j (c.withArgs (c.args ++ cslots args A.length)) ++ (alloc j args A.length).map cellOf,
            pushed ++ pushedOf (alloc j args A.length)) := by
  intro args
  induction args with
  | nil =>
    intro _ A pushed c hA _ _
    simp [copyArgs, cslots, alloc, pushedOf, Cell.withArgs_args, set_self _ _ _ hA]
  | cons a rest ih =>
    intro hnd A pushed c hA hc hdis
    simp only [keysOf, List.nodup_cons] at hnd
    have hj := lt_of_get hA
    have hka : a.key ∉ keysS c.args := hdis a.key (by simp [keysOf])
    -- the cell at `j` once `a` is entered: the keys still to come are absent from its args
    have hnext : ∀ s : Slot, (c.withArgs (c.args ++ [(a.key, s)])).isNodeC = true ∧
        ∀ k ∈ keysOf rest, k ∉ keysS (c.withArgs (c.args ++ [(a.key, s)])).args := fun s =>
      ⟨(c.isNodeC_withArgs _).trans hc, by rw [Cell.args_withArgs hc]; exact keys_fresh_snoc hnd.1 hdis s⟩
    cases a with
    | one k v =>
      simp only [Arg.key] at hka hnext
      rw [copyArgs_one]
      cases hn : v.isNode
      · simp only [Bool.false_eq_true, if_false, assignArg_ok hA hc, setKey_notin _ hka, Option.bind_some]
        rw [ih hnd.2 _ _ _ (get_set_append _ _ _ _ hj) (hnext _).1 (hnext _).2]
        simp [cslots, alloc, pushedOf, itemOf, cellOf, hn, hj, withLink_scalar v _ hn, Cell.args_withArgs hc,
          Cell.withArgs_withArgs]
      · have hnull : v.isNull = false := by
          cases v with
          | node => rfl
          | _ => cases hn
        rw [if_pos rfl, attachS_ok _ k false hA hc]
        simp only [linkArgs, toCell_isRawNull, hnull, setKey_notin _ hka, Bool.false_eq_true, if_false, Option.bind_some]
        rw [ih hnd.2 _ _ _ (get_set_append _ _ _ _ hj) (hnext _).1 (hnext _).2]
        simp [cslots, alloc, pushedOf, itemOf, cellOf, hn, hj, Cell.args_withArgs hc, Cell.withArgs_withArgs]
    | many k vs =>
      simp only [Arg.key] at hka hnext
      rw [copyArgs_many]
      simp only [assignArg_ok hA hc, setKey_notin _ hka, Option.bind_some, List.append_nil]
      rw [copyVals_closed j k vs _ pushed [] _ c.args (List.getElem?_set_self hj) (hnext _).1 (Cell.args_withArgs hc _) hka]
      simp only [Option.bind_some, List.length_set, List.nil_append, List.length_nil, List.set_set, Cell.withArgs_withArgs]
      rw [ih hnd.2 _ _ _ (get_set_append _ _ _ _ hj) (hnext _).1 (hnext _).2]
      simp [cslots, alloc, pushedOf, allocVals_length, hj, Cell.args_withArgs hc, Cell.withArgs_withArgs]

theorem allocVals_get (j : Nat) (k : String) : ∀ (vs : List Val) (p i t : Nat) (e : Val × Nat × Link),
    (allocVals j k vs p i)[t]? = some e → e.2.1 = i + t := by
  intro vs
  induction vs with
  | nil => intro p i t e h; simp [allocVals] at h
  | cons v vs ih =>
    intro p i t e h
    cases t with
    | zero => simp [allocVals] at h; subst h; simp
    | succ t =>
      simp [allocVals] at h
      have := ih (p + 1) (i + 1) t e h
      omega

theorem alloc_get (j : Nat) : ∀ (args : List Arg) (i t : Nat) (e : Val × Nat × Link),
    (alloc j args i)[t]? = some e → e.2.1 = i + t := by
  intro args
  induction args with
  | nil => intro i t e h; simp [alloc] at h
  | cons a rest ih =>
    intro i t e h
    cases a with
    | one k v =>
      cases t with
      | zero => simp [alloc] at h; subst h; simp
      | succ t =>
        simp [alloc] at h
        have := ih (i + 1) t e h
        omega
    | many k vs =>
      simp only [alloc] at h
      by_cases ht : t < (allocVals j k vs 0 i).length
      · rw [List.getElem?_append_left ht] at h
        exact allocVals_get j k vs 0 i t e h
      · rw [List.getElem?_append_right (by omega)] at h
        have := ih (i + vs.length) (t - (allocVals j k vs 0 i).length) e h
        simp [allocVals_length] at this ht
        omega

theorem alloc_distinct (j : Nat) (args : List Arg) (i : Nat) :
    (alloc j args i).Pairwise (fun a b => a.2.1 ≠ b.2.1) := by
  rw [List.pairwise_iff_getElem]
  intro s t hs ht hst
  have h1 := alloc_get j args i s _ (List.getElem?_eq_getElem hs)
  have h2 := alloc_get j args i t _ (List.getElem?_eq_getElem ht)
  omega

theorem alloc_inj (j : Nat) (args : List Arg) (i : Nat) (e e' : Val × Nat × Link)
    (he : e ∈ alloc j args i) (he' : e' ∈ alloc j args i) (hidx : e.2.1 = e'.2.1) : e = e' :=
  inj_of_nodup_map (f := fun e => e.2.1) (List.pairwise_map.mpr (alloc_distinct j args i)) he he' hidx

theorem alloc_ge {j : Nat} {args : List Arg} {i : Nat} {e : Val × Nat × Link} (he : e ∈ alloc j args i) : i ≤ e.2.1 := by
  obtain ⟨t, ht⟩ := List.mem_iff_getElem?.mp he
  have := alloc_get j args i t e ht
  omega

theorem alloc_cell (j : Nat) (args : List Arg) {B : List Cell} {n : Nat} (hB : B.length = n) {e : Val × Nat × Link}
    (he : e ∈ alloc j args n) : (B ++ (alloc j args n).map cellOf)[e.2.1]? = some (cellOf e) := by
  obtain ⟨t, ht⟩ := List.mem_iff_getElem?.mp he
  rw [alloc_get j args n t e ht, List.getElem?_append_right (by omega)]
  simp [hB, ht]

theorem mem_pushedOf {L : List (Val × Nat × Link)} {e : CItem} :
    e ∈ pushedOf L ↔ ∃ e' ∈ L, e'.1.isNode = true ∧ e = itemOf e' := by
  simp only [pushedOf, List.mem_filter, List.mem_map]
  exact ⟨fun ⟨⟨e', he', h⟩, hn⟩ => ⟨e', he', by subst h; exact hn, h.symm⟩,
    fun ⟨e', he', hn, h⟩ => ⟨⟨e', he', h.symm⟩, by subst h; exact hn⟩⟩

theorem reifyRefs_alloc (g : Nat → Option Val) (j : Nat) (k : String) : ∀ (vs : List Val) (p i : Nat),
    (∀ e ∈ allocVals j k vs p i, g e.2.1 = some e.1) → reifyRefs g (List.range' i vs.length) = some vs := by
  intro vs
  induction vs with
  | nil => intro p i _; simp [reifyRefs]
  | cons v vs ih =>
    intro p i h
    have h0 : g i = some v := h (v, i, ⟨j, k, some p⟩) (by simp [allocVals])
    have hr := ih (p + 1) (i + 1) (fun e he => h e (by simp [allocVals, he]))
    simp [List.range'_succ, reifyRefs, h0, hr]

theorem reifySlots_alloc (g : Nat → Option Val) (j : Nat) : ∀ (args : List Arg) (i : Nat),
    (∀ e ∈ alloc j args i, g e.2.1 = some e.1) → reifySlots g (cslots args i) = some args := by
  intro args
  induction args with
  | nil => intro i _; simp [cslots, reifySlots]
  | cons a rest ih =>
    intro i h
    cases a with
    | one k v =>
      have h0 : g i = some v := h (v, i, ⟨j, k, none⟩) (by simp [alloc])
      have hr := ih (i + 1) (fun e he => h e (by simp [alloc, he]))
      simp [cslots, reifySlots, reifySlot, h0, hr]
    | many k vs =>
      have h0 := reifyRefs_alloc g j k vs 0 i (fun e he => h e (by simp [alloc, he]))
      have hr := ih (i + vs.length) (fun e he => h e (by simp [alloc, he]))
      simp [cslots, reifySlots, reifySlot, h0, hr]

theorem reify_scalar {B : List Cell} {i : Nat} (v : Val) (hn : v.isNode = false) (hc : B[i]? = some v.toCell) :
    reify B v.size i = some v := by
  cases v <;> simp_all [Val.isNode, Val.size, reify, Val.toCell, reifyCell]

/-- the sizes of the pending source nodes: the fuel the loop needs from this stack -/
def pendSize : List CItem → Nat
  | [] => 0
  | e :: es => e.1.size + pendSize es

theorem pendSize_append (a b : List CItem) : pendSize (a ++ b) = pendSize a + pendSize b := by
  induction a with
  | nil => simp [pendSize]
  | cons e es ih => simp [pendSize, ih, Nat.add_assoc]

theorem pendSize_reverse (a : List CItem) : pendSize a.reverse = pendSize a := by
  induction a with
  | nil => rfl
  | cons e es ih => simp [pendSize_append, pendSize, ih, Nat.add_comm]

theorem pendSize_filter_le (p : CItem → Bool) : ∀ l : List CItem, pendSize (l.filter p) ≤ pendSize l
  | [] => Nat.le_refl _
  | e :: l => by
    have := pendSize_filter_le p l
    rw [List.filter_cons]
    split <;> simp only [pendSize] <;> omega

theorem le_pendSize_of_mem {e : CItem} : ∀ {l : List CItem}, e ∈ l → e.1.size ≤ pendSize l
  | e' :: l, h => by
    rcases List.mem_cons.mp h with rfl | h
    · exact Nat.le_add_right _ _
    · exact Nat.le_trans (le_pendSize_of_mem h) (Nat.le_add_left _ _)

theorem allocVals_total (j : Nat) (k : String) : ∀ (vs : List Val) (p i : Nat),
    pendSize ((allocVals j k vs p i).map itemOf) = sizeVals vs
  | [], _, _ => rfl
  | v :: vs, p, i => by
    simp only [allocVals, List.map_cons, pendSize, sizeVals, allocVals_total j k vs (p + 1) (i + 1)]; rfl

theorem alloc_total (j : Nat) : ∀ (args : List Arg) (i : Nat), pendSize ((alloc j args i).map itemOf) = sizeArgs args
  | [], _ => rfl
  | .one k v :: rest, i => by
    simp only [alloc, List.map_cons, pendSize, sizeArgs, Arg.size, alloc_total j rest (i + 1)]; rfl
  | .many k vs :: rest, i => by
    simp only [alloc, List.map_append, pendSize_append, sizeArgs, Arg.size, allocVals_total, alloc_total j rest (i + vs.length)]

theorem alloc_size (j : Nat) (args : List Arg) (i : Nat) : pendSize (pushedOf (alloc j args i)) ≤ sizeArgs args := by
  rw [← alloc_total j args i]
  exact pendSize_filter_le ..

theorem alloc_mem_size (j : Nat) (args : List Arg) (i : Nat) (e : Val × Nat × Link) (he : e ∈ alloc j args i) :
    e.1.size ≤ sizeArgs args :=
  alloc_total j args i ▸ le_pendSize_of_mem (List.mem_map_of_mem (f := itemOf) he)

theorem allocVals_wf (j : Nat) (k : String) : ∀ (vs : List Val) (p i : Nat), wfVals vs →
    ∀ e ∈ allocVals j k vs p i, e.1.WF := by
  intro vs
  induction vs with
  | nil => intro p i _ e he; simp [allocVals] at he
  | cons v vs ih =>
    intro p i hw e he
    simp only [wfVals] at hw
    simp only [allocVals, List.mem_cons] at he
    rcases he with h | h
    · subst h; exact hw.1
    · exact ih (p + 1) (i + 1) hw.2 e h

theorem alloc_wf (j : Nat) : ∀ (args : List Arg) (i : Nat), wfArgs args → ∀ e ∈ alloc j args i, e.1.WF := by
  intro args
  induction args with
  | nil => intro i _ e he; simp [alloc] at he
  | cons a rest ih =>
    intro i hw e he
    simp only [wfArgs] at hw
    cases a with
    | one k v =>
      simp only [alloc, List.mem_cons] at he
      rcases he with h | h
      · subst h; exact hw.1
      · exact ih (i + 1) hw.2 e h
    | many k vs =>
      simp only [alloc, List.mem_append] at he
      rcases he with h | h
      · exact allocVals_wf j k vs 0 i hw.1 e h
      · exact ih (i + vs.length) hw.2 e h

/- A nested copy `cp` that is the identity on well-formed values of size at most `n` copies the type and the meta of a
   node of size `n + 1` to themselves. -/
section
variable {cp : Val → Option Val} {n : Nat} (hcp : ∀ t : Val, t.WF → t.size ≤ n → cp t = some t)
include hcp

theorem copyTy_id : ∀ (ty : Option Val), wfOpt ty → sizeOpt ty ≤ n → copyTyWith cp ty = some ty
  | none, _, _ => rfl
  | some t, hw, hs => by simp [copyTyWith, hcp t hw.2 hs]

theorem copyMetaL_id (l : List MetaE) : wfMetaL l → sizeMetaL l ≤ n → copyMetaLWith cp l = some l := by
  induction l with
  | nil => intro _ _; rfl
  | cons e es ih =>
    intro hw hs
    simp only [sizeMetaL] at hs
    have hr := ih hw.2 (by omega)
    cases e with
    | raw k r => simp [copyMetaLWith, hr]
    | expr k v => simp only [MetaE.size] at hs; simp [copyMetaLWith, hr, hcp v hw.1.2 (by omega)]

theorem copyMeta_id : ∀ (m : Meta), wfMeta m → sizeMeta m ≤ n → copyMetaWith cp m = some m
  | none, _, _ => rfl
  | some l, hw, hs => by simp [copyMetaWith, copyMetaL_id hcp l hw hs]

end

/-- every stack entry is a well-formed source node paired with a still-empty instance of its class; no index twice -/
structure PendOK (st : List CItem) (A : List Cell) : Prop where
  items : ∀ e ∈ st, ∃ cls ty c m args l h, e.1 = Val.node cls ty c m args ∧ e.1.WF ∧
    A[e.2]? = some (Cell.node cls none none none [] l h)
  uniq : st.Pairwise (fun a b => a.2 ≠ b.2)

theorem PendOK.lt {st : List CItem} {A : List Cell} (hP : PendOK st A) {e : CItem} (he : e ∈ st) : e.2 < A.length :=
  have ⟨_, _, _, _, _, _, _, _, _, hAe⟩ := hP.items e he
  lt_of_get hAe

theorem pendOK_root {t : Val} (hwf : t.WF) (hn : t.isNode = true) : PendOK [(t, 0)] [t.toCell] := by
  cases t with
  | node cls ty c m args =>
    exact ⟨fun e he => by cases List.mem_singleton.mp he; exact ⟨cls, ty, c, m, args, none, none, rfl, hwf, rfl⟩,
      List.pairwise_singleton ..⟩
  | dtype s => cases hn
  | raw r => cases hn

theorem PendOK.step {st : List CItem} {A : List Cell} {j : Nat} {cls ty c m} {args : List Arg} {l}
    (hP : PendOK ((.node cls ty c m args, j) :: st) A) (hargs : wfArgs args) (hv : Option Nat) :
    PendOK ((pushedOf (alloc j args A.length)).reverse ++ st)
      (A.set j (.node cls ty c m (cslots args A.length) l hv) ++ (alloc j args A.length).map cellOf) := by
  have huniq := List.pairwise_cons.mp hP.uniq
  have hQ := fun e (he : e ∈ (pushedOf (alloc j args A.length)).reverse) => mem_pushedOf.mp (List.mem_reverse.mp he)
  refine ⟨fun e he => ?_, ?_⟩
  · rcases List.mem_append.mp he with he | he
    · obtain ⟨e', he', hn, rfl⟩ := hQ e he
      have hc := alloc_cell j args (B := A.set j (.node cls ty c m (cslots args A.length) l hv)) (by simp) he'
      have hw := alloc_wf j args A.length hargs e' he'
      obtain ⟨ev, ei, el⟩ := e'
      cases ev with
      | node cls' ty' c' m' args' => exact ⟨cls', ty', c', m', args', some el, none, rfl, hw, hc⟩
      | dtype s => cases hn
      | raw r => cases hn
    · obtain ⟨cls', ty', c', m', args', l', h', hv', hw', hAe⟩ := hP.items e (List.mem_cons_of_mem _ he)
      exact ⟨cls', ty', c', m', args', l', h', hv', hw', get_write_old (Ne.symm (huniq.1 e he)) hAe _ _⟩
  · refine List.pairwise_append.mpr ⟨List.pairwise_reverse.mpr ?_, huniq.2, fun a ha b hb => ?_⟩
    · exact (List.pairwise_map.mpr ((alloc_distinct j args A.length).imp fun h e => h e.symm)).filter _
    · obtain ⟨e', he', _, rfl⟩ := hQ a ha
      exact Nat.ne_of_gt (Nat.lt_of_lt_of_le (hP.lt (List.mem_cons_of_mem _ hb)) (alloc_ge he'))

theorem reify_filled {B : List Cell} {j n : Nat} {cls ty c m l hv} {args : List Arg}
    (hBj : B[j]? = some (.node cls ty c m (cslots args n) l hv))
    (hch : ∀ e ∈ alloc j args n, reify B e.1.size e.2.1 = some e.1) :
    reify B (Val.node cls ty c m args).size j = some (.node cls ty c m args) := by
  obtain ⟨f, hf, hfa⟩ : ∃ f, (Val.node cls ty c m args).size = f + 1 ∧ sizeArgs args ≤ f :=
    ⟨sizeOpt ty + sizeMeta m + sizeArgs args, by simp only [Val.size]; omega, Nat.le_add_left _ _⟩
  simp only [hf, reify, hBj, reifyCell]
  rw [reifySlots_alloc _ j args n fun e he => ?_]; rfl
  exact reify_mono B _ _ _ (hch e he) f (Nat.le_trans (alloc_mem_size j args n e he) hfa)

/-- The loop from any stack of pending copies: a cell that is not pending is still there in the finished arena, and every
    pending index reads back there as its source node. -/
theorem copyLoopS_ok (hashOf : Val → Option Nat) : ∀ (fuel : Nat) (st : List CItem) (A : List Cell),
    PendOK st A → pendSize st ≤ fuel →
    ∃ B, copyLoopWith attachS hashOf fuel st A = some B ∧
      (∀ i c, A[i]? = some c → (∀ e ∈ st, e.2 ≠ i) → B[i]? = some c) ∧
      ∀ e ∈ st, reify B e.1.size e.2 = some e.1 := by
  intro fuel
  induction fuel with
  | zero =>
    intro st A hP hs
    cases st with
    | nil => exact ⟨A, rfl, fun _ _ h _ => h, fun _ he => nomatch he⟩
    | cons e es =>
      obtain ⟨cls, ty, c, m, args, l, h, hv, _, _⟩ := hP.items e (List.mem_cons_self ..)
      simp only [pendSize, hv, Val.size] at hs
      omega
  | succ fuel ih =>
    intro st A hP hs
    cases st with
    | nil => exact ⟨A, rfl, fun _ _ h _ => h, fun _ he => nomatch he⟩
    | cons e st' =>
      obtain ⟨v, j⟩ := e
      obtain ⟨cls, ty, c, m, args, l, h0, hv, hwf, hA⟩ := hP.items (v, j) (List.mem_cons_self ..)
      simp only at hv hwf hA
      subst hv
      simp only [Val.WF] at hwf
      obtain ⟨hcls, hty, hmt, hnd, hargs⟩ := hwf
      simp only [pendSize, Val.size] at hs
      have hj := lt_of_get hA
      have hst : ∀ e ∈ st', e.2 < A.length ∧ e.2 ≠ j := fun e he =>
        ⟨hP.lt (List.mem_cons_of_mem _ he), fun h => (List.pairwise_cons.mp hP.uniq).1 e he h.symm⟩
      have hcp : ∀ t : Val, t.WF → t.size ≤ fuel → nestedCopy attachS hashOf fuel t = some t := by
        intro t htw hts
        unfold nestedCopy
        split
        · rename_i hn
          obtain ⟨B, hB, -, hr⟩ := ih _ _ (pendOK_root htw hn) (by simpa [pendSize] using hts)
          simp [hB, hr (t, 0) (List.mem_singleton.mpr rfl)]
        · rfl
      have hTy := copyTy_id hcp ty hty (by omega)
      have hMeta := copyMeta_id hcp m hmt (by omega)
      have hsz2 : pendSize ((pushedOf (alloc j args A.length)).reverse ++ st') ≤ fuel := by
        rw [pendSize_append, pendSize_reverse]
        have := alloc_size j args A.length
        omega
      obtain ⟨B, hB, hframe, hreads⟩ := ih _ _ (hP.step hargs (hashOf (.node cls ty c m args))) hsz2
      have hpend : ∀ i, (∀ e ∈ st', e.2 ≠ i) → (∀ e' ∈ alloc j args A.length, e'.1.isNode = true → e'.2.1 ≠ i) →
          ∀ e ∈ (pushedOf (alloc j args A.length)).reverse ++ st', e.2 ≠ i := by
        intro i h1 h2 e he
        rcases List.mem_append.mp he with he | he
        · obtain ⟨e', he', hn, rfl⟩ := mem_pushedOf.mp (List.mem_reverse.mp he)
          exact h2 e' he' hn
        · exact h1 e he
      have hold : ∀ i, i < A.length → ∀ e' ∈ alloc j args A.length, e'.2.1 ≠ i := fun i hi e' he' =>
        Nat.ne_of_gt (Nat.lt_of_lt_of_le hi (alloc_ge he'))
      refine ⟨B, ?_, fun i c0 hi hne => ?_, fun e he => ?_⟩
      · rw [copyLoopWith_node, hTy, hMeta]
        simp only [Option.bind_some, fillCell, hA]
        rw [copyArgs_closed j args hnd _ [] _ (List.getElem?_set_self hj) rfl (by simp [keysS, Cell.args])]
        simpa only [Option.bind_some, List.length_set, List.set_set, List.nil_append, Cell.args, Cell.withArgs] using hB
      · exact hframe i c0 (get_write_old (Ne.symm (hne (_, j) (List.mem_cons_self ..))) hi _ _)
          (hpend i (fun e he => hne e (List.mem_cons_of_mem _ he)) fun e' he' _ => hold i (lt_of_get hi) e' he')
      · rcases List.mem_cons.mp he with rfl | he
        · -- the copy itself is finished: its Expression children are pending, its scalar children finished cells
          refine reify_filled (hframe j _ (get_set_append _ _ _ _ hj)
            (hpend j (fun e he => (hst e he).2) fun e' he' _ => hold j hj e' he')) fun e' he' => ?_
          by_cases hn : e'.1.isNode = true
          · exact hreads (itemOf e') (List.mem_append_left _ (List.mem_reverse.mpr (mem_pushedOf.mpr ⟨e', he', hn, rfl⟩)))
          · have hn' : e'.1.isNode = false := by simpa using hn
            have hc := alloc_cell j args (B := A.set j (.node cls ty c m (cslots args A.length) l
              (hashOf (Val.node cls ty c m args)))) (by simp) he'
            have hBr := hframe e'.2.1 _ hc
              (hpend _ (fun e he => Nat.ne_of_lt (Nat.lt_of_lt_of_le (hst e he).1 (alloc_ge he')))
                fun e'' he'' hn'' hidx => hn (alloc_inj j args A.length e'' e' he'' he' hidx ▸ hn''))
            exact reify_scalar _ hn' (by rw [hBr, cellOf, withLink_scalar _ _ hn'])
        · exact hreads e (List.mem_append_right _ he)

theorem bind_sim {α β γ δ} {x y : Option α} {f g : α → Option β} (e : α → γ) (e' : β → δ)
    (hxy : x.map e = y.map e) (hfg : ∀ a b, e a = e b → (f a).map e' = (g b).map e') :
    (x.bind f).map e' = (y.bind g).map e' := by
  cases x <;> cases y <;> simp at hxy ⊢
  exact hfg _ _ hxy

theorem copyVals_sim (j : Nat) (k : String) : ∀ (vs : List Val) (A A' : List Cell) (pushed : List CItem),
    mapE A = mapE A' → (copyVals attach j k vs A pushed).map (fun x => (mapE x.1, x.2)) =
      (copyVals attachS j k vs A' pushed).map fun x => (mapE x.1, x.2)
  | [], A, A', pushed, h => by simp [copyVals, h]
  | v :: vs, A, A', pushed, h => by
    rw [copyVals_cons, copyVals_cons, mapE_len_eq h]
    exact bind_sim mapE _ (attach_sim h ..) fun B B' hB => copyVals_sim j k vs B B' _ hB

theorem copyArgs_sim (j : Nat) : ∀ (args : List Arg) (A A' : List Cell) (pushed : List CItem),
    mapE A = mapE A' → (copyArgs attach j args A pushed).map (fun x => (mapE x.1, x.2)) =
      (copyArgs attachS j args A' pushed).map fun x => (mapE x.1, x.2)
  | [], A, A', pushed, h => by simp [copyArgs, h]
  | .one k v :: rest, A, A', pushed, h => by
    rw [copyArgs_one, copyArgs_one, mapE_len_eq h]
    split
    · exact bind_sim mapE _ (attach_sim h ..) fun B B' hB => copyArgs_sim j rest B B' _ hB
    · exact bind_sim mapE _ (assignArg_sim h ..) fun B B' hB => copyArgs_sim j rest B B' _ hB
  | .many k vs :: rest, A, A', pushed, h => by
    rw [copyArgs_many, copyArgs_many]
    refine bind_sim mapE _ (assignArg_sim h ..) fun B B' hB =>
      bind_sim (fun x => (mapE x.1, x.2)) _ (copyVals_sim j k vs B B' pushed hB) fun r r' hr => ?_
    obtain ⟨h1, h2⟩ := Prod.mk.inj hr
    rw [h2]
    exact copyArgs_sim j rest _ _ _ h1

theorem reifyCell_eH (g : Nat → Option Val) (c : Cell) : reifyCell g (eH c) = reifyCell g c := by
  cases c <;> simp [eH, reifyCell]

theorem reify_mapE (A : List Cell) : ∀ f i, reify (mapE A) f i = reify A f i := by
  intro f
  induction f with
  | zero => intro i; rfl
  | succ n ih =>
    intro i
    have : reify (mapE A) n = reify A n := funext ih
    simp only [reify, this]
    cases hc : A[i]? with
    | none => simp [mapE_get, hc]
    | some c => simp [mapE_get, hc, reifyCell_eH]

theorem reify_of_mapE_eq {A A' : List Cell} (h : mapE A = mapE A') (f i : Nat) : reify A f i = reify A' f i := by
  rw [← reify_mapE A, ← reify_mapE A', h]

theorem copyLoop_sim (hashOf : Val → Option Nat) (fuel : Nat) : ∀ (st : List CItem) (A A' : List Cell),
    mapE A = mapE A' →
    (copyLoopWith attach hashOf fuel st A).map mapE = (copyLoopWith attachS hashOf fuel st A').map mapE := by
  induction fuel with
  | zero => intro st A A' h; cases st <;> simp [copyLoopWith, h]
  | succ fuel ih =>
    intro st A A' h
    match st with
    | [] => simp [copyLoopWith, h]
    | (.dtype _, _) :: _ => simp [copyLoopWith]
    | (.raw _, _) :: _ => simp [copyLoopWith]
    | (.node cls ty c m args, j) :: st =>
      have hcp : nestedCopy attach hashOf fuel = nestedCopy attachS hashOf fuel := by
        funext t
        simp only [nestedCopy]
        split
        · simpa using bind_sim (f := fun B => reify B t.size 0) (g := fun B => reify B t.size 0) mapE id
            (ih [(t, 0)] [t.toCell] [t.toCell] rfl) fun B B' hB => by rw [reify_of_mapE_eq hB]
        · rfl
      rw [copyLoopWith_node, copyLoopWith_node, hcp]
      -- (`rfl` would have the kernel compare the two continuations before it looks at `none`)
      cases copyTyWith (nestedCopy attachS hashOf fuel) ty with
      | none => simp only [Option.bind_none]
      | some ty' =>
        cases copyMetaWith (nestedCopy attachS hashOf fuel) m with
        | none => simp only [Option.bind_some, Option.bind_none]
        | some m' =>
          refine bind_sim mapE _ (fillCell_sim h ..) fun B B' hB =>
            bind_sim (fun x => (mapE x.1, x.2)) _ (copyArgs_sim j args B B' [] hB) fun r r' hr => ?_
          obtain ⟨h1, h2⟩ := Prod.mk.inj hr
          rw [h2]
          exact ih _ _ _ h1

theorem copy_eq_real (hashOf : Val → Option Nat) (t : Val) (hwf : t.WF) (hn : t.isNode = true) :
    copy hashOf t = some t := by
  obtain ⟨B, hB, -, hr⟩ := copyLoopS_ok hashOf t.size _ _ (pendOK_root hwf hn) (by simp [pendSize])
  have hr := hr (t, 0) (List.mem_singleton.mpr rfl)
  have hs := copyLoop_sim hashOf t.size [(t, 0)] [t.toCell] [t.toCell] rfl
  unfold copy copyArena copyLoop
  cases h1 : copyLoopWith attach hashOf t.size [(t, 0)] [t.toCell] with
  | none => simp [h1, hB] at hs
  | some B0 =>
    simp only [h1, hB, Option.map_some, Option.some.injEq] at hs
    simp [reify_of_mapE_eq hs, hr]

end SqlglotModel.Serde
