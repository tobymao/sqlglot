/-
  C12 — the heap operations of `load` and `__deepcopy__` (Model/Serde.lean) as equations (`attachS_eq`, `assignArg_eq`, read
  forwards by `_ok` and backwards by `_some`; `fillCell_some`); the copy loops as chains of partial steps; `set` / `append`
  are `attachS` after a hash-invalidation walk that changes nothing but `_hash` fields (`attach_eq`, `clearUp_induct`; `mapE`
  erases them), and every operation respects equality up to `_hash` (`sim_of_mapE`).
-/
import SqlglotModel.Proofs.Serde

namespace SqlglotModel.Serde

/-- `attach` without the hash-invalidation walk (`attach_eq`) -/
def attachS : Attach := fun A cell idx k arr =>
  if idx < A.length then
    match A[idx]? with
    | some (.node cls ty c m args l h) =>
      let r := linkArgs args k arr A.length cell.isRawNull
      some (A.set idx (.node cls ty c m r.1 l h) ++ [cell.withLink ⟨idx, k, r.2⟩])
    | _ => none
  else none

theorem attachS_eq (A : List Cell) (cell : Cell) (idx : Nat) (k : String) (arr : Bool) :
    attachS A cell idx k arr = (A[idx]?).bind fun c =>
      if c.isNodeC then some (A.set idx (c.withArgs (linkArgs c.args k arr A.length cell.isRawNull).1)
        ++ [cell.withLink ⟨idx, k, (linkArgs c.args k arr A.length cell.isRawNull).2⟩]) else none := by
  unfold attachS
  cases hA : A[idx]? with
  | none => simp
  | some c => rw [if_pos (lt_of_get hA)]; cases c <;> rfl

theorem assignArg_eq (A : List Cell) (j : Nat) (k : String) (s : Slot) (cells : List Cell) :
    assignArg A j k s cells = (A[j]?).bind fun c =>
      if c.isNodeC then some (A.set j (c.withArgs (setKey k s c.args)) ++ cells) else none := by
  unfold assignArg
  cases A[j]? with
  | none => rfl
  | some c => cases c <;> rfl

theorem attachS_ok {A : List Cell} {p : Nat} {c : Cell} (cell : Cell) (k : String) (arr : Bool) (hA : A[p]? = some c)
    (hc : c.isNodeC = true) :
    attachS A cell p k arr = some (A.set p (c.withArgs (linkArgs c.args k arr A.length cell.isRawNull).1)
      ++ [cell.withLink ⟨p, k, (linkArgs c.args k arr A.length cell.isRawNull).2⟩]) := by
  rw [attachS_eq, hA, Option.bind_some, if_pos hc]

theorem assignArg_ok {A : List Cell} {j : Nat} {c : Cell} (hA : A[j]? = some c) (hc : c.isNodeC = true) (k : String)
    (s : Slot) (cells : List Cell) : assignArg A j k s cells = some (A.set j (c.withArgs (setKey k s c.args)) ++ cells) := by
  rw [assignArg_eq, hA, Option.bind_some, if_pos hc]

theorem attachS_some {A A' : List Cell} {cell : Cell} {idx : Nat} {k : String} {arr : Bool}
    (h : attachS A cell idx k arr = some A') :
    ∃ c, A[idx]? = some c ∧ c.isNodeC = true ∧
      A' = A.set idx (c.withArgs (linkArgs c.args k arr A.length cell.isRawNull).1)
        ++ [cell.withLink ⟨idx, k, (linkArgs c.args k arr A.length cell.isRawNull).2⟩] := by
  rw [attachS_eq] at h
  obtain ⟨c, hget, h⟩ := Option.bind_eq_some_iff.mp h
  split at h
  · exact ⟨c, hget, ‹_›, (Option.some.inj h).symm⟩
  · cases h

theorem assignArg_some {A A' : List Cell} {j : Nat} {k : String} {s : Slot} {cells : List Cell}
    (h : assignArg A j k s cells = some A') :
    ∃ c, A[j]? = some c ∧ c.isNodeC = true ∧ A' = A.set j (c.withArgs (setKey k s c.args)) ++ cells := by
  rw [assignArg_eq] at h
  obtain ⟨c, hget, h⟩ := Option.bind_eq_some_iff.mp h
  split at h
  · exact ⟨c, hget, ‹_›, (Option.some.inj h).symm⟩
  · cases h

theorem fillCell_some {A A' : List Cell} {j : Nat} {c : Comments} {ty : Option Val} {m : Meta} {hv : Option Nat}
    (h : fillCell A j c ty m hv = some A') :
    ∃ c0 c1, A[j]? = some c0 ∧ A' = A.set j c1 ∧ c1.args = c0.args ∧ c1.link = c0.link ∧ c1.hash = hv := by
  simp only [fillCell] at h
  split at h
  · rename_i hget
    exact ⟨_, _, hget, (Option.some.inj h).symm, rfl, rfl, rfl⟩
  · cases h

theorem copyVals_cons (att : Attach) (j : Nat) (k : String) (v : Val) (vs : List Val) (A : List Cell)
    (pushed : List CItem) :
    copyVals att j k (v :: vs) A pushed = (att A v.toCell j k true).bind fun A' =>
      copyVals att j k vs A' (if v.isNode then pushed ++ [(v, A.length)] else pushed) := by
  simp only [copyVals]; cases att A v.toCell j k true <;> rfl

theorem copyArgs_one (att : Attach) (j : Nat) (k : String) (v : Val) (rest : List Arg) (A : List Cell)
    (pushed : List CItem) :
    copyArgs att j (.one k v :: rest) A pushed =
      if v.isNode then (att A v.toCell j k false).bind fun A' => copyArgs att j rest A' (pushed ++ [(v, A.length)])
      else (assignArg A j k (.one A.length) [v.toCell]).bind fun A' => copyArgs att j rest A' pushed := by
  simp only [copyArgs]; split <;> split <;> simp [*]

theorem copyArgs_many (att : Attach) (j : Nat) (k : String) (vs : List Val) (rest : List Arg) (A : List Cell)
    (pushed : List CItem) :
    copyArgs att j (.many k vs :: rest) A pushed = (assignArg A j k (.many []) []).bind fun A0 =>
      (copyVals att j k vs A0 pushed).bind fun r => copyArgs att j rest r.1 r.2 := by
  simp only [copyArgs]
  cases assignArg A j k (.many []) [] with
  | none => rfl
  | some A0 => simp only [Option.bind_some]; cases copyVals att j k vs A0 pushed <;> rfl

/-- the `cp` of `copyLoopWith`: `deepcopy(node._type)` / `deepcopy(v)` for a meta value re-enter the loop on an Expression
    and hand anything else back -/
def nestedCopy (att : Attach) (hashOf : Val → Option Nat) (fuel : Nat) (t : Val) : Option Val :=
  if t.isNode then (copyLoopWith att hashOf fuel [(t, 0)] [t.toCell]).bind fun B => reify B t.size 0 else some t

theorem copyLoopWith_node (att : Attach) (hashOf : Val → Option Nat) (fuel : Nat) (cls ty c m args) (j : Nat)
    (st : List CItem) (A : List Cell) :
    copyLoopWith att hashOf (fuel + 1) ((.node cls ty c m args, j) :: st) A =
      (copyTyWith (nestedCopy att hashOf fuel) ty).bind fun ty' =>
      (copyMetaWith (nestedCopy att hashOf fuel) m).bind fun m' =>
      (fillCell A j c ty' m' (hashOf (.node cls ty c m args))).bind fun A1 =>
      (copyArgs att j args A1 []).bind fun r => copyLoopWith att hashOf fuel (r.2.reverse ++ st) r.1 := by
  simp only [copyLoopWith]
  show (match copyTyWith (nestedCopy att hashOf fuel) ty, copyMetaWith (nestedCopy att hashOf fuel) m with
    | some ty', some m' => _ | _, _ => _) = _
  cases copyTyWith (nestedCopy att hashOf fuel) ty <;> cases copyMetaWith (nestedCopy att hashOf fuel) m <;> try rfl
  simp only [Option.bind_some]
  cases fillCell A j c _ _ _ with
  | none => rfl
  | some A1 => simp only [Option.bind_some]; cases copyArgs att j args A1 [] <;> rfl

/-- the cell with its `_hash` erased -/
def eH : Cell → Cell
  | .node cls ty c m args l _ => .node cls ty c m args l none
  | c => c

/-- the arena with every `_hash` erased: the hash-invalidation walk changes nothing else (`clearUp_mapE`), so the real loop
    and the one without the walk build the same arena up to `mapE` (`copyLoop_sim`) -/
def mapE (A : List Cell) : List Cell := A.map eH

theorem mapE_length (A : List Cell) : (mapE A).length = A.length := by simp [mapE]

theorem mapE_len_eq {A A' : List Cell} (h : mapE A = mapE A') : A.length = A'.length := by
  rw [← mapE_length A, h, mapE_length]

theorem eH_comp : eH ∘ eH = eH := funext fun c => by cases c <;> rfl

theorem mapE_set (A : List Cell) (j : Nat) (c : Cell) : mapE (A.set j c) = (mapE A).set j (eH c) := by
  simp [mapE, List.map_set]

theorem mapE_get (A : List Cell) (j : Nat) : (mapE A)[j]? = (A[j]?).map eH := List.getElem?_map

theorem mapE_set_same (A : List Cell) (j : Nat) (c c' : Cell) (hc : A[j]? = some c) (he : eH c' = eH c) :
    mapE (A.set j c') = mapE A := by
  rw [mapE_set, he]
  apply set_self
  rw [mapE_get, hc]; rfl

theorem args_eH (c : Cell) : (eH c).args = c.args := by cases c <;> rfl

theorem link_eH (c : Cell) : (eH c).link = c.link := by cases c <;> rfl

theorem hash_eH (c : Cell) : (eH c).hash = none := by cases c <;> rfl

/-- the hash walk erases the `_hash` of one cell after the other: what each such step keeps, the walk keeps -/
theorem clearUp_induct {P : List Cell → Prop} (step : ∀ {A i c}, A[i]? = some c → P A → P (A.set i (eH c))) :
    ∀ (fuel : Nat) {A : List Cell} (i : Nat), P A → P (clearUp A fuel i)
  | 0, _, _, hA => hA
  | fuel + 1, A, i, hA => by
    simp only [clearUp]
    split
    · rename_i cls ty c m args l hh hget
      have hw : P (A.set i (.node cls ty c m args l none)) := step hget hA
      split
      · exact clearUp_induct step fuel _ hw
      · exact hw
    · exact hA

theorem clearUp_mapE (fuel : Nat) (A : List Cell) (i : Nat) : mapE (clearUp A fuel i) = mapE A :=
  clearUp_induct (P := fun B => mapE B = mapE A)
    (fun hget h => (mapE_set_same _ _ _ _ hget (congrFun eH_comp _)).trans h) fuel i rfl

theorem clearUp_length (A : List Cell) (fuel i : Nat) : (clearUp A fuel i).length = A.length :=
  mapE_len_eq (clearUp_mapE fuel A i)

theorem attach_eq (A : List Cell) (cell : Cell) (idx : Nat) (k : String) (arr : Bool) :
    attach A cell idx k arr = attachS (clearUp A A.length idx) cell idx k arr := by
  simp only [attach, attachS, clearUp_length]
  rfl

/-- An operation that may as well be run on the arena with its `_hash` fields erased gives, on arenas equal up to `_hash`,
    results equal up to `_hash`.  Each heap operation is one: it reads a `_hash` only to hand it on. -/
theorem sim_of_mapE {op : List Cell → Option (List Cell)} (hop : ∀ A, (op A).map mapE = (op (mapE A)).map mapE)
    {A A' : List Cell} (h : mapE A = mapE A') : (op A).map mapE = (op A').map mapE := by
  rw [hop, h, ← hop]

theorem attachS_sim {A A' : List Cell} (h : mapE A = mapE A') (cell : Cell) (j : Nat) (k : String) (arr : Bool) :
    (attachS A cell j k arr).map mapE = (attachS A' cell j k arr).map mapE :=
  sim_of_mapE (op := fun A => attachS A cell j k arr) (fun A => by
    simp only [attachS, mapE_length, mapE_get]
    split
    · cases A[j]? with
      | none => rfl
      | some c => cases c <;> simp [eH, mapE, eH_comp]
    · rfl) h

theorem fillCell_sim {A A' : List Cell} (h : mapE A = mapE A') (j : Nat) (c : Comments) (ty : Option Val) (m : Meta)
    (hv : Option Nat) : (fillCell A j c ty m hv).map mapE = (fillCell A' j c ty m hv).map mapE :=
  sim_of_mapE (op := fun A => fillCell A j c ty m hv) (fun A => by
    simp only [fillCell, mapE_get]
    cases A[j]? with
    | none => rfl
    | some c => cases c <;> simp [eH, mapE, eH_comp]) h

theorem assignArg_sim {A A' : List Cell} (h : mapE A = mapE A') (j : Nat) (k : String) (s : Slot) (cells : List Cell) :
    (assignArg A j k s cells).map mapE = (assignArg A' j k s cells).map mapE :=
  sim_of_mapE (op := fun A => assignArg A j k s cells) (fun A => by
    simp only [assignArg, mapE_get]
    cases A[j]? with
    | none => rfl
    | some c => cases c <;> simp [eH, mapE, eH_comp]) h

theorem attach_sim {A A' : List Cell} (h : mapE A = mapE A') (cell : Cell) (j : Nat) (k : String) (arr : Bool) :
    (attach A cell j k arr).map mapE = (attachS A' cell j k arr).map mapE := by
  rw [attach_eq]
  exact attachS_sim ((clearUp_mapE ..).trans h) ..

theorem withLink_eH (c : Cell) (l : Link) : eH (c.withLink l) = (eH c).withLink l := by
  cases c <;> simp [eH, Cell.withLink]

theorem isRawNull_eH (c : Cell) : (eH c).isRawNull = c.isRawNull := by
  cases c with
  | node => simp [eH, Cell.isRawNull]
  | dtype => simp [eH]
  | raw r => simp [eH]

end SqlglotModel.Serde
