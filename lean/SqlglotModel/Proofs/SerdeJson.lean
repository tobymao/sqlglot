/-
  C12 — the dump as JSON (Model/Serde.lean): every payload is a `JsonValue`; rendering a `JsonValue` to tokens and parsing
  them gives it back; the codec of the enum leaves, with the check of a string table on numeric codes.
-/
import SqlglotModel.Model.Serde
import SqlglotModel.Proofs.List

namespace SqlglotModel.Serde

mutual
theorem raw_json : ∀ (r : Raw), JsonValue r.toPy
  | .null => by simp [Raw.toPy]; exact .none
  | .bool b => by simp [Raw.toPy]; exact .bool b
  | .int i => by simp [Raw.toPy]; exact .int i
  | .str s => by simp [Raw.toPy]; exact .str s
  | .arr l => by simp only [Raw.toPy]; exact .list _ (raws_json l)
theorem raws_json : ∀ (l : List Raw), ∀ x ∈ rawsToPy l, JsonValue x
  | [] => by simp [rawsToPy]
  | r :: rs => by
    intro x hx
    simp only [rawsToPy, List.mem_cons] at hx
    rcases hx with h | h
    · exact h ▸ raw_json r
    · exact raws_json rs x h
end

theorem optField_json {α} (k : String) (o : Option α) (f : α → Py) (h : ∀ a, JsonValue (f a)) :
    ∀ kv ∈ optField k (o.map f), (∃ s, kv.1 = .str s) ∧ JsonValue kv.2 := by
  cases o with
  | none => simp [optField]
  | some a => intro kv hkv; simp [optField] at hkv; subst hkv; exact ⟨⟨k, rfl⟩, h a⟩

theorem dict_json (l : List (Py × Py)) (h : ∀ kv ∈ l, (∃ s, kv.1 = .str s) ∧ JsonValue kv.2) :
    JsonValue (.dict l) :=
  .dict l (fun kv hkv => (h kv hkv).1) (fun kv hkv => (h kv hkv).2)

theorem strs_json (l : List String) : JsonValue (Py.list (l.map Py.str)) := by
  refine .list _ ?_
  intro x hx
  simp at hx
  obtain ⟨s, _, rfl⟩ := hx
  exact .str s

mutual
theorem payload_json (K : Keys) : ∀ (p : Payload), JsonValue (p.toPy K)
  | .mk i k a cls ty c m v => by
    simp only [Payload.toPy]
    refine dict_json _ ?_
    intro kv hkv
    simp only [List.mem_append] at hkv
    rcases hkv with ((((((h | h) | h) | h) | h) | h) | h) | h
    · exact optField_json _ _ _ (fun _ => .int _) kv h
    · exact optField_json _ k _ .str kv h
    · by_cases ha : a = true
      · simp [ha] at h; subst h; exact ⟨⟨_, rfl⟩, .bool true⟩
      · simp [ha] at h
    · exact optField_json _ cls _ .str kv h
    · exact optTy_json K ty kv h
    · exact optField_json _ c _ strs_json kv h
    · exact optMeta_json K m kv h
    · exact optField_json _ v _ raw_json kv h
theorem optTy_json (K : Keys) : ∀ (ty : Option (List Payload)),
    ∀ kv ∈ optTy K ty, (∃ s, kv.1 = .str s) ∧ JsonValue kv.2
  | none => by simp [optTy]
  | some ps => by
    intro kv hkv; simp [optTy] at hkv; subst hkv
    exact ⟨⟨_, rfl⟩, .list _ (payloads_json K ps)⟩
theorem payloads_json (K : Keys) : ∀ (ps : List Payload), ∀ x ∈ payloadsToPy K ps, JsonValue x
  | [] => by simp [payloadsToPy]
  | p :: ps => by
    intro x hx
    simp only [payloadsToPy, List.mem_cons] at hx
    rcases hx with h | h
    · exact h ▸ payload_json K p
    · exact payloads_json K ps x h
theorem optMeta_json (K : Keys) : ∀ (m : Option (List PMeta)),
    ∀ kv ∈ optMeta K m, (∃ s, kv.1 = .str s) ∧ JsonValue kv.2
  | none => by simp [optMeta]
  | some l => by
    intro kv hkv; simp [optMeta] at hkv; subst hkv
    exact ⟨⟨_, rfl⟩, dict_json _ (pmetas_json K l)⟩
theorem pmetas_json (K : Keys) : ∀ (l : List PMeta),
    ∀ kv ∈ pmetasToPy K l, (∃ s, kv.1 = .str s) ∧ JsonValue kv.2
  | [] => by simp [pmetasToPy]
  | .raw k r :: es => by
    intro kv hkv
    simp only [pmetasToPy, List.mem_cons] at hkv
    rcases hkv with h | h
    · subst h; exact ⟨⟨k, rfl⟩, raw_json r⟩
    · exact pmetas_json K es kv h
  | .expr k ps :: es => by
    intro kv hkv
    simp only [pmetasToPy, List.mem_cons] at hkv
    rcases hkv with h | h
    · subst h
      refine ⟨⟨k, rfl⟩, dict_json _ ?_⟩
      intro kv' hkv'
      simp at hkv'; subst hkv'
      exact ⟨⟨_, rfl⟩, .list _ (payloads_json K ps)⟩
    · exact pmetas_json K es kv h
end

theorem json_list_inv {l : List Py} (h : JsonValue (.list l)) : ∀ x ∈ l, JsonValue x := by
  cases h with
  | list _ hl => exact hl

theorem json_dict_inv {l : List (Py × Py)} (h : JsonValue (.dict l)) :
    (∀ kv ∈ l, ∃ s, kv.1 = .str s) ∧ (∀ kv ∈ l, JsonValue kv.2) := by
  cases h with
  | dict _ hk hv => exact ⟨hk, hv⟩

theorem render_head (j : Py) (h : JsonValue j) (rest : List Tok) :
    startsWith .rbrack (render j ++ rest) = false ∧ startsWith .rbrace (render j ++ rest) = false := by
  cases h with
  | none => simp [render, startsWith]
  | bool b => cases b <;> simp [render, startsWith]
  | int i => simp [render, startsWith]
  | str s => simp [render, startsWith]
  | list l _ => simp [render, startsWith]
  | dict l _ _ => simp [render, startsWith]

mutual
theorem parse_render : ∀ (j : Py), JsonValue j → ∀ (rest : List Tok) (f : Nat), j.size ≤ f →
    parse f (render j ++ rest) = some (j, rest)
  | .none, _, rest, f, hf => by
    cases f with
    | zero => simp [Py.size] at hf
    | succ f => simp [render, parse]
  | .bool b, _, rest, f, hf => by
    cases f with
    | zero => simp [Py.size] at hf
    | succ f => cases b <;> simp [render, parse]
  | .int i, _, rest, f, hf => by
    cases f with
    | zero => simp [Py.size] at hf
    | succ f => simp [render, parse]
  | .str s, _, rest, f, hf => by
    cases f with
    | zero => simp [Py.size] at hf
    | succ f => simp [render, parse]
  | .opaque w, h, _, _, _ => by cases h
  | .list l, h, rest, f, hf => by
    have hl := json_list_inv h
    cases f with
    | zero => simp [Py.size] at hf
    | succ f =>
      cases l with
      | nil => simp [render, renderElems, parse, startsWith]
      | cons x xs =>
        simp only [Py.size, sizePys] at hf
        have hx : JsonValue x := hl x (by simp)
        have h1 := parse_render x hx (renderElemsTail xs ++ rest) f (by omega)
        have h2 := elems_tail xs (fun y hy => hl y (by simp [hy])) rest f (by omega)
        have hh := (render_head x hx (renderElemsTail xs ++ rest)).1
        simp only [render, renderElems, List.cons_append, List.append_assoc, parse, hh, Bool.false_eq_true, if_false,
          h1, Option.bind_some, h2]
  | .dict l, h, rest, f, hf => by
    have hd := json_dict_inv h
    cases f with
    | zero => simp [Py.size] at hf
    | succ f =>
      cases l with
      | nil => simp [render, renderMembers, parse, startsWith]
      | cons kv kvs =>
        simp only [Py.size, sizeKvs] at hf
        obtain ⟨s, hs⟩ := hd.1 kv (by simp)
        have h1 := member kv ⟨s, hs⟩ (hd.2 kv (by simp)) (renderMembersTail kvs ++ rest) f (by omega)
        have h2 := members_tail kvs (fun y hy => hd.1 y (by simp [hy])) (fun y hy => hd.2 y (by simp [hy])) rest f
          (by omega)
        have hh : startsWith .rbrace (renderMember kv ++ (renderMembersTail kvs ++ rest)) = false := by
          obtain ⟨k, v⟩ := kv
          simp only at hs
          subst hs
          simp [renderMember, render, startsWith]
        simp only [render, renderMembers, List.cons_append, List.append_assoc, parse, hh, Bool.false_eq_true, if_false,
          h1, Option.bind_some, h2]
theorem elems_tail : ∀ (l : List Py), (∀ x ∈ l, JsonValue x) → ∀ (rest : List Tok) (f : Nat), sizePys l + 1 ≤ f →
    parseElemsTail f (renderElemsTail l ++ rest) = some (l, rest)
  | [], _, rest, f, hf => by
    cases f with
    | zero => omega
    | succ f => simp [renderElemsTail, parseElemsTail]
  | x :: xs, hl, rest, f, hf => by
    cases f with
    | zero => omega
    | succ f =>
      simp only [sizePys] at hf
      have h1 := parse_render x (hl x (by simp)) (renderElemsTail xs ++ rest) f (by omega)
      have h2 := elems_tail xs (fun y hy => hl y (by simp [hy])) rest f (by omega)
      simp only [renderElemsTail, List.cons_append, List.append_assoc, parseElemsTail, h1, Option.bind_some, h2]
theorem member : ∀ (kv : Py × Py), (∃ s, kv.1 = .str s) → JsonValue kv.2 → ∀ (rest : List Tok) (f : Nat),
    sizeKv kv ≤ f → parseMember f (renderMember kv ++ rest) = some (kv, rest)
  | (k, v), hk, hv, rest, f, hf => by
    obtain ⟨s, hs⟩ := hk
    simp only at hs hv
    subst hs
    cases f with
    | zero => simp [sizeKv] at hf
    | succ f =>
      simp only [sizeKv] at hf
      have h1 := parse_render v hv rest f (by omega)
      simp only [renderMember, render, List.cons_append, List.nil_append, parseMember, h1, Option.bind_some]
theorem members_tail : ∀ (l : List (Py × Py)), (∀ kv ∈ l, ∃ s, kv.1 = .str s) → (∀ kv ∈ l, JsonValue kv.2) →
    ∀ (rest : List Tok) (f : Nat), sizeKvs l + 1 ≤ f →
    parseMembersTail f (renderMembersTail l ++ rest) = some (l, rest)
  | [], _, _, rest, f, hf => by
    cases f with
    | zero => omega
    | succ f => simp [renderMembersTail, parseMembersTail]
  | kv :: kvs, hk, hv, rest, f, hf => by
    cases f with
    | zero => omega
    | succ f =>
      simp only [sizeKvs] at hf
      have h1 := member kv (hk kv (by simp)) (hv kv (by simp)) (renderMembersTail kvs ++ rest) f (by omega)
      have h2 := members_tail kvs (fun y hy => hk y (by simp [hy])) (fun y hy => hv y (by simp [hy])) rest f (by omega)
      simp only [renderMembersTail, List.cons_append, List.append_assoc, parseMembersTail, h1, Option.bind_some, h2]
end

theorem decodeEnum_hit (b : EnumBy) (T : List (String × String)) (hnd : (T.map (enumFace b)).Nodup)
    (e : String × String) (he : e ∈ T) (s : String) (hs : enumFace b e = some s) : decodeEnum T b s = some e := by
  unfold decodeEnum
  cases hf : T.find? (fun e => enumFace b e == some s) with
  | none => simpa [hs] using List.find?_eq_none.mp hf e he
  | some q =>
    have hq : enumFace b q = enumFace b e := by rw [hs]; simpa using List.find?_some hf
    exact congrArg some (inj_of_nodup_map hnd (List.mem_of_find?_eq_some hf) he hq)

theorem enum_codec_roundtrip (T : List (String × String)) (b : EnumBy) (hb : b ≠ .other)
    (hnd : (T.map (enumFace b)).Nodup) (e : String × String) (he : e ∈ T) :
    (encodeEnum b e).bind (decodeEnum T b) = some e := by
  cases b with
  | other => exact absurd rfl hb
  | value => simp [encodeEnum, enumFace]; exact decodeEnum_hit .value T hnd e he e.2 rfl
  | name => simp [encodeEnum, enumFace]; exact decodeEnum_hit .name T hnd e he e.1 rfl

/- Deciding `Nodup` on a table of strings makes the kernel compare UTF-8 encodings pair by pair; `Nat.beq` on literals is
   one kernel step.  So a table is checked on numeric codes of its entries, each computed once: distinct codes can only
   come from distinct entries, whatever the coding. -/
def distinctNats : List Nat → Bool
  | [] => true
  | a :: as => as.all (fun b => !Nat.beq a b) && distinctNats as

theorem nodup_of_distinctNats {α} (code : α → Nat) : ∀ l : List α, distinctNats (l.map code) = true → l.Nodup
  | [], _ => List.nodup_nil
  | a :: as, h => by
    simp only [List.map_cons, distinctNats, Bool.and_eq_true, List.all_eq_true, List.mem_map] at h
    refine List.nodup_cons.mpr ⟨fun ha => ?_, nodup_of_distinctNats code as h.2⟩
    simpa using h.1 (code a) ⟨a, ha, rfl⟩

def strCode (s : String) : Nat := s.toByteArray.data.toList.foldl (fun n b => 256 * n + b.toNat) 0

end SqlglotModel.Serde
