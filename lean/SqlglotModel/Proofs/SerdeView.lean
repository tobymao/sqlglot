/-
  C12 — the `type` property as a view of the tree (`Val.view`, Model/Serde.lean): it is idempotent, commutes with `norm` when
  keys are distinct, and is the identity when no class takes a special branch; the fold behind `==` (`Val.nf`) sees neither
  `norm` nor the view.
-/
import SqlglotModel.Proofs.Serde

namespace SqlglotModel.Serde

theorem isNull_view (R : TypeRules) (v : Val) : (v.view R).isNull = v.isNull := by
  cases v with
  | node => simp [Val.view, Val.isNull]
  | dtype => simp [Val.view]
  | raw r => simp [Val.view]

theorem notNull_map_view (R : TypeRules) (o : Option Val) : notNull (o.map (Val.view R)) = (notNull o).map (Val.view R) := by
  cases o with
  | none => rfl
  | some v => simp only [Option.map_some, notNull, isNull_view]; split <;> rfl

theorem argOne_view (R : TypeRules) (k : String) : ∀ (args : List Arg),
    argOne k (viewArgs R args) = (argOne k args).map (Val.view R) := by
  intro args
  induction args with
  | nil => rfl
  | cons a rest ih =>
    cases a with
    | one k' v =>
      by_cases hk : k' = k
      · simp [viewArgs, Arg.view, argOne, hk]
      · simp [viewArgs, Arg.view, argOne, hk, ih]
    | many k' vs => simp [viewArgs, Arg.view, argOne, ih]

theorem keysOf_view (R : TypeRules) : ∀ (args : List Arg), keysOf (viewArgs R args) = keysOf args := by
  intro args
  induction args with
  | nil => rfl
  | cons a rest ih => cases a <;> simp [viewArgs, Arg.view, keysOf, Arg.key, ih]

theorem viewOpt_eq_map (R : TypeRules) (o : Option Val) : viewOpt R o = o.map (Val.view R) := by
  cases o <;> rfl

theorem typeProp_idem (R : TypeRules) (cls : String) (X : Option Val) (Y : List Arg)
    (hX : viewOpt R X = X) (hY : viewArgs R Y = Y) :
    viewOpt R (typeProp R cls X Y) = typeProp R cls X Y ∧
    typeProp R cls (typeProp R cls X Y) Y = typeProp R cls X Y := by
  unfold typeProp
  by_cases hd : R.isDataType cls = true
  · simp [hd, viewOpt]
  · by_cases hc : R.isCast cls = true
    · simp only [hd, hc, if_true, Bool.false_eq_true, if_false]
      cases X with
      | some t => exact ⟨hX, rfl⟩
      | none =>
        have hto : (argOne "to" Y).map (Val.view R) = argOne "to" Y := by rw [← argOne_view, hY]
        have h1 : viewOpt R (notNull (argOne "to" Y)) = notNull (argOne "to" Y) := by
          rw [viewOpt_eq_map, ← notNull_map_view, hto]
        refine ⟨h1, ?_⟩
        cases h : notNull (argOne "to" Y) <;> simp
    · simp [hd, hc, hX]

mutual
theorem view_idem (R : TypeRules) : ∀ (v : Val), (v.view R).view R = v.view R
  | .node cls ty c m args => by
    have hX := viewOpt_idem R ty
    have hY := viewArgs_idem R args
    have hM := viewMeta_idem R m
    have := typeProp_idem R cls (viewOpt R ty) (viewArgs R args) hX hY
    simp only [Val.view, hY, hM]
    rw [this.1, this.2]
  | .dtype _ => by simp [Val.view]
  | .raw _ => by simp [Val.view]
theorem viewOpt_idem (R : TypeRules) : ∀ (o : Option Val), viewOpt R (viewOpt R o) = viewOpt R o
  | none => rfl
  | some v => by simp [viewOpt, view_idem R v]
theorem viewMeta_idem (R : TypeRules) : ∀ (m : Option (List MetaE)), viewMeta R (viewMeta R m) = viewMeta R m
  | none => rfl
  | some l => by simp [viewMeta, viewMetaL_idem R l]
theorem viewMetaL_idem (R : TypeRules) : ∀ (l : List MetaE), viewMetaL R (viewMetaL R l) = viewMetaL R l
  | [] => rfl
  | .raw k r :: es => by simp [viewMetaL, MetaE.view, viewMetaL_idem R es]
  | .expr k v :: es => by simp [viewMetaL, MetaE.view, view_idem R v, viewMetaL_idem R es]
theorem viewArgs_idem (R : TypeRules) : ∀ (args : List Arg), viewArgs R (viewArgs R args) = viewArgs R args
  | [] => rfl
  | .one k v :: as => by simp [viewArgs, Arg.view, view_idem R v, viewArgs_idem R as]
  | .many k vs :: as => by simp [viewArgs, Arg.view, viewVals_idem R vs, viewArgs_idem R as]
theorem viewVals_idem (R : TypeRules) : ∀ (vs : List Val), viewVals R (viewVals R vs) = viewVals R vs
  | [] => rfl
  | v :: vs => by simp [viewVals, view_idem R v, viewVals_idem R vs]
end

theorem argOne_notin (k : String) : ∀ (args : List Arg), k ∉ keysOf args → argOne k args = none := by
  intro args
  induction args with
  | nil => intro _; rfl
  | cons a rest ih =>
    intro h
    cases a with
    | one k' v =>
      simp only [keysOf, Arg.key, List.mem_cons, not_or] at h
      have : k' ≠ k := fun e => h.1 e.symm
      simp [argOne, this, ih h.2]
    | many k' vs =>
      simp only [keysOf, Arg.key, List.mem_cons, not_or] at h
      simp [argOne, ih h.2]

theorem keysOf_norm_sub : ∀ (args : List Arg) (k : String), k ∈ keysOf (normArgs args) → k ∈ keysOf args := by
  intro args
  induction args with
  | nil => intro k h; simp [normArgs, keysOf] at h
  | cons a rest ih =>
    intro k h
    by_cases hd : a.dropped = true
    · simp only [normArgs, hd, if_true] at h
      simp [keysOf, ih k h]
    · simp only [normArgs, hd, Bool.false_eq_true, if_false, keysOf, List.mem_cons] at h
      rcases h with h | h
      · cases a <;> simp_all [keysOf, Arg.key, Arg.norm]
      · simp [keysOf, ih k h]

theorem argOne_norm (k : String) : ∀ (args : List Arg), (keysOf args).Nodup →
    notNull (argOne k (normArgs args)) = (notNull (argOne k args)).map Val.norm := by
  intro args
  induction args with
  | nil => intro _; rfl
  | cons a rest ih =>
    intro hnd
    simp only [keysOf, List.nodup_cons] at hnd
    cases a with
    | one k' v =>
      simp only [Arg.key] at hnd
      by_cases hk : k' = k
      · subst hk
        by_cases hn : v.isNull = true
        · have hnone : argOne k' (normArgs rest) = none :=
            argOne_notin k' _ (fun h => hnd.1 (keysOf_norm_sub rest k' h))
          simp [normArgs, Arg.dropped, hn, argOne, hnone, notNull]
        · simp [normArgs, Arg.dropped, hn, argOne, Arg.norm, notNull, isNull_norm]
      · by_cases hn : v.isNull = true
        · simp [normArgs, Arg.dropped, hn, argOne, hk, ih hnd.2]
        · simp [normArgs, Arg.dropped, hn, argOne, hk, Arg.norm, ih hnd.2]
    | many k' vs =>
      by_cases hn : vs.isEmpty = true
      · simp [normArgs, Arg.dropped, hn, argOne, ih hnd.2]
      · simp [normArgs, Arg.dropped, hn, argOne, Arg.norm, ih hnd.2]

theorem normOpt_eq_map (o : Option Val) : normOpt o = o.map Val.norm := by cases o <;> rfl

theorem typeProp_norm (R : TypeRules) (cls : String) (X : Option Val) (Y : List Arg) (hnd : (keysOf Y).Nodup) :
    typeProp R cls (normOpt X) (normArgs Y) = normOpt (typeProp R cls X Y) := by
  unfold typeProp
  by_cases hd : R.isDataType cls = true
  · simp [hd, normOpt]
  · by_cases hc : R.isCast cls = true
    · simp only [hd, hc, if_true, Bool.false_eq_true, if_false]
      cases X with
      | some t => simp [normOpt]
      | none => simp only [normOpt]; rw [argOne_norm "to" Y hnd, normOpt_eq_map]
    · simp [hd, hc]

theorem viewVals_isEmpty (R : TypeRules) (vs : List Val) : (viewVals R vs).isEmpty = vs.isEmpty := by
  cases vs <;> simp [viewVals]

theorem dropped_view (R : TypeRules) (a : Arg) : (a.view R).dropped = a.dropped := by
  cases a with
  | one k v => simp [Arg.view, Arg.dropped, isNull_view]
  | many k vs => simp [Arg.view, Arg.dropped, viewVals_isEmpty]

mutual
theorem view_norm (R : TypeRules) : ∀ (v : Val), v.WF → (v.norm).view R = (v.view R).norm
  | .node cls ty c m args, h => by
    simp only [Val.WF] at h
    obtain ⟨_, hty, hmt, hnd, hargs⟩ := h
    have hX := viewOpt_norm R ty hty
    have hY := viewArgs_norm R args hargs
    have hM := viewMeta_norm R m hmt
    have hnd' : (keysOf (viewArgs R args)).Nodup := by rw [keysOf_view]; exact hnd
    simp only [Val.norm, Val.view, hX, hY, hM, typeProp_norm R cls _ _ hnd']
  | .dtype _, _ => by simp [Val.norm, Val.view]
  | .raw _, _ => by simp [Val.norm, Val.view]
theorem viewOpt_norm (R : TypeRules) : ∀ (o : Option Val), wfOpt o → viewOpt R (normOpt o) = normOpt (viewOpt R o)
  | none, _ => rfl
  | some v, h => by simp only [wfOpt] at h; simp [normOpt, viewOpt, view_norm R v h.2]
theorem viewMeta_norm (R : TypeRules) : ∀ (m : Option (List MetaE)), wfMeta m →
    viewMeta R (normMeta m) = normMeta (viewMeta R m)
  | none, _ => rfl
  | some l, h => by simp only [wfMeta] at h; simp [normMeta, viewMeta, viewMetaL_norm R l h]
theorem viewMetaL_norm (R : TypeRules) : ∀ (l : List MetaE), wfMetaL l →
    viewMetaL R (normMetaL l) = normMetaL (viewMetaL R l)
  | [], _ => rfl
  | .raw k r :: es, h => by
    simp only [wfMetaL] at h
    simp [normMetaL, viewMetaL, MetaE.norm, MetaE.view, viewMetaL_norm R es h.2]
  | .expr k v :: es, h => by
    simp only [wfMetaL, MetaE.WF] at h
    simp [normMetaL, viewMetaL, MetaE.norm, MetaE.view, view_norm R v h.1.2, viewMetaL_norm R es h.2]
theorem viewArgs_norm (R : TypeRules) : ∀ (args : List Arg), wfArgs args →
    viewArgs R (normArgs args) = normArgs (viewArgs R args)
  | [], _ => rfl
  | .one k v :: as, h => by
    simp only [wfArgs, Arg.WF] at h
    have ih := viewArgs_norm R as h.2
    by_cases hn : v.isNull = true
    · simp [normArgs, viewArgs, Arg.view, Arg.dropped, hn, isNull_view, ih]
    · simp [normArgs, viewArgs, Arg.view, Arg.dropped, hn, isNull_view, Arg.norm, view_norm R v h.1, ih]
  | .many k vs :: as, h => by
    simp only [wfArgs, Arg.WF] at h
    have ih := viewArgs_norm R as h.2
    by_cases hn : vs.isEmpty = true
    · simp [normArgs, viewArgs, Arg.view, Arg.dropped, hn, viewVals_isEmpty, ih]
    · simp [normArgs, viewArgs, Arg.view, Arg.dropped, hn, viewVals_isEmpty, Arg.norm, viewVals_norm R vs h.1, ih]
theorem viewVals_norm (R : TypeRules) : ∀ (vs : List Val), wfVals vs → viewVals R (normVals vs) = normVals (viewVals R vs)
  | [], _ => rfl
  | v :: vs, h => by
    simp only [wfVals] at h
    simp [normVals, viewVals, view_norm R v h.1, viewVals_norm R vs h.2]
end

theorem typeProp_no_rules (R : TypeRules) (hd : ∀ c, R.isDataType c = false) (hc : ∀ c, R.isCast c = false)
    (cls : String) (ty : Option Val) (args : List Arg) : typeProp R cls ty args = ty := by
  simp [typeProp, hd, hc]

mutual
theorem view_id (R : TypeRules) (hd : ∀ c, R.isDataType c = false) (hc : ∀ c, R.isCast c = false) :
    ∀ (v : Val), v.view R = v
  | .node cls ty c m args => by
    simp [Val.view, typeProp_no_rules R hd hc, viewOpt_id R hd hc ty, viewMeta_id R hd hc m, viewArgs_id R hd hc args]
  | .dtype _ => rfl
  | .raw _ => rfl
theorem viewOpt_id (R : TypeRules) (hd : ∀ c, R.isDataType c = false) (hc : ∀ c, R.isCast c = false) :
    ∀ (o : Option Val), viewOpt R o = o
  | none => rfl
  | some v => by simp [viewOpt, view_id R hd hc v]
theorem viewMeta_id (R : TypeRules) (hd : ∀ c, R.isDataType c = false) (hc : ∀ c, R.isCast c = false) :
    ∀ (m : Option (List MetaE)), viewMeta R m = m
  | none => rfl
  | some l => by simp [viewMeta, viewMetaL_id R hd hc l]
theorem viewMetaL_id (R : TypeRules) (hd : ∀ c, R.isDataType c = false) (hc : ∀ c, R.isCast c = false) :
    ∀ (l : List MetaE), viewMetaL R l = l
  | [] => rfl
  | .raw k r :: es => by simp [viewMetaL, MetaE.view, viewMetaL_id R hd hc es]
  | .expr k v :: es => by simp [viewMetaL, MetaE.view, view_id R hd hc v, viewMetaL_id R hd hc es]
theorem viewArgs_id (R : TypeRules) (hd : ∀ c, R.isDataType c = false) (hc : ∀ c, R.isCast c = false) :
    ∀ (args : List Arg), viewArgs R args = args
  | [] => rfl
  | .one k v :: as => by simp [viewArgs, Arg.view, view_id R hd hc v, viewArgs_id R hd hc as]
  | .many k vs :: as => by simp [viewArgs, Arg.view, viewVals_id R hd hc vs, viewArgs_id R hd hc as]
theorem viewVals_id (R : TypeRules) (hd : ∀ c, R.isDataType c = false) (hc : ∀ c, R.isCast c = false) :
    ∀ (vs : List Val), viewVals R vs = vs
  | [] => rfl
  | v :: vs => by simp [viewVals, view_id R hd hc v, viewVals_id R hd hc vs]
end

theorem itemOne_norm (R : HashRules) (raw : Bool) (k : String) (v : Val) (h : (v.norm).nf R = v.nf R) :
    itemOne R raw k v.norm ((v.norm).nf R) = itemOne R raw k v (v.nf R) := by
  cases v <;> simp_all [Val.norm, itemOne]

theorem itemElem_norm (R : HashRules) (k : String) (v : Val) (h : (v.norm).nf R = v.nf R) :
    itemElem R k v.norm ((v.norm).nf R) = itemElem R k v (v.nf R) := by
  cases v <;> simp_all [Val.norm, itemElem]

theorem itemOne_null (R : HashRules) (raw : Bool) (k : String) (v : Val) (n : EqK) (h : v.isNull = true) :
    itemOne R raw k v n = [] := by
  cases v with
  | node => simp [Val.isNull] at h
  | dtype => simp [Val.isNull] at h
  | raw r => cases r <;> simp_all [Val.isNull, itemOne, nfRaw, nfRawTruthy]

mutual
theorem nf_norm (R : HashRules) : ∀ (v : Val), (v.norm).nf R = v.nf R
  | .node cls ty c m args => by simp [Val.norm, Val.nf, nfArgs_norm R (R.rawArgs cls) args]
  | .dtype _ => by simp [Val.norm]
  | .raw _ => by simp [Val.norm]
theorem nfArgs_norm (R : HashRules) (raw : Bool) : ∀ (args : List Arg),
    nfArgs R raw (normArgs args) = nfArgs R raw args
  | [] => by simp [normArgs]
  | .one k v :: as => by
    by_cases hn : v.isNull = true
    · simp [normArgs, Arg.dropped, hn, nfArgs, Arg.nfItems, itemOne_null R raw k v _ hn, nfArgs_norm R raw as]
    · simp [normArgs, Arg.dropped, hn, nfArgs, Arg.nfItems, Arg.norm, itemOne_norm R raw k v (nf_norm R v),
        nfArgs_norm R raw as]
  | .many k vs :: as => by
    by_cases hn : vs.isEmpty = true
    · have : vs = [] := by cases vs <;> simp_all
      subst this
      simp [normArgs, Arg.dropped, nfArgs, Arg.nfItems, nfVals, nfArgs_norm R raw as]
    · simp [normArgs, Arg.dropped, hn, nfArgs, Arg.nfItems, Arg.norm, normVals_isEmpty, nfVals_norm R k vs,
        nfArgs_norm R raw as]
theorem nfVals_norm (R : HashRules) (k : String) : ∀ (vs : List Val), nfVals R k (normVals vs) = nfVals R k vs
  | [] => by simp [normVals]
  | v :: vs => by simp [normVals, nfVals, itemElem_norm R k v (nf_norm R v), nfVals_norm R k vs]
end

theorem itemOne_view (R : HashRules) (TR : TypeRules) (raw : Bool) (k : String) (v : Val)
    (h : (v.view TR).nf R = v.nf R) : itemOne R raw k (v.view TR) ((v.view TR).nf R) = itemOne R raw k v (v.nf R) := by
  cases v <;> simp_all [Val.view, itemOne]

theorem itemElem_view (R : HashRules) (TR : TypeRules) (k : String) (v : Val)
    (h : (v.view TR).nf R = v.nf R) : itemElem R k (v.view TR) ((v.view TR).nf R) = itemElem R k v (v.nf R) := by
  cases v <;> simp_all [Val.view, itemElem]

mutual
theorem nf_view (R : HashRules) (TR : TypeRules) : ∀ (v : Val), (v.view TR).nf R = v.nf R
  | .node cls ty c m args => by simp [Val.view, Val.nf, nfArgs_view R TR (R.rawArgs cls) args]
  | .dtype _ => by simp [Val.view]
  | .raw _ => by simp [Val.view]
theorem nfArgs_view (R : HashRules) (TR : TypeRules) (raw : Bool) : ∀ (args : List Arg),
    nfArgs R raw (viewArgs TR args) = nfArgs R raw args
  | [] => by simp [viewArgs]
  | .one k v :: as => by
    simp [viewArgs, Arg.view, nfArgs, Arg.nfItems, itemOne_view R TR raw k v (nf_view R TR v), nfArgs_view R TR raw as]
  | .many k vs :: as => by
    simp [viewArgs, Arg.view, nfArgs, Arg.nfItems, viewVals_isEmpty, nfVals_view R TR k vs, nfArgs_view R TR raw as]
theorem nfVals_view (R : HashRules) (TR : TypeRules) (k : String) : ∀ (vs : List Val),
    nfVals R k (viewVals TR vs) = nfVals R k vs
  | [] => by simp [viewVals]
  | v :: vs => by simp [viewVals, nfVals, itemElem_view R TR k v (nf_view R TR v), nfVals_view R TR k vs]
end

end SqlglotModel.Serde
