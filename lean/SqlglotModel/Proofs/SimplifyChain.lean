/-
  C06 — the rules that work on a whole AND / OR / + / × chain (`_flat_simplify`, uniq_sort, remove_complements) are reduced
  to `foldSem`, the fold of the operand list in a commutative monoid (`CommMonoid`: `conn3_monoid` / `opK_monoid` for AND and
  OR on truth values, `liftO_monoid` for + and × on possibly-NULL integers); for an idempotent one the fold depends only on
  the operand set.  `FK.chain_induct` is the induction along such a chain.
-/
import SqlglotModel.Proofs.SimplifyEval

namespace SqlglotModel.Simplify
open SqlglotModel.ThreeVL

theorem flattenOps_mk (k : FK) (a b : E) : flattenOps k (k.mk a b) = flattenOps k a ++ flattenOps k b := by
  cases k <;> rfl

theorem flattenU_mk (k : FK) (hk : k = .and ∨ k = .or) (a b : E) : flattenU k (k.mk a b) = flattenU k a ++ flattenU k b := by
  rcases hk with rfl | rfl <;> rfl

/-- induction along a chain of `k` nodes: an expression is a `k` node, or a single operand for both ways of flattening -/
theorem FK.chain_induct (k : FK) {P : E → Prop} (node : ∀ a b, P a → P b → P (k.mk a b))
    (leaf : ∀ e, flattenOps k e = [e] → flattenU k e = [unnest e] → P e) (e : E) : P e := by
  cases k
  · induction e with
    | and a b iha ihb => exact node a b iha ihb
    | _ => exact leaf _ rfl rfl
  · induction e with
    | or a b iha ihb => exact node a b iha ihb
    | _ => exact leaf _ rfl rfl
  · induction e with
    | add a b iha ihb => exact node a b iha ihb
    | _ => exact leaf _ rfl rfl
  · induction e with
    | mul a b iha ihb => exact node a b iha ihb
    | _ => exact leaf _ rfl rfl

/-! ### _flat_simplify: the queue algorithm preserves the fold of the operands in a commutative monoid -/
section Flat
variable {α : Type} (op : α → α → α) (u : α) (sem : E → α)

def foldSem (xs : List E) : α := xs.foldr (fun y acc => op (sem y) acc) u

theorem foldSem_cons (x : E) (xs : List E) : foldSem op u sem (x :: xs) = op (sem x) (foldSem op u sem xs) := rfl

variable (hassoc : ∀ a b c, op (op a b) c = op a (op b c)) (hcomm : ∀ a b, op a b = op b a) (hunit : ∀ a, op u a = a)

include hassoc hcomm in
/-- the inner loop moves the partner of `a` to the front of the queue and combines the two; no unit is involved -/
theorem tryPair_sound (pair : E → E → Option E) (hp : ∀ a b r, pair a b = some r → op (sem a) (sem b) = sem r)
    (a : E) : ∀ (q : List E) (r : E) (q' : List E), tryPair pair a q = some (r, q') →
      op (sem a) (foldSem op u sem q) = op (sem r) (foldSem op u sem q') := by
  intro q
  induction q with
  | nil => intro r q' h; cases h
  | cons b rest ih =>
    intro r q' h
    simp only [tryPair] at h
    cases hpb : pair a b with
    | some r0 =>
      rw [hpb] at h; cases h
      rw [foldSem_cons, ← hassoc, hp a b r hpb]
    | none =>
      rw [hpb] at h
      cases ht : tryPair pair a rest with
      | none => rw [ht] at h; cases h
      | some pr =>
        rw [ht] at h; cases h
        rw [foldSem_cons, foldSem_cons, ← hassoc, hcomm (sem a), hassoc, ih _ _ ht, ← hassoc, hcomm (sem b), hassoc]

/-- `(op, u)` is a commutative monoid -/
structure CommMonoid : Prop where
  assoc : ∀ a b c, op (op a b) c = op a (op b c)
  comm : ∀ a b, op a b = op b a
  unit : ∀ a, op u a = a

section Monoid
variable {op u sem} (M : CommMonoid op u)
include M

theorem CommMonoid.unit_right (a : α) : op a u = a := (M.comm a u).trans (M.unit a)

theorem foldSem_append (xs ys : List E) : foldSem op u sem (xs ++ ys) = op (foldSem op u sem xs) (foldSem op u sem ys) := by
  induction xs with
  | nil => exact (M.unit _).symm
  | cons x xs ih => rw [List.cons_append, foldSem_cons, foldSem_cons, ih, M.assoc]

theorem foldSem_single (e : E) : foldSem op u sem [e] = sem e := M.unit_right _

theorem CommMonoid.flatLoop_sound (pair : E → E → Option E)
    (hp : ∀ a b r, pair a b = some r → op (sem a) (sem b) = sem r) :
    ∀ (fuel : Nat) (q ops : List E), foldSem op u sem (flatLoop pair fuel q ops) = foldSem op u sem (ops.reverse ++ q) := by
  intro fuel
  induction fuel with
  | zero => intro q ops; rfl
  | succ fuel ih =>
    intro q ops
    cases q with
    | nil => simp [flatLoop]
    | cons a q =>
      simp only [flatLoop]
      cases ht : tryPair pair a q with
      | none => simp only []; rw [ih]; simp
      | some pr =>
        simp only []
        rw [ih, foldSem_append M, foldSem_append M, foldSem_cons, foldSem_cons,
          tryPair_sound op u sem M.assoc M.comm pair hp a q _ _ ht]

/-- a left-nested rebuild of an operand list means the fold of the list -/
theorem foldl_mk_sem (mk : E → E → E) (hmk : ∀ a b, sem (mk a b) = op (sem a) (sem b)) :
    ∀ (rest : List E) (x : E), sem (rest.foldl mk x) = op (sem x) (foldSem op u sem rest) := by
  intro rest
  induction rest with
  | nil => intro x; exact (M.unit_right _).symm
  | cons y ys ih => intro x; rw [List.foldl_cons, ih, hmk, foldSem_cons, M.assoc]

theorem flattenOps_sound (k : FK) (hmk : ∀ a b, sem (k.mk a b) = op (sem a) (sem b)) :
    ∀ e, foldSem op u sem (flattenOps k e) = sem e :=
  k.chain_induct
    (fun a b iha ihb => by rw [flattenOps_mk, foldSem_append M, iha, ihb, hmk])
    (fun e he _ => by rw [he]; exact foldSem_single M e)

theorem CommMonoid.flatSimplify_sound (k : FK) (hmk : ∀ a b, sem (k.mk a b) = op (sem a) (sem b))
    (pair : E → E → Option E) (hp : ∀ a b r, pair a b = some r → op (sem a) (sem b) = sem r) (gate : Bool) (e : E) :
    sem (flatSimplify k pair gate e) = sem e := by
  unfold flatSimplify
  split; · rfl
  simp only []
  split; · rfl
  split
  · have hl := M.flatLoop_sound pair hp (flattenOps k e).length (flattenOps k e) []
    simp only [List.reverse_nil, List.nil_append] at hl
    rw [flattenOps_sound M k hmk e] at hl
    split
    · rename_i x rest hops
      rw [hops] at hl
      rw [foldl_mk_sem M k.mk hmk rest x, ← hl]; rfl
    · rfl
  · rfl

variable (hidem : ∀ a, op a a = a)
include hidem

theorem foldSem_absorb (x : E) (xs : List E) (hx : x ∈ xs) :
    op (sem x) (foldSem op u sem xs) = foldSem op u sem xs := by
  induction xs with
  | nil => cases hx
  | cons y ys ih =>
    rw [foldSem_cons]
    rcases List.mem_cons.mp hx with rfl | hx
    · rw [← M.assoc, hidem]
    · rw [← M.assoc, M.comm (sem x), M.assoc, ih hx]

theorem foldSem_subset (xs ys : List E) (h : ∀ x ∈ xs, x ∈ ys) :
    op (foldSem op u sem xs) (foldSem op u sem ys) = foldSem op u sem ys := by
  induction xs with
  | nil => exact M.unit _
  | cons x xs ih =>
    rw [foldSem_cons, M.assoc, ih fun y hy => h y (List.mem_cons_of_mem _ hy),
      foldSem_absorb M hidem x ys (h x (List.mem_cons_self ..))]

theorem foldSem_congr_set (xs ys : List E) (h : sameSet xs ys = true) : foldSem op u sem xs = foldSem op u sem ys := by
  simp only [sameSet, Bool.and_eq_true, List.all_eq_true, List.contains_iff_mem] at h
  rw [← foldSem_subset M hidem ys xs h.2, M.comm, foldSem_subset M hidem xs ys h.1]
end Monoid

include hassoc hcomm hunit in
/-- `CommMonoid.flatLoop_sound` with the three laws as separate hypotheses -/
theorem flatLoop_sound (pair : E → E → Option E) (hp : ∀ a b r, pair a b = some r → op (sem a) (sem b) = sem r) :
    ∀ (fuel : Nat) (q ops : List E), foldSem op u sem (flatLoop pair fuel q ops) = foldSem op u sem (ops.reverse ++ q) :=
  CommMonoid.flatLoop_sound ⟨hassoc, hcomm, hunit⟩ pair hp

include hassoc hcomm hunit in
/-- `CommMonoid.flatSimplify_sound` with the three laws as separate hypotheses -/
theorem flatSimplify_sound (k : FK) (hmk : ∀ a b, sem (k.mk a b) = op (sem a) (sem b))
    (pair : E → E → Option E) (hp : ∀ a b r, pair a b = some r → op (sem a) (sem b) = sem r) (gate : Bool) (e : E) :
    sem (flatSimplify k pair gate e) = sem e :=
  CommMonoid.flatSimplify_sound ⟨hassoc, hcomm, hunit⟩ k hmk pair hp gate e
end Flat

/-- an integer operation on possibly-NULL numbers, as `arith` computes it (`toInt_arith`): under `toInt? (eval env ·)` a sum /
    product chain is a fold in this monoid, which makes simplify_literals an instance of `_flat_simplify` -/
def liftO (f : Int → Int → Int) : Option Int → Option Int → Option Int
  | some a, some b => some (f a b)
  | _, _ => none

theorem toInt_arith (f : Int → Int → Int) (x y : Val) : toInt? (arith f x y) = liftO f (toInt? x) (toInt? y) := by
  unfold arith; cases toInt? x <;> cases toInt? y <;> rfl

theorem liftO_monoid {f : Int → Int → Int} {u : Int} (M : CommMonoid f u) : CommMonoid (liftO f) (some u) where
  assoc a b c := by cases a <;> cases b <;> cases c <;> simp only [liftO, M.assoc]
  comm a b := by cases a <;> cases b <;> simp only [liftO, M.comm]
  unit a := by cases a <;> simp only [liftO, M.unit]

/-! ### uniq_sort / remove_complements: folds over operand sets -/

def opK (k : FK) : B3 → B3 → B3 := match k with | .and => and3 | _ => or3
def unitK (k : FK) : B3 := match k with | .and => some true | _ => some false

theorem conn3_monoid (p : Bool) : CommMonoid (conn3 p) (some p) := by
  cases p
  · exact ⟨or3_assoc, or3_comm, false_or3⟩
  · exact ⟨and3_assoc, and3_comm, true_and3⟩
theorem conn3_idem (p : Bool) (a : B3) : conn3 p a a = a := by
  cases p
  · exact or3_idem a
  · exact and3_idem a

/-- `opK` / `unitK` are `conn3` read off the chain kind, as `mkChain` reads the polarity off it -/
theorem opK_eq_conn3 (k : FK) : opK k = conn3 (k == .and) := by cases k <;> rfl
theorem unitK_eq (k : FK) : unitK k = some (k == .and) := by cases k <;> rfl

theorem opK_monoid (k : FK) : CommMonoid (opK k) (unitK k) := by
  rw [opK_eq_conn3, unitK_eq]; exact conn3_monoid _
theorem opK_idem (k : FK) (a : B3) : opK k a a = a := by
  rw [opK_eq_conn3]; exact conn3_idem _ a

/-- `foldSem_congr_set` in the monoid of a chain kind; `hk` is not needed (for a kind other than AND, `opK` is `or3`) -/
theorem foldSem_sameSet (k : FK) (hk : k = .and ∨ k = .or) (sem : E → B3) (xs ys : List E) (h : sameSet xs ys = true) :
    foldSem (opK k) (unitK k) sem xs = foldSem (opK k) (unitK k) sem ys :=
  foldSem_congr_set (opK_monoid k) (opK_idem k) xs ys h

theorem connKind_conn (e : E) (k : FK) (h : connKind e = some k) : k = .and ∨ k = .or := by
  cases e <;> simp [connKind] at h <;> simp [← h]

theorem connKind_boolish (e : E) (k : FK) (h : connKind e = some k) : boolish e = true := by
  cases e with
  | and | or => rfl
  | _ => cases h

/-- the `hmk` of the fold lemmas in the monoid of a chain kind (`eval_rawConn` for a node spelled `k.mk a b`) -/
theorem truth_mk (env : Env) (k : FK) (hk : k = .and ∨ k = .or) (a b : E) :
    truth (eval env (k.mk a b)) = opK k (truth (eval env a)) (truth (eval env b)) := by
  rcases hk with rfl | rfl <;> exact truth_ofB3 _

theorem flattenU_sound (env : Env) (k : FK) (hk : k = .and ∨ k = .or) :
    ∀ e, foldSem (opK k) (unitK k) (envAssign env) (flattenU k e) = truth (eval env e) :=
  k.chain_induct
    (fun a b iha ihb => by rw [flattenU_mk k hk, foldSem_append (opK_monoid k), iha, ihb, truth_mk env k hk])
    (fun e _ he => by rw [he, foldSem_single (opK_monoid k)]; exact congrArg truth (eval_unnest env e))

theorem mkChain_sound (env : Env) (k : FK) (hk : k = .and ∨ k = .or) (xs : List E) :
    truth (eval env (mkChain k xs)) = foldSem (opK k) (unitK k) (envAssign env) xs := by
  cases xs with
  | nil => rcases hk with rfl | rfl <;> rfl
  | cons x rest =>
    cases rest with
    | nil => exact (foldSem_single (sem := envAssign env) (opK_monoid k) x).symm
    | cons y ys =>
      have hmk : ∀ a b, envAssign env (k.mk a (wrapConn b)) = opK k (envAssign env a) (envAssign env b) := fun a b =>
        (truth_mk env k hk a _).trans (by rw [eval_wrapConn])
      exact (foldl_mk_sem (opK_monoid k) _ hmk (y :: ys) (wrapConn x)).trans
        (congrArg (opK k · _) (congrArg truth (eval_wrapConn env x)))

theorem uniqSortWith_sound (order : List E) (gate : Bool) (e : E) (env : Env) :
    truth (eval env (uniqSortWith order gate e)) = truth (eval env e) := by
  unfold uniqSortWith
  cases hk : connKind e with
  | none => rfl
  | some k =>
    have hkk := connKind_conn e k hk
    simp only []
    split; · rfl
    split; · rfl
    -- past the two guards that return `e`, the result is `e` again unless `order` has the operands of `e` as its set
    cases hss : sameSet order (flattenU k e) with
    | false => rfl
    | true =>
      have hf := foldSem_sameSet k hkk (envAssign env) order (flattenU k e) hss
      rw [flattenU_sound env k hkk e] at hf
      simp only [Bool.not_true, Bool.false_eq_true, if_false]
      rw [← hf]
      split
      · rename_i x0 _
        rw [eval_mkAnd, truth_ofB3]
        exact (and3_true _).trans (foldSem_single (sem := envAssign env) (opK_monoid k) x0).symm
      · exact mkChain_sound env k hkk order

theorem nonNullE_unnest (e : E) : nonNullE (unnest e) = nonNullE e := by
  induction e with
  | paren a ih => exact ih
  | _ => rfl

theorem nonNullE_flattenU (k : FK) (hk : k = .and ∨ k = .or) :
    ∀ e, nonNullE e = true → ∀ x ∈ flattenU k e, nonNullE x = true :=
  k.chain_induct
    (fun a b iha ihb h x hx => by
      have h : nonNullE a = true ∧ nonNullE b = true := by
        rcases hk with rfl | rfl <;> exact (Bool.and_eq_true _ _).mp h
      rw [flattenU_mk k hk] at hx
      exact (List.mem_append.mp hx).elim (iha h.1 x) (ihb h.2 x))
    (fun e _ he h x hx => by rw [he, List.mem_singleton] at hx; rw [hx, nonNullE_unnest]; exact h)

/-- remove_complements: `A AND NOT A … → FALSE` / `A OR NOT A … → TRUE` is exact when no operand can be NULL
    (what the `nonnull` meta of the connector asserts) -/
theorem removeComplements_sound (gate nonnull : Bool) (e : E) (hn : nonnull = true → nonNullE e = true) (env : Env) :
    eval env (removeComplements gate nonnull e) = eval env e := by
  unfold removeComplements
  cases hk : connKind e with
  | none => rfl
  | some k =>
    have hkk := connKind_conn e k hk
    simp only []
    refine eval_ite env (fun _ => rfl) fun _ => eval_ite env (fun hc => ?_) fun _ => rfl
    simp only [Bool.and_eq_true, List.any_eq_true] at hc
    obtain ⟨hnn, op, hop, hmatch⟩ := hc
    cases op with
    | not x =>
      simp only [List.contains_iff_mem] at hmatch
      have hx := nonNullE_flattenU k hkk e (hn hnn) x hmatch
      obtain ⟨t, ht⟩ := truth_of_ne_null _ (nonNullE_ne_null env x hx)
      rw [← boolish_val env e (connKind_boolish e k hk), ← flattenU_sound env k hkk e]
      -- of `x` and `NOT x` one is FALSE and one TRUE: the operand that absorbs the fold
      have hx : opK k (truth (eval env x)) _ = _ :=
        foldSem_absorb (sem := envAssign env) (opK_monoid k) (opK_idem k) x _ hmatch
      have hnx : opK k (truth (eval env (.not x))) _ = _ :=
        foldSem_absorb (sem := envAssign env) (opK_monoid k) (opK_idem k) (.not x) _ hop
      simp only [eval, truth_ofB3, ht] at hx hnx
      rcases hkk with rfl | rfl <;> cases t
      · rw [← hx]; rfl
      · rw [← hnx]; rfl
      · rw [← hnx]; rfl
      · rw [← hx]; rfl
    | _ => simp at hmatch

end SqlglotModel.Simplify
