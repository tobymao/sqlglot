/-
  C06 — what the proof of every rule rests on: the Kleene algebra on `B3`, what `eval env` makes of the constructors and
  recognisers of Model/Simplify.lean (`eval_rawConn`: an AND / OR node means `conn3` of its polarity; `evalBranch`: the
  branch list of a CASE is folded branch by branch), `eval_ite` /
  `Sound` for proving a total / a partial rule along its definition, and the truth-table checker (`ttCheck_sound`: `env`
  induces one of the rows it enumerates).  Core Lean only.
-/
import SqlglotModel.Model.Simplify

namespace SqlglotModel.Simplify
open SqlglotModel.ThreeVL

theorem and3_comm (a b : B3) : and3 a b = and3 b a := by
  rcases a with _ | _ | _ <;> rcases b with _ | _ | _ <;> rfl
theorem or3_comm (a b : B3) : or3 a b = or3 b a := by
  rcases a with _ | _ | _ <;> rcases b with _ | _ | _ <;> rfl
theorem and3_assoc (a b c : B3) : and3 (and3 a b) c = and3 a (and3 b c) := by
  rcases a with _ | _ | _ <;> rcases b with _ | _ | _ <;> rcases c with _ | _ | _ <;> rfl
theorem or3_assoc (a b c : B3) : or3 (or3 a b) c = or3 a (or3 b c) := by
  rcases a with _ | _ | _ <;> rcases b with _ | _ | _ <;> rcases c with _ | _ | _ <;> rfl
theorem and3_idem (a : B3) : and3 a a = a := by rcases a with _ | _ | _ <;> rfl
theorem or3_idem (a : B3) : or3 a a = a := by rcases a with _ | _ | _ <;> rfl
theorem not3_and3 (a b : B3) : not3 (and3 a b) = or3 (not3 a) (not3 b) := by
  rcases a with _ | _ | _ <;> rcases b with _ | _ | _ <;> rfl
theorem not3_or3 (a b : B3) : not3 (or3 a b) = and3 (not3 a) (not3 b) := by
  rcases a with _ | _ | _ <;> rcases b with _ | _ | _ <;> rfl
theorem not3_not3 (a : B3) : not3 (not3 a) = a := by rcases a with _ | _ | _ <;> rfl
theorem and3_true (a : B3) : and3 a (some true) = a := by rcases a with _ | _ | _ <;> rfl
theorem true_and3 (a : B3) : and3 (some true) a = a := by rcases a with _ | _ | _ <;> rfl
theorem or3_false (a : B3) : or3 a (some false) = a := by rcases a with _ | _ | _ <;> rfl
theorem false_or3 (a : B3) : or3 (some false) a = a := by rcases a with _ | _ | _ <;> rfl
theorem and3_false (a : B3) : and3 a (some false) = some false := by rcases a with _ | _ | _ <;> rfl
theorem false_and3 (a : B3) : and3 (some false) a = some false := by rcases a with _ | _ | _ <;> rfl
theorem or3_true (a : B3) : or3 a (some true) = some true := by rcases a with _ | _ | _ <;> rfl
theorem true_or3 (a : B3) : or3 (some true) a = some true := by rcases a with _ | _ | _ <;> rfl
theorem or3_none_l (y : B3) (h : y ≠ some true) : or3 none y = none := by
  rcases y with _ | _ | _ <;> first | rfl | exact absurd rfl h
theorem or3_none_r (x : B3) (h : x ≠ some true) : or3 x none = none := by
  rcases x with _ | _ | _ <;> first | rfl | exact absurd rfl h
theorem or3_and3_distrib (a b c : B3) : or3 a (and3 b c) = and3 (or3 a b) (or3 a c) := by
  rcases a with _ | _ | _ <;> rcases b with _ | _ | _ <;> rcases c with _ | _ | _ <;> rfl
theorem and3_or3_distrib (a b c : B3) : and3 a (or3 b c) = or3 (and3 a b) (and3 a c) := by
  rcases a with _ | _ | _ <;> rcases b with _ | _ | _ <;> rcases c with _ | _ | _ <;> rfl
theorem and3_eq_true (x y : B3) (h : and3 x y = some true) : x = some true ∧ y = some true := by
  rcases x with _ | _ | _ <;> rcases y with _ | _ | _ <;> simp [and3] at h ⊢

/-- 3-valued meaning of a connector of the given polarity -/
def conn3 (isAnd : Bool) : B3 → B3 → B3 := if isAnd then and3 else or3

theorem conn3_comm (p : Bool) (a b : B3) : conn3 p a b = conn3 p b a := by
  cases p
  · exact or3_comm a b
  · exact and3_comm a b
theorem conn3_distrib (p : Bool) (a b c : B3) : conn3 (!p) a (conn3 p b c) = conn3 p (conn3 (!p) a b) (conn3 (!p) a c) := by
  cases p
  · exact and3_or3_distrib a b c
  · exact or3_and3_distrib a b c
theorem conn3_distrib_r (p : Bool) (a b c : B3) : conn3 (!p) (conn3 p b c) a = conn3 p (conn3 (!p) b a) (conn3 (!p) c a) := by
  rw [conn3_comm (!p), conn3_distrib, conn3_comm (!p) a b, conn3_comm (!p) a c]

@[simp] theorem truth_ofB3 (x : B3) : truth (ofB3 x) = x := by rcases x with _ | _ | _ <;> rfl

theorem eval_ite (env : Env) {c : Prop} [Decidable c] {a b : E} {v : Val} (ha : c → eval env a = v) (hb : ¬c → eval env b = v) :
    eval env (if c then a else b) = v := by
  split
  · exact ha ‹_›
  · exact hb ‹_›

/-- the 3-valued truth value under `env`: the `sem` of the rules on AND / OR chains, and, read on the atoms, the row of the
    truth table that `env` induces (`absE_envAssign`) -/
abbrev envAssign (env : Env) : E → B3 := fun a => truth (eval env a)

/-- a partial rule is sound: its answer `o`, if there is one, means `v` under `sem`.  (The `hp` that the `_flat_simplify`
    lemmas ask of the pair function is this at `v = op (sem a) (sem b)`, with the equation turned round.)  Inside a
    declaration named `Sound.…` a bare `some` / `none` is `Sound.some` / `Sound.none`: write `Option.some`. -/
def Sound {α : Type} (sem : E → α) (v : α) (o : Option E) : Prop := ∀ x, o = some x → sem x = v

section
variable {α : Type} {sem : E → α} {v : α}

theorem Sound.get {o : Option E} {x : E} (h : Sound sem v o) (hx : o = Option.some x) : sem x = v := h x hx
theorem Sound.none : Sound sem v none := nofun
theorem Sound.some {x : E} (h : sem x = v) : Sound sem v (some x) :=
  fun _ hx => Option.some.inj hx ▸ h
theorem Sound.ite {c : Prop} [Decidable c] {a b : Option E}
    (ha : c → Sound sem v a) (hb : ¬c → Sound sem v b) : Sound sem v (if c then a else b) := by
  split
  · exact ha ‹_›
  · exact hb ‹_›
end

@[simp] theorem eval_unnest (env : Env) (e : E) : eval env (unnest e) = eval env e := by
  induction e with
  | paren a ih => exact ih
  | _ => rfl

theorem eval_flattenChild (env : Env) (isAnd : Bool) (e : E) : eval env (flattenChild isAnd e) = eval env e := by
  unfold flattenChild; split
  · rename_i h; rw [← h, eval_unnest]
  · rename_i h; rw [← h, eval_unnest]
  · rfl

theorem eval_flatten1 (env : Env) (e : E) : eval env (flatten1 e) = eval env e := by
  cases e with
  | and a b | or a b => simp only [flatten1, eval, eval_flattenChild]
  | _ => rfl

@[simp] theorem eval_wrapConn (env : Env) (e : E) : eval env (wrapConn e) = eval env e := by
  unfold wrapConn; split <;> simp [eval]

@[simp] theorem eval_mkNot (env : Env) (e : E) : eval env (mkNot e) = ofB3 (not3 (truth (eval env e))) := by
  simp [mkNot, eval]
@[simp] theorem eval_mkAnd (env : Env) (a b : E) :
    eval env (mkAnd a b) = ofB3 (and3 (truth (eval env a)) (truth (eval env b))) := by simp [mkAnd, eval]
@[simp] theorem eval_mkOr (env : Env) (a b : E) :
    eval env (mkOr a b) = ofB3 (or3 (truth (eval env a)) (truth (eval env b))) := by simp [mkOr, eval]

@[simp] theorem eval_mkConn (env : Env) (p : Bool) (a b : E) :
    eval env (mkConn p a b) = ofB3 (conn3 p (truth (eval env a)) (truth (eval env b))) := by
  cases p <;> simp [mkConn, conn3]
/-- a connector node of polarity `p` means `conn3 p` of its operands.  Where a statement spells the node otherwise
    (`if or_ then .or L R else .and L R`, `k.mk a b`) the same is read off by cases on the polarity, each case by the
    definition of `eval` (`truth_mk`, `eval_conn_b`, and `cases isAnd <;> exact truth_ofB3 _` in Properties/C06). -/
@[simp] theorem eval_rawConn (env : Env) (p : Bool) (a b : E) :
    eval env (rawConn p a b) = ofB3 (conn3 p (truth (eval env a)) (truth (eval env b))) := by
  cases p <;> simp [rawConn, conn3, eval]

@[simp] theorem eval_parenthesizeNested (env : Env) (e : E) (p : PK) :
    eval env (parenthesizeNested e p) = eval env e := by
  unfold parenthesizeNested; split <;> simp [eval]

theorem eval_notNull (env : Env) (p : PK) : eval env (notNull p) = .null := by
  rw [notNull, eval_parenthesizeNested]; rfl

/-- one branch of a searched CASE, read as a function of what the branches after it give -/
def evalBranch (env : Env) (h : E) (k : Option Val) : Option Val :=
  match h with
  | .iff c t _ => if truth (eval env c) = some true then some (eval env t) else k
  | _ => k

theorem evalCase_cons (env : Env) (h rest : E) : evalCase env (.cons h rest) = evalBranch env h (evalCase env rest) := by
  cases h <;> rfl

theorem alwaysTrue_truth (env : Env) (e : E) (h : alwaysTrue e = true) : truth (eval env e) = some true := by
  cases e with
  | bool v => cases v <;> first | rfl | cases h
  | int n => exact congrArg some h
  | _ => cases h

theorem isFalseE_eq (e : E) (h : isFalseE e = true) : e = .bool false := by
  cases e with
  | bool v => cases v <;> first | rfl | cases h
  | _ => cases h
theorem isNullE_eq (e : E) (h : isNullE e = true) : e = .null := by
  cases e with
  | null => rfl
  | _ => cases h
theorem isZeroE_eq (e : E) (h : isZeroE e = true) : e = .int 0 := by
  cases e with
  | int n => exact congrArg E.int (by simpa [isZeroE] using h)
  | _ => cases h

theorem isFalseE_truth (env : Env) (e : E) (h : isFalseE e = true) : truth (eval env e) = some false := by
  rw [isFalseE_eq e h]; rfl
theorem isZeroE_truth (env : Env) (e : E) (h : isZeroE e = true) : truth (eval env e) = some false := by
  rw [isZeroE_eq e h]; rfl
theorem isNullE_truth (env : Env) (e : E) (h : isNullE e = true) : truth (eval env e) = none := by
  rw [isNullE_eq e h]; rfl

theorem alwaysFalse_truth (env : Env) (e : E) (h : alwaysFalse e = true) : truth (eval env e) ≠ some true := by
  simp only [alwaysFalse, Bool.or_eq_true] at h
  rcases h with (h | h) | h
  · rw [isFalseE_truth env e h]; nofun
  · rw [isNullE_truth env e h]; nofun
  · rw [isZeroE_truth env e h]; nofun

theorem numVal_eval (env : Env) (e : E) (n : Int) (h : numVal? e = some n) : eval env e = .i n := by
  induction e generalizing n with
  | int m => cases h; rfl
  | neg a ih =>
    rw [numVal?] at h
    cases ha : numVal? a with
    | none => rw [ha] at h; cases h
    | some m => rw [ha] at h; cases h; simp only [eval, ih m ha]; rfl
  | _ => cases h

theorem eval_mkNum (env : Env) (n : Int) : eval env (mkNum n) = .i n := by
  unfold mkNum; split <;> simp [eval, negVal, toInt?]

theorem ofB3_truth_cmpVal (op : Cmp) (x y : Val) : ofB3 (truth (cmpVal op x y)) = cmpVal op x y := by
  unfold cmpVal; split <;> rfl

/-- a table that complements every test (`ComplementOK` of Properties/C06) negates the comparison of two values, NULL kept … -/
theorem cmpVal_complement (c : Cmp → Cmp) (hc : ∀ op x y, (c op).test x y = !op.test x y) (op : Cmp) (x y : Val) :
    cmpVal (c op) x y = ofB3 (not3 (truth (cmpVal op x y))) := by
  unfold cmpVal
  cases toInt? x <;> cases toInt? y <;> simp [truth, not3, ofB3, hc op]
/-- … and one that answers for the swapped operands (`InverseOK`) lets them be swapped -/
theorem cmpVal_inverse (c : Cmp → Cmp) (hc : ∀ op x y, (c op).test y x = op.test x y) (op : Cmp) (x y : Val) :
    cmpVal (c op) y x = cmpVal op x y := by
  unfold cmpVal
  cases toInt? x <;> cases toInt? y <;> simp [hc op]

theorem boolish_val (env : Env) (e : E) (h : boolish e = true) : ofB3 (truth (eval env e)) = eval env e := by
  induction e with
  | null | bool => rfl
  | bcol k nn => simp only [eval]; cases env.b k <;> first | rfl | (cases nn <;> rfl)
  | and | or | not | between | inList => simp only [eval, truth_ofB3]
  | cmp op a b => exact ofB3_truth_cmpVal op _ _
  | is a b =>
    cases b with
    | null | bool => rfl
    | _ => cases h
  | paren a ih => exact ih h
  | _ => cases h

theorem absE_envAssign (env : Env) (e : E) : absE (envAssign env) e = truth (eval env e) := by
  induction e with
  | and a b iha ihb | or a b iha ihb => simp only [absE, iha, ihb, eval, truth_ofB3]
  | not a iha => simp only [absE, iha, eval, truth_ofB3]
  | paren a iha => exact iha
  | between => simp only [absE, envAssign, eval, truth_ofB3]
  | _ => rfl

theorem absE_congr (σ τ : E → B3) (e : E) (h : ∀ y ∈ atomsOf e, σ y = τ y) : absE σ e = absE τ e := by
  induction e with
  | and a b iha ihb | or a b iha ihb =>
    simp only [atomsOf, List.mem_append] at h
    simp only [absE, iha fun y hy => h y (.inl hy), ihb fun y hy => h y (.inr hy)]
  | not a iha => simp only [absE, iha h]
  | paren a iha => exact iha h
  | between a lo hi => simp only [absE, h (.cmp .gte a lo) (by simp [atomsOf]), h (.cmp .lte a hi) (by simp [atomsOf])]
  | bool | null | int => rfl
  | _ => exact h _ (List.mem_singleton_self _)

theorem toInt_of_ne_null (v : Val) (h : v ≠ .null) : ∃ n, toInt? v = some n := by
  cases v <;> simp_all [toInt?]
theorem truth_of_ne_null (v : Val) (h : v ≠ .null) : ∃ t, truth v = some t := by
  cases v <;> simp_all [truth]

theorem nonNullE_ne_null (env : Env) (e : E) : nonNullE e = true → eval env e ≠ .null := by
  induction e with
  | bool | int => exact fun _ => nofun
  | bcol k nn => rintro ⟨⟩; simp only [eval]; cases env.b k <;> nofun
  | icol k nn => rintro ⟨⟩; simp only [eval]; cases env.i k <;> nofun
  | and a b iha ihb | or a b iha ihb =>
    intro h; simp only [nonNullE, Bool.and_eq_true] at h
    obtain ⟨x, hx⟩ := truth_of_ne_null _ (iha h.1); obtain ⟨y, hy⟩ := truth_of_ne_null _ (ihb h.2)
    simp only [eval, hx, hy]; cases x <;> cases y <;> nofun
  | not a iha =>
    intro h
    obtain ⟨x, hx⟩ := truth_of_ne_null _ (iha h)
    simp only [eval, hx]; nofun
  | paren a iha => exact iha
  | cmp op a b iha ihb | add a b iha ihb | sub a b iha ihb | mul a b iha ihb =>
    intro h; simp only [nonNullE, Bool.and_eq_true] at h
    obtain ⟨x, hx⟩ := toInt_of_ne_null _ (iha h.1); obtain ⟨y, hy⟩ := toInt_of_ne_null _ (ihb h.2)
    simp only [eval, cmpVal, arith, hx, hy]; nofun
  | neg a iha =>
    intro h
    obtain ⟨x, hx⟩ := toInt_of_ne_null _ (iha h)
    simp only [eval, negVal, hx]; nofun
  | is a b _ _ =>
    intro h
    cases b with
    | null | bool => simp only [eval, isVal]; nofun
    | _ => cases h
  | _ => intro h; cases h

/-- the enumeration reaches every row `τ` that is the start assignment `σ` outside the enumerated atoms `xs` and is not NULL
    on the atoms that cannot be NULL (for a `nonNullE` atom the NULL row is skipped) -/
theorem checkAll_sound (xs : List E) : ∀ (σ : E → B3) (a b : E), checkAll xs σ a b = true →
    ∀ τ : E → B3, (∀ y, y ∉ xs → τ y = σ y) → (∀ y ∈ xs, nonNullE y = true → τ y ≠ none) →
      absE τ a = absE τ b := by
  induction xs with
  | nil =>
    intro σ a b h τ hσ _
    have : τ = σ := funext (fun y => hσ y (by simp))
    subst this; simpa [checkAll] using h
  | cons x xs ih =>
    intro σ a b h τ hσ hnn
    simp only [checkAll, Bool.and_eq_true, Bool.or_eq_true] at h
    obtain ⟨⟨ht, hf⟩, hn⟩ := h
    have key : ∀ v, τ x = v → checkAll xs (upd σ x v) a b = true → absE τ a = absE τ b := by
      intro v hv hc
      apply ih (upd σ x v) a b hc τ
      · intro y hy
        by_cases hyx : y = x
        · subst hyx; simp [upd, hv]
        · simp only [upd, hyx, if_false]; exact hσ y (by simp [hyx, hy])
      · intro y hy; exact hnn y (List.mem_cons_of_mem _ hy)
    rcases hτ : τ x with _ | _ | _
    · rcases hn with hn | hn
      · exact absurd hτ (hnn x (List.mem_cons_self ..) hn)
      · exact key none hτ hn
    · exact key (some false) hτ hf
    · exact key (some true) hτ ht

theorem ttCheck_sound (a b : E) (h : ttCheck a b = true) (env : Env) :
    truth (eval env a) = truth (eval env b) := by
  let xs := (atomsOf a ++ atomsOf b).eraseDups
  -- the row of `env`, cut down to the enumerated atoms: outside them `checkAll_sound` wants the start assignment (all
  -- NULL), and `absE` looks at no other atom (`absE_congr`)
  let τ : E → B3 := fun y => if y ∈ xs then envAssign env y else none
  have hmem : ∀ y, y ∈ atomsOf a ++ atomsOf b → y ∈ xs := by
    intro y hy; simpa [xs] using hy
  have h1 := checkAll_sound xs (fun _ => none) a b h τ
    (by intro y hy; simp [τ, hy])
    (by
      intro y hy hnn
      simp only [τ, hy, if_true, envAssign]
      obtain ⟨t, ht⟩ := truth_of_ne_null _ (nonNullE_ne_null env y hnn)
      simp [ht])
  have ha : absE τ a = absE (envAssign env) a := absE_congr _ _ _ (by
    intro y hy; simp [τ, hmem y (List.mem_append_left _ hy)])
  have hb : absE τ b = absE (envAssign env) b := absE_congr _ _ _ (by
    intro y hy; simp [τ, hmem y (List.mem_append_right _ hy)])
  rw [← absE_envAssign, ← absE_envAssign, ← ha, ← hb, h1]

end SqlglotModel.Simplify
