/-
  C06 — the rules that look at one node and its operands keep `eval env` (or its `truth`): literal folding,
  simplify_equality, the constant AND / OR table, the decision table of `_simplify_comparison` (read once on the integers,
  `cmpDecide_spec`), the CASE loop of simplify_conditionals (a loop invariant) and a COALESCE split at its first constant
  (`orElse`: the argument list is folded with the COALESCE of two values, which is associative).
-/
import SqlglotModel.Proofs.SimplifyEval
import SqlglotModel.Proofs.List

namespace SqlglotModel.Simplify
open SqlglotModel.ThreeVL

theorem cmpVal_null (op : Cmp) (x y : Val) (h : x = .null ∨ y = .null) : cmpVal op x y = .null := by
  unfold cmpVal
  rcases h with rfl | rfl
  · rfl
  · cases toInt? x <;> rfl
theorem arith_null (f : Int → Int → Int) (x y : Val) (h : x = .null ∨ y = .null) : arith f x y = .null := by
  unfold arith
  rcases h with rfl | rfl
  · rfl
  · cases toInt? x <;> rfl

theorem eval_binK_null (env : Env) (k : BinK) (hk : k ≠ .is) (a b : E) (h : (isNullE a || isNullE b) = true) :
    eval env (k.mk a b) = .null := by
  have hn : eval env a = .null ∨ eval env b = .null := by
    rcases Bool.or_eq_true _ _ ▸ h with h | h
    · exact .inl (by rw [isNullE_eq a h]; rfl)
    · exact .inr (by rw [isNullE_eq b h]; rfl)
  cases k with
  | cmp op => exact cmpVal_null op _ _ hn
  | is => exact absurd rfl hk
  | add => exact arith_null _ _ _ hn
  | sub => exact arith_null _ _ _ hn
  | mul => exact arith_null _ _ _ hn

theorem binPairNum_sound (k : BinK) (sp : Bool) (a b : E) (env : Env) :
    Sound (eval env) (eval env (k.mk a b)) (binPairNum k sp a b) := by
  unfold binPairNum
  split
  · rename_i u v hu hv
    have ea := numVal_eval env a u hu
    have eb := numVal_eval env b v hv
    cases k <;> simp only []
    · exact .some (by simp only [BinK.mk, eval, ea, eb]; rfl)
    · exact .none
    · exact .some (by simp only [BinK.mk, eval, ea, eb, eval_mkNum]; rfl)
    · exact .ite (fun _ => .some (by simp only [BinK.mk, eval, ea, eb, eval_mkNum]; rfl)) fun _ => .none
    · exact .some (by simp only [BinK.mk, eval, ea, eb, eval_mkNum]; rfl)
  · exact .none

theorem test_add_both (op : Cmp) (x y d : Int) : op.test (x + d) (y + d) = op.test x y := by
  cases op <;> simp [Cmp.test]
theorem cmp_shift_add (op : Cmp) (x b r : Int) : op.test x (r - b) = op.test (x + b) r := by
  rw [← test_add_both op x _ b, Int.sub_add_cancel]
theorem cmp_shift_sub (op : Cmp) (x b r : Int) : op.test x (r + b) = op.test (x - b) r := by
  rw [← test_add_both op (x - b) r b, Int.sub_add_cancel]
theorem cmp_flip_sub (op : Cmp) (x a r : Int) : op.test (a - r) x = op.test (a - x) r := by
  rw [← test_add_both op _ x r, Int.sub_add_cancel, ← test_add_both op (a - x) r x, Int.sub_add_cancel, Int.add_comm]

/-- the four clauses of simplify_equality on values, the unknown `v` possibly NULL: `v + b op r`, `a + v op r`, `v - b op r`,
    and `a - v op r`, where the operator is swapped by a table `c` with the property `SubFlipOK` of Properties/C06 -/
theorem val_shift_add (op : Cmp) (v : Val) (b r : Int) :
    cmpVal op v (arith (· - ·) (.i r) (.i b)) = cmpVal op (arith (· + ·) v (.i b)) (.i r) := by
  cases v <;> simp [cmpVal, arith, toInt?, cmp_shift_add]
theorem val_shift_add_comm (op : Cmp) (v : Val) (a r : Int) :
    cmpVal op v (arith (· - ·) (.i r) (.i a)) = cmpVal op (arith (· + ·) (.i a) v) (.i r) := by
  cases v <;> simp [cmpVal, arith, toInt?, cmp_shift_add, Int.add_comm a]
theorem val_shift_sub (op : Cmp) (v : Val) (b r : Int) :
    cmpVal op v (arith (· + ·) (.i r) (.i b)) = cmpVal op (arith (· - ·) v (.i b)) (.i r) := by
  cases v <;> simp [cmpVal, arith, toInt?, cmp_shift_sub]
theorem val_flip_sub (c : Cmp → Cmp) (hc : ∀ op a x r, (c op).test x (a - r) = op.test (a - x) r) (op : Cmp) (v : Val)
    (a r : Int) : cmpVal (c op) v (arith (· - ·) (.i a) (.i r)) = cmpVal op (arith (· - ·) (.i a) v) (.i r) := by
  cases v <;> simp [cmpVal, arith, toInt?, hc op]

theorem connConst_truth (isAnd : Bool) (l r : E) (env : Env) :
    Sound (envAssign env) (conn3 isAnd (truth (eval env l)) (truth (eval env r))) (connConst isAnd l r) := by
  cases isAnd
  · rw [connConst, conn3, if_neg Bool.false_ne_true, if_neg Bool.false_ne_true]
    refine .ite (fun hc => .some ?_) fun _ => .ite (fun hc => .some ?_) fun _ => .ite (fun hc => .some ?_) fun _ =>
      .ite (fun hc => .some ?_) fun _ => .none
    · rcases Bool.or_eq_true _ _ ▸ hc with hc | hc
      · rw [alwaysTrue_truth env l hc]; rfl
      · rw [alwaysTrue_truth env r hc, or3_true]; rfl
    · simp only [Bool.or_eq_true, Bool.and_eq_true] at hc
      rcases hc with (⟨h1, h2⟩ | ⟨h1, h2⟩) | ⟨h1, h2⟩
      · rw [isNullE_truth env l h1, isNullE_truth env r h2]; rfl
      · rw [isNullE_truth env l h1, or3_none_l _ (alwaysFalse_truth env r h2)]; rfl
      · rw [isNullE_truth env r h2, or3_none_r _ (alwaysFalse_truth env l h1)]; rfl
    · rw [isFalseE_truth env l hc, false_or3]
    · rw [isFalseE_truth env r hc, or3_false]
  · rw [connConst, conn3, if_pos rfl, if_pos rfl]
    refine .ite (fun hc => .some ?_) fun _ => .ite (fun hc => .some ?_) fun _ => .ite (fun hc => .some ?_) fun _ =>
      .ite (fun hc => .some ?_) fun _ => .ite (fun hc => .some ?_) fun _ => .ite (fun hc => .some ?_) fun _ => .none
    · rcases Bool.or_eq_true _ _ ▸ hc with hc | hc
      · rw [isFalseE_truth env l hc]; rfl
      · rw [isFalseE_truth env r hc, and3_false]; rfl
    · rcases Bool.or_eq_true _ _ ▸ hc with hc | hc
      · rw [isZeroE_truth env l hc]; rfl
      · rw [isZeroE_truth env r hc, and3_false]; rfl
    · simp only [Bool.or_eq_true, Bool.and_eq_true] at hc
      rcases hc with (⟨h1, h2⟩ | ⟨h1, h2⟩) | ⟨h1, h2⟩
      · rw [isNullE_truth env l h1, isNullE_truth env r h2]; rfl
      · rw [isNullE_truth env l h1, alwaysTrue_truth env r h2]; rfl
      · rw [alwaysTrue_truth env l h1, isNullE_truth env r h2]; rfl
    · simp only [Bool.and_eq_true] at hc
      rw [alwaysTrue_truth env l hc.1, alwaysTrue_truth env r hc.2]; rfl
    · rw [alwaysTrue_truth env l hc, true_and3]
    · rw [alwaysTrue_truth env r hc, and3_true]

theorem firstSome_res (a b : Option E) (x : E) :
    firstSome a b = .res x ↔ a = some x ∨ (a = none ∧ b = some x) := by
  cases a <;> cases b <;> simp [firstSome]

/-- The decision table read on the integers.  The result is one of the two operands, which then decides the connector on
    its own at every integer `k`, or FALSE for an AND that no integer satisfies.  Each of the 72 entries (operator pair,
    AND / OR) is a fact of linear arithmetic about `k` and the two constants. -/
theorem cmpDecide_spec (or_ : Bool) (L R x : E) (opl opr : Cmp) (lv rv : Int)
    (h : cmpDecide true or_ L R (some opl) lv (some opr) rv = .res x) (k : Int) :
    (x = L ∧ (if or_ then opl.test k lv || opr.test k rv else opl.test k lv && opr.test k rv) = opl.test k lv) ∨
    (x = R ∧ (if or_ then opl.test k lv || opr.test k rv else opl.test k lv && opr.test k rv) = opr.test k rv) ∨
    (x = .bool false ∧ or_ = false ∧ (opl.test k lv && opr.test k rv) = false) := by
  cases opl <;> cases opr <;> cases or_ <;>
    simp [cmpDecide, firstSome, cmpStep, isLtLte, isGtGte] at h <;>
    grind [Cmp.test]

theorem ltLte_test (op : Cmp) (h : isLtLte (some op) = true) (k n : Int) (hk : k < n) : op.test k n = true := by
  cases op <;> simp [isLtLte] at h <;> simp [Cmp.test] <;> omega
theorem gtGte_test (op : Cmp) (h : isGtGte (some op) = true) (k n : Int) (hk : n < k) : op.test k n = true := by
  cases op <;> simp [isGtGte] at h <;> simp [Cmp.test] <;> omega

theorem eval_cmp_num (env : Env) (op : Cmp) (c l : E) (k n : Int) (hc : toInt? (eval env c) = some k)
    (hl : numVal? l = some n) : eval env (.cmp op c l) = .b (op.test k n) := by
  simp only [eval, cmpVal, hc, numVal_eval env l n hl]; rfl

theorem eval_cmp_null (env : Env) (op : Cmp) (c l : E) (hc : toInt? (eval env c) = none) :
    eval env (.cmp op c l) = .null := by
  simp only [eval, cmpVal, hc]

theorem eval_conn_b (env : Env) (or_ : Bool) (L R : E) (p q : Bool) (hL : eval env L = .b p) (hR : eval env R = .b q) :
    eval env (if or_ then .or L R else .and L R) = .b (if or_ then p || q else p && q) := by
  cases or_ <;> cases p <;> cases q <;> simp [eval, hL, hR, truth, and3, or3, ofB3]

theorem eval_conn_null (env : Env) (or_ : Bool) (L R : E) (hL : eval env L = .null) (hR : eval env R = .null) :
    eval env (if or_ then .or L R else .and L R) = .null := by
  cases or_ <;> simp [eval, hL, hR, truth, and3, or3, ofB3]

/-- every result of the decision phase of `_simplify_comparison` on `c opl l`, `c opr r` (the shared term on the left of
    both, where sort_comparison puts it; either comparison kept, or FALSE) is exact in 3-valued logic — all 36 operator
    pairs, AND and OR — except that a `→ FALSE` result needs `c` not to be NULL (the input is then NULL, not FALSE) -/
theorem simplify_comparison_sound (or_ : Bool) (opl opr : Cmp) (c l r x : E) (lv rv : Int)
    (hl : numVal? l = some lv) (hr : numVal? r = some rv)
    (h : cmpDecide true or_ (.cmp opl c l) (.cmp opr c r) (some opl) lv (some opr) rv = .res x) (env : Env)
    (hx : x = .bool false → toInt? (eval env c) ≠ none) :
    eval env x = eval env (if or_ then .or (.cmp opl c l) (.cmp opr c r) else .and (.cmp opl c l) (.cmp opr c r)) := by
  cases hv : toInt? (eval env c) with
  | some k =>
    have eL := eval_cmp_num env opl c l k lv hv hl
    have eR := eval_cmp_num env opr c r k rv hv hr
    rw [eval_conn_b env or_ _ _ _ _ eL eR]
    rcases cmpDecide_spec _ _ _ _ _ _ _ _ h k with ⟨rfl, hk⟩ | ⟨rfl, hk⟩ | ⟨rfl, rfl, hk⟩
    · rw [hk]; exact eL
    · rw [hk]; exact eR
    · simp only [Bool.false_eq_true, if_false, hk]; rfl
  | none =>
    have eL := eval_cmp_null env opl c l hv
    have eR := eval_cmp_null env opr c r hv
    rw [eval_conn_null env or_ _ _ eL eR]
    rcases cmpDecide_spec _ _ _ _ _ _ _ _ h 0 with ⟨rfl, -⟩ | ⟨rfl, -⟩ | ⟨rfl, -⟩
    · exact eL
    · exact eR
    · exact absurd hv (hx rfl)

theorem appRev_cons (x : E) (kept : List E) (rest : E) : appRev (x :: kept) rest = appRev kept (.cons x rest) := rfl

/-- the branches already passed act on what the remaining ones give, the last passed first -/
theorem evalCase_appRev (env : Env) (kept : List E) : ∀ r,
    evalCase env (appRev kept r) = kept.foldl (fun k x => evalBranch env x k) (evalCase env r) := by
  induction kept with
  | nil => exact fun _ => rfl
  | cons x kept ih => intro r; rw [appRev_cons, ih, evalCase_cons]; rfl

theorem evalCase_drop (env : Env) (c t f tl : E) (h : truth (eval env c) ≠ some true) :
    evalCase env (.cons (.iff c t f) tl) = evalCase env tl := by
  rw [evalCase_cons, evalBranch, if_neg h]

@[simp] theorem eval_wrapForParent (env : Env) (e : E) (p : PK) : eval env (wrapForParent e p) = eval env e := by
  unfold wrapForParent; split <;> simp [eval]

theorem caseLoop_sound (env : Env) (p : PK) (dflt : E) : ∀ (fuel : Nat) (kept : List E) (rest : E),
    eval env (caseLoop true p dflt fuel kept rest) = eval env (.case (appRev kept rest) dflt) := by
  intro fuel
  induction fuel with
  | zero => intro kept rest; rfl
  | succ fuel ih =>
    intro kept rest
    cases rest with
    | cons h tl =>
      cases h with
      | iff c t f =>
        simp only [caseLoop]
        refine eval_ite env (fun hc => ?_) fun _ => eval_ite env (fun hf => ?_) fun _ => by rw [ih, appRev_cons]
        · cases kept with
          | nil => simp [appRev, eval, evalCase, alwaysTrue_truth env c hc]
          | cons k ks => rfl
        · have hne := alwaysFalse_truth env c hf
          have hdrop : eval env (.case (appRev kept (.cons (.iff c t f) tl)) dflt) = eval env (.case (appRev kept tl) dflt) := by
            simp only [eval, evalCase_appRev, evalCase_drop env c t f tl hne]
          split
          · rw [eval_wrapForParent, hdrop]
            exact eval_ite env (fun hd => by rw [hd]; rfl) fun _ => rfl
          · rw [ih, appRev_cons, hdrop]
          · exact hdrop.symm
      | _ => simp only [caseLoop]; rw [ih, appRev_cons]
    | _ => rfl

@[simp] theorem eval_wrapNotSubject (env : Env) (e : E) : eval env (wrapNotSubject e) = eval env e := by
  cases e <;> simp [wrapNotSubject, eval]

/-- COALESCE of two values: the first unless it is NULL.  An argument list is folded with it from NULL. -/
def orElse (v w : Val) : Val :=
  match v with
  | .null => w
  | v => v

theorem evalCoalesce_cons (env : Env) (h t : E) :
    evalCoalesce env (.cons h t) = orElse (eval env h) (evalCoalesce env t) := by
  rw [evalCoalesce]; cases eval env h <;> rfl
theorem orElse_null (v : Val) : orElse v .null = v := by cases v <;> rfl
theorem orElse_of_ne_null {v : Val} (h : v ≠ .null) (w : Val) : orElse v w = v := by
  cases v <;> first | rfl | exact absurd rfl h
theorem orElse_assoc (a b c : Val) : orElse (orElse a b) c = orElse a (orElse b c) := by cases a <;> rfl

theorem evalCoalesce_single (env : Env) (e : E) : evalCoalesce env (.cons e .nil) = eval env e :=
  (evalCoalesce_cons env e .nil).trans (orElse_null _)

/-- what the rewrite of a comparison with a COALESCE rests on: for a predicate `f` with truth values as results, the guarded
    pair `(NOT v IS NULL AND f v) OR (v IS NULL AND f w)` is `f` of the COALESCE of `v` and `w`, exactly (NULL, TRUE, FALSE
    distinct) -/
theorem coalesce_guard (f : Val → Val) (hf : ∀ x, ofB3 (truth (f x)) = f x) (v w : Val) :
    ofB3 (or3 (and3 (not3 (truth (isVal v .null))) (truth (f v))) (and3 (truth (isVal v .null)) (truth (f w))))
      = f (orElse v w) := by
  cases v
  · exact (congrArg ofB3 ((false_or3 _).trans (true_and3 _))).trans (hf _)
  all_goals exact (congrArg ofB3 ((or3_false _).trans (true_and3 _))).trans (hf _)

theorem splitAtConst_cons (sk : Bool) (h t pre c : E) (hs : splitAtConst sk (.cons h t) = some (pre, c)) :
    (endsCoalesce sk h = true ∧ pre = .nil ∧ c = h) ∨
    (∃ pre', splitAtConst sk t = some (pre', c) ∧ pre = .cons h pre') := by
  rw [splitAtConst] at hs
  rcases ite_cases hs with ⟨he, hs⟩ | ⟨-, hs⟩
  · cases hs; exact .inl ⟨he, rfl, rfl⟩
  · cases hsp : splitAtConst sk t with
    | none => rw [hsp] at hs; cases hs
    | some pc => rw [hsp] at hs; cases hs; exact .inr ⟨_, rfl, rfl⟩

/-- a COALESCE cut at a constant that cannot be NULL: the arguments before it, else the constant -/
theorem evalCoalesce_splitAtConst (env : Env) (sk : Bool) : ∀ (rest pre c : E), splitAtConst sk rest = some (pre, c) →
    eval env c ≠ .null → ∀ first,
      evalCoalesce env (.cons first rest) = orElse (evalCoalesce env (.cons first pre)) (eval env c) := by
  intro rest
  induction rest with
  | cons h t _ iht =>
    intro pre c hs hc first
    rcases splitAtConst_cons sk h t pre c hs with ⟨-, rfl, rfl⟩ | ⟨pre', hsp, rfl⟩
    · -- the non-NULL constant hides what follows it
      rw [evalCoalesce_cons, evalCoalesce_cons env c, orElse_of_ne_null hc, evalCoalesce_single]
    · rw [evalCoalesce_cons, evalCoalesce_cons env first, orElse_assoc]
      exact congrArg _ (iht pre' c hsp hc h)
  | _ => intro pre c hs; cases hs

/-- `evalCoalesce_splitAtConst` with `orElse` written out -/
theorem evalCoalesce_split (env : Env) (sk : Bool) : ∀ (rest pre c : E), splitAtConst sk rest = some (pre, c) → eval env c ≠ .null →
    ∀ first, evalCoalesce env (.cons first rest) =
      (match evalCoalesce env (.cons first pre) with
       | .null => eval env c
       | v => v) :=
  evalCoalesce_splitAtConst env sk

theorem splitAtConst_ends (sk : Bool) : ∀ (rest pre c : E), splitAtConst sk rest = some (pre, c) → endsCoalesce sk c = true := by
  intro rest
  induction rest with
  | cons h t _ iht =>
    intro pre c hs
    rcases splitAtConst_cons sk h t pre c hs with ⟨he, -, rfl⟩ | ⟨pre', hsp, -⟩
    · exact he
    · exact iht pre' c hsp
  | _ => intro pre c hs; cases hs

theorem endsCoalesce_ne_null (env : Env) (c : E) (h : endsCoalesce true c = true) : eval env c ≠ .null := by
  cases c with
  | int | bool => nofun
  | neg a =>
    cases a with
    | int | bool => nofun
    | _ => cases h
  | _ => cases h

end SqlglotModel.Simplify
