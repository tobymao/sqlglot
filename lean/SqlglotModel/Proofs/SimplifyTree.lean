/-
  C06 — the passes that rebuild the whole tree, distributive_law of normalize.py and propagate_constants, keep `eval env`
  (the second only where the bound columns have their constants).  Each is an induction over `E` with one clause for every
  role a subterm can have (`KeepsRoles`; `distLaw_evals`, `substAll_evals`), because lists and CASE branches are encoded
  inside `E`.
-/
import SqlglotModel.Proofs.SimplifyEval
import SqlglotModel.Proofs.List

namespace SqlglotModel.Simplify
open SqlglotModel.ThreeVL

theorem splitConn_eval (env : Env) (p : Bool) (e a b : E) (h : splitConn p e = some (a, b)) :
    eval env e = ofB3 (conn3 p (truth (eval env a)) (truth (eval env b))) := by
  cases e <;> simp [splitConn] at h
  all_goals obtain ⟨rfl, rfl, rfl⟩ := h; simp [eval, conn3]

theorem distribute_sound (us : E → E) (hus : ∀ e env, eval env (us e) = eval env e) (toAnd : Bool) (a b : E) (env : Env) :
    eval env (distribute us toAnd a b) = ofB3 (conn3 (!toAnd) (truth (eval env a)) (truth (eval env b))) := by
  unfold distribute
  cases hb : splitConn toAnd b with
  | none => simp
  | some pb =>
    obtain ⟨bl, br⟩ := pb
    have eb := splitConn_eval env toAnd b bl br hb
    have hf : ∀ c, eval env (mkConn toAnd (us (flatten1 (mkConn (!toAnd) c bl))) (us (flatten1 (mkConn (!toAnd) c br))))
        = ofB3 (conn3 (!toAnd) (truth (eval env c)) (truth (eval env b))) := by
      intro c
      simp only [eval_mkConn, hus, eval_flatten1, truth_ofB3, eb, conn3_distrib]
    simp only []
    cases ha : splitConn toAnd a with
    | none => simp only []; exact hf a
    | some pa =>
      obtain ⟨al, ar⟩ := pa
      have ea := splitConn_eval env toAnd a al ar ha
      simp only [eval_rawConn, hf, truth_ofB3, ea]
      rw [conn3_distrib_r]

theorem distTop_sound (us : E → E) (hus : ∀ e env, eval env (us e) = eval env e) (dnf : Bool) (e : E) (env : Env) :
    eval env (distTop us dnf e) = eval env e := by
  unfold distTop
  cases hs : splitConn dnf e with
  | none => rfl
  | some p =>
    obtain ⟨a0, b0⟩ := p
    have ee := splitConn_eval env dnf e a0 b0 hs
    simp only []
    -- whichever operand is distributed over the other, the result is the connector of the two unnested operands
    have hd : eval env (distribute us (!dnf) (unnest a0) (unnest b0)) = eval env e := by
      rw [distribute_sound us hus, ee, eval_unnest, eval_unnest, Bool.not_not]
    have hd' : eval env (distribute us (!dnf) (unnest b0) (unnest a0)) = eval env e := by
      rw [distribute_sound us hus, ee, eval_unnest, eval_unnest, Bool.not_not, conn3_comm]
    exact eval_ite env (fun _ => eval_ite env (fun _ => hd) fun _ => hd') fun _ =>
      eval_ite env (fun _ => hd') fun _ => eval_ite env (fun _ => hd) fun _ => rfl

/-- What the induction over a pass that rebuilds the whole tree carries: lists and CASE branches are encoded inside `E`, so
    a subterm `e` is kept in each role it can have.  `e'` is `e` rebuilt as an expression, `eL` as an IN list or as the
    arguments of a COALESCE, `eI` as the branch list of a CASE.  `e` as one branch of such a list is a clause beside this in
    `distLaw_evals` and `substAll_evals`, in two shapes: `distLawIfs` rebuilds a branch only together with the list after
    it, so there is no fifth term to state a field about.  For `e` other than a `cons` the three list evaluators return
    their defaults on both sides, and only an `iff` is looked at as a branch: the `fun _ => rfl, rfl, rfl` and `rfl` that
    end most cases of the two inductions. -/
structure KeepsRoles (env : Env) (e e' eL eI : E) : Prop where
  expr : eval env e' = eval env e
  inList : ∀ v, evalIn env v eL = evalIn env v e
  args : evalCoalesce env eL = evalCoalesce env e
  branches : evalCase env eI = evalCase env e

theorem distLaw_evals (us : E → E) (hus : ∀ e env, eval env (us e) = eval env e) (dnf : Bool) (env : Env) (e : E) :
    KeepsRoles env e (distLaw us dnf e) (distLawL us dnf e) (distLawIfs us dnf e) ∧
    ∀ r, evalCase env (distLawIfs us dnf (.cons e r)) = evalBranch env e (evalCase env (distLawIfs us dnf r)) := by
  induction e with
  | and a b iha ihb | or a b iha ihb =>
    refine ⟨⟨?_, fun _ => rfl, rfl, rfl⟩, fun _ => rfl⟩
    simp only [distLaw]
    refine eval_ite env (fun _ => rfl) fun _ => ?_
    rw [distTop_sound us hus]; simp only [eval, iha.1.expr, ihb.1.expr]
  | cons h t ihh iht =>
    exact ⟨⟨rfl, fun v => by simp only [distLawL, evalIn, ihh.1.expr, iht.1.inList v],
      by simp only [distLawL, evalCoalesce, ihh.1.expr, iht.1.args], by rw [ihh.2 t, iht.1.branches, evalCase_cons]⟩,
      fun _ => rfl⟩
  | iff c t f ihc iht ihf =>
    exact ⟨⟨by simp only [distLaw, eval, ihc.1.expr, iht.1.expr, ihf.1.expr], fun _ => rfl, rfl, rfl⟩,
      fun _ => by simp only [distLawIfs, evalCase, evalBranch, ihc.1.expr, iht.1.expr]⟩
  | not a iha | paren a iha | neg a iha | is a _ iha _ =>
    exact ⟨⟨by simp only [distLaw, eval, iha.1.expr], fun _ => rfl, rfl, rfl⟩, fun _ => rfl⟩
  | cmp _ a b iha ihb | add a b iha ihb | sub a b iha ihb | mul a b iha ihb =>
    exact ⟨⟨by simp only [distLaw, eval, iha.1.expr, ihb.1.expr], fun _ => rfl, rfl, rfl⟩, fun _ => rfl⟩
  | between a lo hi iha ihl ihh =>
    exact ⟨⟨by simp only [distLaw, eval, iha.1.expr, ihl.1.expr, ihh.1.expr], fun _ => rfl, rfl, rfl⟩, fun _ => rfl⟩
  | inList a xs iha ihx =>
    exact ⟨⟨by simp only [distLaw, eval, iha.1.expr, ihx.1.inList], fun _ => rfl, rfl, rfl⟩, fun _ => rfl⟩
  | coalesce xs ihx => exact ⟨⟨by simp only [distLaw, eval, ihx.1.args], fun _ => rfl, rfl, rfl⟩, fun _ => rfl⟩
  | case ifs d ihi ihd =>
    exact ⟨⟨by simp only [distLaw, eval, ihi.1.branches, ihd.1.expr], fun _ => rfl, rfl, rfl⟩, fun _ => rfl⟩
  | _ => exact ⟨⟨rfl, fun _ => rfl, rfl, rfl⟩, fun _ => rfl⟩

/-- `distLaw_evals` with the roles written out, and of the branch role only that condition and result of an `iff` are kept -/
theorem distLaw_all (us : E → E) (hus : ∀ e env, eval env (us e) = eval env e) (dnf : Bool) (env : Env) : ∀ e : E,
    eval env (distLaw us dnf e) = eval env e ∧
    (∀ v, evalIn env v (distLawL us dnf e) = evalIn env v e) ∧
    evalCoalesce env (distLawL us dnf e) = evalCoalesce env e ∧
    evalCase env (distLawIfs us dnf e) = evalCase env e ∧
    (∀ c t f, e = .iff c t f → eval env (distLaw us dnf c) = eval env c ∧ eval env (distLaw us dnf t) = eval env t) := by
  intro e
  have h := fun e => (distLaw_evals us hus dnf env e).1
  exact ⟨(h e).expr, (h e).inList, (h e).args, (h e).branches, fun c t _ _ => ⟨(h c).expr, (h t).expr⟩⟩

/-- the environment gives every bound column the value of its constant -/
def Agree (env : Env) (m : List (E × Int)) : Prop := ∀ c n, (c, n) ∈ m → eval env c = .i n

theorem not_agree {env : Env} {m : List (E × Int)} (h : ¬ Agree env m) : ∃ c n, (c, n) ∈ m ∧ eval env c ≠ .i n :=
  Classical.byContradiction fun hn => h fun c n hm => Classical.byContradiction fun hne => hn ⟨c, n, hm, hne⟩

theorem lookupB_mem (m : List (E × Int)) (c : E) (n : Int) (h : lookupB m c = some n) : (c, n) ∈ m :=
  mem_of_assoc (get := fun c m => lookupB m c) (fun _ => rfl) (fun _ _ _ _ => rfl) h

theorem substAll_evals (env : Env) (m : List (E × Int)) (hA : Agree env m) (e : E) :
    KeepsRoles env e (substAll m e) (substAll m e) (substAll m e) ∧ evalBranch env (substAll m e) = evalBranch env e := by
  induction e with
  | bcol k nn | icol k nn =>
    simp only [substAll]; split
    · rename_i n h; exact ⟨⟨(hA _ n (lookupB_mem m _ n h)).symm, fun _ => rfl, rfl, rfl⟩, rfl⟩
    · exact ⟨⟨rfl, fun _ => rfl, rfl, rfl⟩, rfl⟩
  | is a b iha _ =>
    simp only [substAll]; split
    · exact ⟨⟨rfl, fun _ => rfl, rfl, rfl⟩, rfl⟩
    · exact ⟨⟨by simp only [eval, iha.1.expr], fun _ => rfl, rfl, rfl⟩, rfl⟩
  | cons h t ihh iht =>
    exact ⟨⟨rfl, fun v => by simp only [substAll, evalIn, ihh.1.expr, iht.1.inList v],
      by simp only [substAll, evalCoalesce, ihh.1.expr, iht.1.args],
      by rw [substAll, evalCase_cons, evalCase_cons, ihh.2, iht.1.branches]⟩, rfl⟩
  | iff c t f ihc iht ihf =>
    exact ⟨⟨by simp only [substAll, eval, ihc.1.expr, iht.1.expr, ihf.1.expr], fun _ => rfl, rfl, rfl⟩,
      funext fun k => by simp only [substAll, evalBranch, ihc.1.expr, iht.1.expr]⟩
  | not a iha | paren a iha | neg a iha =>
    exact ⟨⟨by simp only [substAll, eval, iha.1.expr], fun _ => rfl, rfl, rfl⟩, rfl⟩
  | and a b iha ihb | or a b iha ihb | cmp _ a b iha ihb | add a b iha ihb | sub a b iha ihb | mul a b iha ihb =>
    exact ⟨⟨by simp only [substAll, eval, iha.1.expr, ihb.1.expr], fun _ => rfl, rfl, rfl⟩, rfl⟩
  | between a lo hi iha ihl ihh =>
    exact ⟨⟨by simp only [substAll, eval, iha.1.expr, ihl.1.expr, ihh.1.expr], fun _ => rfl, rfl, rfl⟩, rfl⟩
  | inList a xs iha ihx => exact ⟨⟨by simp only [substAll, eval, iha.1.expr, ihx.1.inList], fun _ => rfl, rfl, rfl⟩, rfl⟩
  | coalesce xs ihx => exact ⟨⟨by simp only [substAll, eval, ihx.1.args], fun _ => rfl, rfl, rfl⟩, rfl⟩
  | case ifs d ihi ihd => exact ⟨⟨by simp only [substAll, eval, ihi.1.branches, ihd.1.expr], fun _ => rfl, rfl, rfl⟩, rfl⟩
  | _ => exact ⟨⟨rfl, fun _ => rfl, rfl, rfl⟩, rfl⟩

/-- `substAll_evals` in the form of `distLaw_all` -/
theorem substAll_all (env : Env) (m : List (E × Int)) (hA : Agree env m) : ∀ e : E,
    eval env (substAll m e) = eval env e ∧
    (∀ v, evalIn env v (substAll m e) = evalIn env v e) ∧
    evalCoalesce env (substAll m e) = evalCoalesce env e ∧
    evalCase env (substAll m e) = evalCase env e ∧
    (∀ c t f, e = .iff c t f → eval env (substAll m c) = eval env c ∧ eval env (substAll m t) = eval env t) := by
  intro e
  have h := fun e => (substAll_evals env m hA e).1
  exact ⟨(h e).expr, (h e).inList, (h e).args, (h e).branches, fun c t _ _ => ⟨(h c).expr, (h t).expr⟩⟩

theorem substSpine_sound (env : Env) (m : List (E × Int)) (hA : Agree env m) : ∀ e, eval env (substSpine m e) = eval env e := by
  intro e
  induction e with
  | and a b iha ihb => simp only [substSpine, eval, iha, ihb]
  | paren a iha => exact iha
  | cmp op a b _ _ =>
    cases op with
    | eq =>
      cases b with
      | int n =>
        simp only [substSpine]
        exact eval_ite env (fun _ => rfl) fun _ => (substAll_evals env m hA _).1.expr
      | _ => exact (substAll_evals env m hA _).1.expr
    | _ => exact (substAll_evals env m hA _).1.expr
  | _ => exact (substAll_evals env m hA _).1.expr

/-- An integer column.  The bound columns are asked to be of this kind: a boolean column compares with a literal as 0 / 1, so
    `b = 1` being TRUE does not make `eval env b` the value `.i 1`, and `Agree` would not hold of the binding. -/
def isIcol : E → Bool
  | .icol _ _ => true
  | _ => false

theorem eq_true_icol (env : Env) (c : E) (n : Int) (hc : isIcol c = true)
    (h : truth (eval env (.cmp .eq c (.int n))) = some true) : eval env c = .i n := by
  cases c <;> simp [isIcol] at hc
  rename_i k nn
  simp only [eval] at h ⊢
  cases hk : env.i k <;> simp [hk] at h ⊢
  · cases nn <;> simp [cmpVal, toInt?, truth, Cmp.test] at h ⊢ <;> omega
  · simp [cmpVal, toInt?, truth, Cmp.test] at h; exact h

/-- induction along the AND / Paren spine down to a `column = literal` conjunct -/
theorem conjBindings_induct {P : E → Prop} {c : E} {n : Int}
    (leaf : isColumn c = true → P (.cmp .eq c (.int n)))
    (andL : ∀ a b, P a → P (.and a b)) (andR : ∀ a b, P b → P (.and a b)) (paren : ∀ a, P a → P (.paren a)) :
    ∀ e, (c, n) ∈ conjBindings e → P e := by
  intro e
  induction e with
  | and a b iha ihb =>
    intro h
    rcases List.mem_append.mp h with h | h
    · exact andL a b (iha h)
    · exact andR a b (ihb h)
  | paren a iha => exact fun h => paren a (iha h)
  | cmp op a b _ _ =>
    intro h
    cases op with
    | eq =>
      cases b with
      | int m =>
        by_cases hc : isColumn a = true
        · simp only [conjBindings, hc, if_true, List.mem_singleton, Prod.mk.injEq] at h
          obtain ⟨rfl, rfl⟩ := h
          exact leaf hc
        · simp only [conjBindings, hc] at h; cases h
      | _ => cases h
    | _ => cases h
  | _ => intro h; cases h

theorem bindings_true (env : Env) : ∀ e, truth (eval env e) = some true →
    ∀ c n, (c, n) ∈ conjBindings e → isIcol c = true → eval env c = .i n := by
  intro e h c n hm hc
  refine conjBindings_induct (P := fun e => truth (eval env e) = some true → eval env c = .i n)
    (fun _ h => eq_true_icol env c n hc h) (fun a b ih h => ih ?_) (fun a b ih h => ih ?_) (fun a ih h => ih h) e hm h
  · exact (and3_eq_true _ _ (by simpa only [eval, truth_ofB3] using h)).1
  · exact (and3_eq_true _ _ (by simpa only [eval, truth_ofB3] using h)).2

theorem conjBindings_subset (m : List (E × Int)) : ∀ e p, p ∈ conjBindings e → p ∈ conjBindings (substSpine m e) := by
  intro e ⟨c, n⟩
  refine conjBindings_induct (P := fun e => (c, n) ∈ conjBindings (substSpine m e))
    (fun hc => ?_) (fun a b ih => ?_) (fun a b ih => ?_) (fun a ih => ih) e
  · simp [substSpine, hc, conjBindings]
  · exact List.mem_append_left _ ih
  · exact List.mem_append_right _ ih

theorem binding_false (env : Env) : ∀ e c n, (c, n) ∈ conjBindings e →
    truth (eval env (.cmp .eq c (.int n))) = some false → truth (eval env e) = some false := by
  intro e c n hm h
  refine conjBindings_induct (P := fun e => truth (eval env e) = some false)
    (fun _ => h) (fun a b ih => ?_) (fun a b ih => ?_) (fun a ih => ih) e hm
  · simp only [eval, truth_ofB3, ih, false_and3]
  · simp only [eval, truth_ofB3, ih, and3_false]

theorem icol_val (env : Env) (c : E) (hc : isIcol c = true) (hn : eval env c ≠ .null) : ∃ v, eval env c = .i v := by
  cases c <;> simp [isIcol] at hc
  rename_i k nn
  simp only [eval] at hn ⊢
  cases hk : env.i k with
  | some v => exact ⟨v, rfl⟩
  | none => cases nn <;> simp [hk] at hn ⊢

theorem substSpine_where (env : Env) (e : E) (hI : ∀ c n, (c, n) ∈ conjBindings e → isIcol c = true) :
    (truth (eval env (substSpine (conjBindings e) e)) = some true ↔ truth (eval env e) = some true) := by
  constructor
  · intro h
    have hA : Agree env (conjBindings e) := fun c n hm =>
      bindings_true env _ h c n (conjBindings_subset (conjBindings e) e _ hm) (hI c n hm)
    rwa [substSpine_sound env _ hA] at h
  · intro h
    have hA : Agree env (conjBindings e) := fun c n hm => bindings_true env e h c n hm (hI c n hm)
    rwa [substSpine_sound env _ hA]

theorem substSpine_nonnull (env : Env) (a b : E) (hI : ∀ c n, (c, n) ∈ conjBindings (.and a b) → isIcol c = true)
    (hnn : ∀ c n, (c, n) ∈ conjBindings (.and a b) → eval env c ≠ .null) :
    eval env (substSpine (conjBindings (.and a b)) (.and a b)) = eval env (.and a b) := by
  by_cases hA : Agree env (conjBindings (.and a b))
  · exact substSpine_sound env _ hA _
  · -- some bound column `c` has an integer other than its constant `n`: the conjunct `c = n` is FALSE, it stands in the
    -- input and in the result (`conjBindings_subset`), so both are FALSE; both are ANDs, hence `boolish` by `rfl`
    obtain ⟨c, n, hm, hne⟩ := not_agree hA
    obtain ⟨v, hv⟩ := icol_val env c (hI c n hm) (hnn c n hm)
    have hvn : v ≠ n := fun h => hne (h ▸ hv)
    have hf : truth (eval env (.cmp .eq c (.int n))) = some false := by
      simp [eval, hv, cmpVal, toInt?, truth, Cmp.test, hvn]
    have h1 := binding_false env (.and a b) c n hm hf
    have h2 := binding_false env (substSpine (conjBindings (.and a b)) (.and a b)) c n (conjBindings_subset _ _ _ hm) hf
    rw [← boolish_val env (.and a b) rfl, ← boolish_val env (substSpine (conjBindings (.and a b)) (.and a b)) rfl, h1, h2]

theorem propagateConstants_cases (gate : Bool) (e e' : E) (h : propagateConstants gate e = some e') :
    e' = e ∨ ∃ a b, e = .and a b ∧ e' = substSpine (conjBindings e) e := by
  cases e with
  | and a b =>
    rw [propagateConstants] at h
    rcases ite_cases h with ⟨-, h⟩ | ⟨-, h⟩
    · rcases ite_cases h with ⟨-, h⟩ | ⟨-, h⟩
      · cases h
      · cases h; exact .inr ⟨a, b, rfl, rfl⟩
    · cases h; exact .inl rfl
  | _ => cases h; exact .inl rfl

end SqlglotModel.Simplify
