/-
  C04: the round trip through `_extract_string`.  The loop reads a stream of "items" (`Item`: written pieces it takes
  back as one character each) followed by the delimiter as the characters of the items (`scanL_flatMap`), given that it
  stops at that delimiter (`Closes`, `NotDoubled`); under `WF` (`wf` as propositions) the images written by `escape_str`
  are items (`img_item`), which gives the round trip (`scanL_escapeStr`).  What `identifier_sql`, `bytestring_sql` and
  `rawstring_sql` write is what `escape_str` writes (`identifierSql_eq`, `byteSql_eq`, `rawSql_eq`).  The bulk skip of
  alphanumeric runs walks through plain steps of the loop (`scan_skip`), so the loop with it is the loop without
  (`scanA_eq_scan`).  The first part (up to `scanL_flatMap`) knows nothing of `WF`: Proofs/StrFast.lean instantiates it
  under `WFFast`.  At the end stands what Properties/C04.lean takes as given: `cfgsOk` over a list of excepted positions
  (`cfgsOk_ite`), and `wf` / `wfFast` of the example pairings.
-/
import SqlglotModel.Model.Str
import SqlglotModel.Proofs.List

namespace SqlglotModel.Str

theorem unescLookup_eq_none {c : Cfg} {x p : Char}
    (h : ∀ u, lookup c.unesc (x, p) = some u → c.isEsc x = true → False) : unescLookup c x p = none := by
  unfold unescLookup
  split
  · rename_i hc
    cases hl : lookup c.unesc (x, p) with
    | none => rfl
    | some u => exact (h u hl (Bool.and_eq_true .. ▸ hc).2).elim
  · rfl

theorem unescLookup_none_of_not_esc (c : Cfg) (x p : Char) (hx : c.isEsc x = false) :
    unescLookup c x p = none :=
  unescLookup_eq_none fun _ _ he => by simp [hx] at he

theorem escCond_of_not_esc {c : Cfg} {x : Char} (h : c.isEsc x = false) (p : Char) : escCond c x p = false := by
  simp [escCond, h]

/-- a quote character escapes only itself: before any other character the loop takes it literally -/
theorem escCond_of_quote_ne {c : Cfg} {x p : Char} (hq : c.isQuote x = true) (hne : x ≠ p) : escCond c x p = false := by
  simp [escCond, hq, hne]

theorem escCond_self {c : Cfg} {x : Char} (he : c.isEsc x = true) : escCond c x x = true := by
  simp [escCond, he]

theorem scan_unesc (c : Cfg) (cur p n u : Char) (r acc : List Char)
    (h : unescLookup c cur p = some u) :
    scan c cur (p :: n :: r) acc = scan c n r (acc ++ [u]) := by
  simp [scan, h]

theorem scan_esc (c : Cfg) (cur p n : Char) (r acc : List Char)
    (h1 : unescLookup c cur p = none) (h2 : escCond c cur p = true) :
    scan c cur (p :: n :: r) acc = scan c n r (acc ++ escOut c cur p) := by
  simp [scan, h1, h2]

theorem scan_plain (c : Cfg) (cur p : Char) (r acc : List Char)
    (h1 : unescLookup c cur p = none) (h2 : escCond c cur p = false) (h3 : cur ≠ c.q) :
    scan c cur (p :: r) acc = scan c p r (acc ++ [cur]) := by
  cases r <;> simp [scan, h1, h2, h3]

theorem scan_close (c : Cfg) (p : Char) (r acc : List Char)
    (h1 : unescLookup c c.q p = none) (h2 : escCond c c.q p = false) :
    scan c c.q (p :: r) acc = .ok acc (p :: r) := by
  cases r <;> simp [scan, h1, h2]

theorem scan_close_nil (c : Cfg) (acc : List Char) (h : escCondEnd c c.q = false) :
    scan c c.q [] acc = .ok acc [] := by
  simp [scan, h]

/-- the guard of `fastPath` against a doubled delimiter: the one found is not followed by a second that it escapes -/
def NotDoubled (c : Cfg) (rest : List Char) : Prop := rest.head? ≠ some c.q ∨ c.isEsc c.q = false

theorem NotDoubled.of_head_ne {c : Cfg} {rest : List Char} (h : rest.head? ≠ some c.q) : NotDoubled c rest := .inl h

/-- what the loop needs of the tables to stop at a closing delimiter: standing on `c.q`, neither rule 1 nor the escape
    branch fires, unless the next character is `c.q` again -/
structure Closes (c : Cfg) : Prop where
  unesc_q : ∀ p, unescLookup c c.q p = none
  escCond_q : ∀ p, p ≠ c.q → escCond c c.q p = false
  end_q : escCondEnd c c.q = false

/-- `hcl` is w3 of `wf`, which `wfFast` repeats: the delimiter is a quote character (then only a second `c.q` escapes it),
    or no escape character, or the only one (then only `c.q` can follow it in the escape branch: the custom escape
    needs a backslash, `hq`) -/
theorem Closes.of_close {c : Cfg} (hq : c.q ≠ '\\')
    (hcl : c.isQuote c.q = true ∨ c.isEsc c.q = false ∨ ∀ x, c.isEsc x = true → x = c.q)
    (hu : ∀ p, unescLookup c c.q p = none) : Closes c := by
  refine ⟨hu, fun p hp => ?_, by simp [escCondEnd, hq]⟩
  rcases hcl with hc | hc | hc
  · exact escCond_of_quote_ne hc (Ne.symm hp)
  · exact escCond_of_not_esc hc p
  · cases he : c.isEsc p with
    | true => exact absurd (hc p he) hp
    | false => simp [escCond, he, hp, validCustom, hq]

theorem Closes.scanL {c : Cfg} (h : Closes c) (post acc : List Char) (hA : NotDoubled c post) :
    scanL c (c.q :: post) acc = .ok acc post := by
  cases post with
  | nil => exact scan_close_nil c acc h.end_q
  | cons p r =>
    refine scan_close c p r acc (h.unesc_q p) ?_
    rcases hA with hA | hA
    · exact h.escCond_q p (by simpa using hA)
    · exact escCond_of_not_esc hA p

/-- `Item c w ch`: the loop reads the written piece `w` back as the one character `ch` — an escape sequence, the escaped
    delimiter, or a character standing for itself (an escape character only if it is another quote character: the
    loop takes it literally unless it is doubled, and then takes both). -/
inductive Item (c : Cfg) : List Char → Char → Prop
  | seq {a b ch : Char} : unescLookup c a b = some ch → Item c [a, b] ch
  | delim {e : Char} : unescLookup c e c.q = none → escCond c e c.q = true → Item c [e, c.q] c.q
  | self {x : Char} : x ≠ c.q → (∀ p, unescLookup c x p = none) → (c.isEsc x = true → c.isQuote x = true) → Item c [x] x

theorem scan_self (c : Cfg) (x t : Char) (T acc : List Char) (hq : x ≠ c.q) (hu : unescLookup c x t = none)
    (hqu : c.isEsc x = true → c.isQuote x = true) (ht : c.isEsc x = true → t ≠ x) :
    scan c x (t :: T) acc = scan c t T (acc ++ [x]) := by
  refine scan_plain c x t T acc hu ?_ hq
  cases he : c.isEsc x with
  | false => exact escCond_of_not_esc he t
  | true => exact escCond_of_quote_ne (hqu he) (Ne.symm (ht he))

theorem scan_pair (c : Cfg) (x n : Char) (r acc : List Char) (hq : x ≠ c.q) (hu : unescLookup c x x = none)
    (he : c.isEsc x = true) : scan c x (x :: n :: r) acc = scan c n r (acc ++ [x, x]) := by
  rw [scan_esc c x x n r acc hu (escCond_self he)]
  simp [escOut, hq]

/-- Items are prefix-free where the loop needs it: a stream of items that begins with a quote character `x` standing for
    itself begins with the item `[x]`, since neither an escape sequence nor an escaped delimiter starts with `x`. -/
theorem Item.of_head {c : Cfg} {w S T : List Char} {ch x : Char} (hi : Item c w ch) (hq : x ≠ c.q)
    (hu : ∀ p, unescLookup c x p = none) (hqu : c.isQuote x = true) (hw : w ++ S = x :: T) : w = [x] ∧ ch = x := by
  cases hi with
  | seq h => simp at hw; rw [hw.1, hu] at h; cases h
  | delim _ hc => simp at hw; rw [hw.1, escCond_of_quote_ne hqu hq] at hc; cases hc
  | self => simp at hw; simp [hw.1]

/-- The loop inverts every character-wise encoding whose pieces are items.  The recursion is on the value, with calls on
    its tail and on the tail of its tail (a doubled quote character consumes two value characters in one iteration). -/
theorem scanL_flatMap (c : Cfg) (hc : Closes c) (f : Char → List Char) (rest : List Char) (hr : NotDoubled c rest) :
    ∀ (v : List Char), (∀ ch ∈ v, Item c (f ch) ch) →
      ∀ acc, scanL c (v.flatMap f ++ c.q :: rest) acc = .ok (acc ++ v) rest
  | [], _, acc => by simpa using hc.scanL rest acc hr
  | ch :: v, hi, acc => by
    have hi' : ∀ x ∈ v, Item c (f x) x := fun x hx => hi x (List.mem_cons_of_mem _ hx)
    have ihv := scanL_flatMap c hc f rest hr v hi' (acc ++ [ch])
    obtain ⟨t, T, hT⟩ := List.exists_cons_of_ne_nil (l := v.flatMap f ++ c.q :: rest) (by simp)
    rw [hT] at ihv
    rw [List.flatMap_cons, List.append_assoc, hT]
    have hch := hi ch List.mem_cons_self
    generalize f ch = w at hch
    cases hch with
    | seq h => simpa [scanL, scan_unesc c _ _ t ch T acc h] using ihv
    | delim hu he => simpa [scanL, scan_esc c _ _ t T acc hu he, escOut] using ihv
    | self hq hu hqu =>
      by_cases hd : c.isEsc ch = true ∧ t = ch
      · -- doubled in the stream: the next value character is `ch` again, and the pair is consumed at once
        obtain ⟨he, rfl⟩ := hd
        cases v with
        | nil => simp at hT; exact absurd hT.1.symm hq
        | cons ch2 v2 =>
          rw [List.flatMap_cons, List.append_assoc] at hT
          obtain ⟨hw, rfl⟩ := (hi' ch2 List.mem_cons_self).of_head hq hu (hqu he) hT
          obtain rfl : T = v2.flatMap f ++ c.q :: rest := by simpa [hw] using hT.symm
          have ih2 := scanL_flatMap c hc f rest hr v2 (fun x hx => hi' x (List.mem_cons_of_mem _ hx)) (acc ++ [ch2, ch2])
          obtain ⟨t2, T2, hT2⟩ := List.exists_cons_of_ne_nil (l := v2.flatMap f ++ c.q :: rest) (by simp)
          rw [hT2] at ih2 ⊢
          simpa [scanL, scan_pair c ch2 t2 T2 acc hq (hu ch2) he] using ih2
      · simpa [scanL, scan_self c ch t T acc hq (hu t) hqu (fun he e => hd ⟨he, e⟩)] using ihv

/-- `lookup` compares with `==` under a bare `BEq`; `assoc_eq_find?` of Proofs/List.lean is about lookups written
    `if k' = k` under decidable equality, so the induction is done here once more. -/
theorem lookup_eq_find? {α β} [BEq α] (l : List (α × β)) (a : α) : lookup l a = (l.find? (·.1 == a)).map (·.2) := by
  induction l with
  | nil => rfl
  | cons x xs ih =>
    obtain ⟨k, v⟩ := x
    simp only [lookup, List.find?_cons, ih]
    cases k == a <;> rfl

theorem lookup_mem {α β} [BEq α] [LawfulBEq α] (l : List (α × β)) (a : α) (b : β) (h : lookup l a = some b) :
    (a, b) ∈ l :=
  mem_of_find?_fst (lookup_eq_find? l a ▸ h)

theorem lookup_all {α β} [BEq α] [LawfulBEq α] (l : List (α × β)) (P : α × β → Bool)
    (h : l.all P = true) (a : α) (b : β) (hl : lookup l a = some b) : P (a, b) = true :=
  List.all_eq_true.mp h _ (lookup_mem l a b hl)

theorem lookup_none_of_all {α β} [BEq α] [LawfulBEq α] (l : List (α × β)) (P : α × β → Bool)
    (h : l.all P = true) (a : α) (hn : ∀ b, P (a, b) = false) : lookup l a = none := by
  cases hl : lookup l a with
  | none => rfl
  | some b =>
    have := lookup_all l P h a b hl
    rw [hn b] at this
    cases this

/-- `wf` as propositions, one field per conjunct of `wf` in its order (the labels are those of Model/Str.lean) -/
structure WF (c : Cfg) : Prop where
  gq_eq : c.gq = c.q
  esc1_eq : c.esc1 = c.q
  esc0_esc : c.isEsc c.esc0 = true                                                        -- w1
  esc0_q : c.esc0 = c.q ∨ c.isQuote c.esc0 = false                                        -- w2
  close : c.isQuote c.q = true ∨ c.isEsc c.q = false ∨ ∀ x, c.isEsc x = true → x = c.q    -- w3
  q_ne_bs : c.q ≠ '\\'
  seq_ok : ∀ ch a b, seqOf c ch = some (a, b) →                                           -- w4, w8
    c.isEsc a = true ∧ lookup c.unesc (a, b) = some ch ∧ a ≠ c.q ∧ b ≠ c.q ∧ c.isQuote a = false
  seq_q : seqOf c c.q = none
  esc_cls : ∀ x, c.isEsc x = true → x = c.q ∨ c.isQuote x = true ∨ (seqOf c x).isSome = true    -- w5
  unesc_ok : ∀ a b u, lookup c.unesc (a, b) = some u → a ≠ c.q ∧ c.isQuote a = false ∧ b ≠ c.q  -- w6

theorem isEsc_of_all {c : Cfg} {P : Char → Bool} (h : c.escapes.all P = true) {x : Char} (hx : c.isEsc x = true) :
    P x = true :=
  List.all_eq_true.mp h x (List.contains_iff_mem.mp hx)

theorem close_of_all {c : Cfg}
    (h : (c.isQuote c.q = true ∨ c.isEsc c.q = false) ∨ (c.escapes.all fun x => x == c.q) = true) :
    c.isQuote c.q = true ∨ c.isEsc c.q = false ∨ ∀ x, c.isEsc x = true → x = c.q :=
  h.elim (·.imp_right .inl) fun h => .inr (.inr fun _ hx => by simpa using isEsc_of_all h hx)

theorem seqOf_some {c : Cfg} {ch : Char} {ab : Char × Char} (h : seqOf c ch = some ab) :
    c.supports = true ∧ lookup c.escSeq ch = some ab := by
  unfold seqOf at h
  split at h
  · exact ⟨‹_›, h⟩
  · cases h

theorem WF.of_wf (c : Cfg) (h : wf c = true) : WF c := by
  simp only [wf, Bool.and_eq_true, Bool.or_eq_true, Bool.not_eq_true', beq_iff_eq, bne_iff_ne, ne_eq] at h
  -- `hN` is the conjunct labelled wN in Model/Str.lean
  obtain ⟨⟨⟨⟨⟨⟨⟨⟨⟨h0, h0'⟩, h1⟩, h2⟩, h3⟩, h3'⟩, h4⟩, h4'⟩, h5⟩, h6⟩ := h
  refine ⟨h0, h0', h1, h2, close_of_all h3, h3', ?_, ?_, ?_, ?_⟩
  · intro ch a b hs
    obtain ⟨hsup, hl⟩ := seqOf_some hs
    simpa [and_assoc] using lookup_all _ _ (h4.resolve_left (by simp [hsup])) ch (a, b) hl
  · cases hs : seqOf c c.q with
    | none => rfl
    | some ab =>
      obtain ⟨hsup, hl⟩ := seqOf_some hs
      simp [hsup, hl] at h4'
  · intro x hx
    simpa [or_assoc] using isEsc_of_all h5 hx
  · intro a b u hl
    simpa [and_assoc] using lookup_all _ _ h6 (a, b) u hl

theorem escapeStr_cons (c : Cfg) (ch : Char) (v : List Char) :
    escapeStr c (ch :: v) = img c ch ++ escapeStr c v :=
  rfl

theorem escapeStr_nil (c : Cfg) : escapeStr c [] = [] := rfl

theorem escQ_ne (c : Cfg) (h : WF c) (x : Char) (hx : x ≠ c.q) : escQ c x = [x] := by
  simp [escQ, h.gq_eq, hx]

theorem escQ_q (c : Cfg) (h : WF c) : escQ c c.q = [c.esc0, c.q] := by
  simp [escQ, h.gq_eq, h.esc1_eq]

theorem img_seq (c : Cfg) (h : WF c) (ch a b : Char) (hs : seqOf c ch = some (a, b)) :
    img c ch = [a, b] := by
  obtain ⟨_, _, ha, hb, _⟩ := h.seq_ok ch a b hs
  simp [img, hs, escQ_ne c h a ha, escQ_ne c h b hb]

theorem img_q (c : Cfg) (h : WF c) : img c c.q = [c.esc0, c.q] := by
  simp [img, h.seq_q, escQ_q c h]

theorem img_plain (c : Cfg) (h : WF c) (ch : Char) (hs : seqOf c ch = none) (hq : ch ≠ c.q) :
    img c ch = [ch] := by
  simp [img, hs, escQ_ne c h ch hq]

/-- under `WF` a value character is written as its escape sequence, as the escaped delimiter, or as itself -/
theorem img_cases (c : Cfg) (h : WF c) (ch : Char) :
    (∃ a b, seqOf c ch = some (a, b) ∧ img c ch = [a, b] ∧ a ≠ c.q) ∨
      (ch = c.q ∧ img c ch = [c.esc0, c.q]) ∨ (ch ≠ c.q ∧ seqOf c ch = none ∧ img c ch = [ch]) := by
  cases hs : seqOf c ch with
  | some ab => exact .inl ⟨ab.1, ab.2, rfl, img_seq c h ch ab.1 ab.2 hs, (h.seq_ok ch ab.1 ab.2 hs).2.2.1⟩
  | none =>
    by_cases hq : ch = c.q
    · exact .inr (.inl ⟨hq, hq ▸ img_q c h⟩)
    · exact .inr (.inr ⟨hq, rfl, img_plain c h ch hs hq⟩)

theorem unescLookup_none_of_quote (c : Cfg) (h : WF c) (x p : Char) (hx : c.isQuote x = true) :
    unescLookup c x p = none :=
  unescLookup_eq_none fun u hl _ => by simp [(h.unesc_ok x p u hl).2.1] at hx

theorem unescLookup_q (c : Cfg) (h : WF c) (p : Char) : unescLookup c c.q p = none :=
  unescLookup_eq_none fun u hl _ => (h.unesc_ok c.q p u hl).1 rfl

theorem unescLookup_to_q (c : Cfg) (h : WF c) (x : Char) : unescLookup c x c.q = none :=
  unescLookup_eq_none fun u hl _ => (h.unesc_ok x c.q u hl).2.2 rfl

theorem unescLookup_seq (c : Cfg) (h : WF c) (ch a b : Char) (hs : seqOf c ch = some (a, b)) :
    unescLookup c a b = some ch := by
  obtain ⟨ha, hl, _, _, _⟩ := h.seq_ok ch a b hs
  have hne : c.unesc.isEmpty = false := by
    cases hu : c.unesc with
    | nil => simp [hu, lookup] at hl
    | cons _ _ => rfl
  simp [unescLookup, ha, hl, hne]

theorem WF.toCloses {c : Cfg} (h : WF c) : Closes c := .of_close h.q_ne_bs h.close (unescLookup_q c h)

theorem img_item (c : Cfg) (h : WF c) (ch : Char) : Item c (img c ch) ch := by
  rcases img_cases c h ch with ⟨a, b, hs, hi, _⟩ | ⟨rfl, hi⟩ | ⟨hq, hs, hi⟩ <;> rw [hi]
  · exact .seq (unescLookup_seq c h ch a b hs)
  · refine .delim (unescLookup_to_q c h c.esc0) ?_
    rcases h.esc0_q with he | he
    · rw [he]
      exact escCond_self (he ▸ h.esc0_esc)
    · simp [escCond, h.esc0_esc, he]
  · have hqu : c.isEsc ch = true → c.isQuote ch = true := fun he =>
      (h.esc_cls ch he).resolve_left hq |>.resolve_right (by simp [hs])
    refine .self hq (fun p => ?_) hqu
    cases he : c.isEsc ch with
    | false => exact unescLookup_none_of_not_esc c ch p he
    | true => exact unescLookup_none_of_quote c h ch p (hqu he)

theorem scanL_escapeStr (c : Cfg) (h : WF c) (v acc rest : List Char) (hr : rest.head? ≠ some c.q) :
    scanL c (escapeStr c v ++ c.q :: rest) acc = .ok (acc ++ v) rest :=
  scanL_flatMap c h.toCloses (img c) rest (.of_head_ne hr) v (fun ch _ => img_item c h ch) acc

/-- `scanL_escapeStr` under a bound `n` on the length of the value: the shape in which the prototype of DESIGN.md
    (Appendix A) proves it, by induction on `n`; the bound is not used here. -/
theorem roundtrip_aux (c : Cfg) (h : WF c) :
    ∀ n (v : List Char), v.length ≤ n → ∀ (acc rest : List Char), rest.head? ≠ some c.q →
      scanL c (escapeStr c v ++ c.q :: rest) acc = .ok (acc ++ v) rest :=
  fun _ v _ acc rest hr => scanL_escapeStr c h v acc rest hr

theorem identifierSql_eq (c : Cfg) (hsup : c.supports = false) (v : List Char) : identifierSql c v = escapeStr c v :=
  flatMap_congr fun x _ => by simp [img, seqOf, hsup]

theorem byteSql_eq (c : Cfg) (v : List Char) (h : '\\' ∉ v) : byteSql c v = escapeStr c v :=
  flatMap_congr fun x hx => if_neg fun (e : x = '\\') => h (e ▸ hx)

theorem rawSql_eq (c : Cfg) (h : wfRaw c = true) (v : List Char) : rawSql c v = escapeStr c v := by
  simp only [wfRaw, Bool.and_eq_true] at h
  have h3 := h.2
  -- a backslash goes through `escQ` on both sides, once or twice according to `genBsEsc`
  cases hb : c.genBsEsc with
  | true =>
    have hs : seqOf c '\\' = some ('\\', '\\') := by simpa [hb] using h3
    simp only [rawSql, hb, if_true, List.flatMap_assoc]
    refine flatMap_congr fun x _ => ?_
    by_cases hx : x = '\\'
    · subst hx
      simp [imgNoBs, img, hs]
    · simp [hx, imgNoBs]
  | false =>
    have hs : seqOf c '\\' = none := by simpa [hb] using h3
    simp only [rawSql, hb, Bool.false_eq_true, if_false]
    refine flatMap_congr fun x _ => ?_
    by_cases hx : x = '\\'
    · subst hx
      simp [imgNoBs, img, hs]
    · simp [hx, imgNoBs]

theorem skipAlnum_len (isAlnum : Char → Bool) : ∀ (rest : List Char) (p : Char) (sk : List Char),
    (skipAlnum isAlnum p rest sk).2.1.length ≤ rest.length := by
  intro rest
  induction rest with
  | nil => intro p sk; simp [skipAlnum]
  | cons n r ih =>
    intro p sk
    simp only [skipAlnum]
    split
    · have := ih n (sk ++ [p]); simp; omega
    · simp

/-- the run that `_advance(alnum=True)` skips is what plain steps of the loop walk through -/
theorem scan_skip (isAlnum : Char → Bool) (c : Cfg)
    (hal : ∀ x, isAlnum x = true → c.isEsc x = false ∧ x ≠ c.q) :
    ∀ (rest : List Char) (p : Char) (sk acc : List Char) (s : Char × List Char × List Char),
      skipAlnum isAlnum p rest sk = s → scan c p rest (acc ++ sk) = scan c s.1 s.2.1 (acc ++ s.2.2) := by
  intro rest
  induction rest with
  | nil => rintro p sk acc _ rfl; rfl
  | cons n r ih =>
    rintro p sk acc _ rfl
    simp only [skipAlnum]
    split
    · rename_i h
      simp only [Bool.and_eq_true] at h
      obtain ⟨h1, h2⟩ := hal p h.1
      have hu := unescLookup_none_of_not_esc c p n h1
      rw [scan_plain c p n r (acc ++ sk) hu (escCond_of_not_esc h1 n) h2]
      simpa [List.append_assoc] using ih n (sk ++ [p]) acc _ rfl
    · rfl

theorem scanA_eq_scan (isAlnum : Char → Bool) (c : Cfg)
    (hal : ∀ x, isAlnum x = true → c.isEsc x = false ∧ x ≠ c.q) :
    ∀ (fuel : Nat) (cur : Char) (rest acc : List Char), rest.length < fuel →
      scanA isAlnum c fuel cur rest acc = scan c cur rest acc := by
  intro fuel
  induction fuel with
  | zero => intro cur rest acc h; omega
  | succ fuel ih =>
    intro cur rest acc hlen
    -- along the branches of `scan`: 9 is the plain step (the skipped run is what further plain steps walk through),
    -- 5 and 7 are the steps that consume two characters, the others return
    fun_cases scan c cur rest acc with
    | case9 cur p rest acc hu hc hq =>
      have hs := scan_skip isAlnum c hal rest p [] (acc ++ [cur]) _ rfl
      rw [List.append_nil] at hs
      have hl := skipAlnum_len isAlnum rest p []
      simp only [scanA, hu, hc, hq, if_false, hs]
      exact ih _ _ _ (by simp at hlen; omega)
    | case5 | case7 =>
      simp only [scanA, *, if_true]
      exact ih _ _ _ (by simp at hlen; omega)
    | _ => simp [scanA, *]

theorem cfgsOk_mono (p : Cfg → Bool) (l : List (Bool × Cfg)) (s : List Nat) (h : cfgsOk p l [] = true) :
    cfgsOk p l s = true := by
  simp only [cfgsOk, Bool.and_eq_true, List.all_eq_true] at h ⊢
  exact ⟨h.1, fun x hx => by simpa using Or.inr (by simpa using h.2 x hx)⟩

theorem cfgsOk_ite (p : Cfg → Bool) (l : List (Bool × Cfg)) (b : Prop) [Decidable b] (s : List Nat) :
    cfgsOk p l (if b then s else []) = (cfgsOk p l [] || (decide b && cfgsOk p l s)) := by
  by_cases hb : b
  · cases h : cfgsOk p l [] with
    | false => simp [hb]
    | true => simp [hb, cfgsOk_mono p l s h]
  · simp [hb]

theorem exMysql_wf : wf exMysql = true := by decide +kernel
theorem exBigquery_wf : wf exBigquery = true ∧ wfFast exBigquery = true := by decide +kernel
theorem exBase_wf : wf exBase = true ∧ wfFast exBase = true := by decide +kernel
theorem exBracketIdent_wf : wf exBracketIdent = true ∧ wfFast exBracketIdent = true := by decide +kernel

end SqlglotModel.Str
