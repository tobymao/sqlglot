/-
  C04: the metaclass derivation of ESCAPED_SEQUENCES from UNESCAPED_SEQUENCES yields inverse pairs.  `dictUpdate` and
  `dictMerge` keep the keys of an association list distinct (seen on the list of keys, `keysNodup_iff`), and an entry
  `ch ↦ ab` of the derived `escaped` table comes from an entry `ab ↦ ch` of `unesc` with `ch` kept (`mem_escaped`).
-/
import SqlglotModel.Model.StrDerive
import SqlglotModel.Proofs.Str

namespace SqlglotModel.Str

variable {κ ν : Type} [BEq κ] [LawfulBEq κ]

theorem isSome_lookup (l : List (κ × ν)) (a : κ) : (lookup l a).isSome = true ↔ a ∈ l.map (·.1) := by
  simp [lookup_eq_find?, List.find?_isSome]

theorem keysNodup_iff (l : List (κ × ν)) : keysNodup l = true ↔ (l.map (·.1)).Nodup := by
  induction l with
  | nil => simp [keysNodup]
  | cons x xs ih =>
    obtain ⟨k, v⟩ := x
    simp only [keysNodup, Bool.and_eq_true, Bool.not_eq_true', List.map_cons, List.nodup_cons, ih, ← isSome_lookup]
    simp

theorem keysNodup_mem_lookup (l : List (κ × ν)) (hn : keysNodup l = true) (a : κ) (b : ν) (h : (a, b) ∈ l) :
    lookup l a = some b :=
  (lookup_eq_find? l a).trans (find?_fst_of_mem ((keysNodup_iff l).mp hn) h)

theorem mem_dictUpdate (d : List (κ × ν)) (k : κ) (v : ν) (p : κ × ν) (h : p ∈ dictUpdate d k v) :
    p ∈ d ∨ p = (k, v) := by
  unfold dictUpdate at h
  split at h
  · obtain ⟨q, hq, rfl⟩ := List.mem_map.mp h
    split
    · rename_i hk
      have : q.1 = k := by simpa using hk
      right; rw [this]
    · left; exact hq
  · rcases List.mem_append.mp h with h | h
    · exact Or.inl h
    · right; simpa using h

omit [LawfulBEq κ] in
theorem keys_dictUpdate (d : List (κ × ν)) (k : κ) (v : ν) :
    (dictUpdate d k v).map (·.1) = if (lookup d k).isSome then d.map (·.1) else d.map (·.1) ++ [k] := by
  unfold dictUpdate
  split
  · rw [List.map_map]
    exact List.map_congr_left fun p _ => by simp only [Function.comp]; split <;> rfl
  · simp

theorem keysNodup_dictUpdate (d : List (κ × ν)) (k : κ) (v : ν) (h : keysNodup d = true) :
    keysNodup (dictUpdate d k v) = true := by
  rw [keysNodup_iff] at h ⊢
  rw [keys_dictUpdate]
  split
  · exact h
  · rename_i hk
    rw [isSome_lookup] at hk
    refine List.nodup_append.mpr ⟨h, by simp, fun a ha b hb e => hk ?_⟩
    rwa [← List.mem_singleton.mp hb, ← e]

theorem keysNodup_dictMerge (a b : List (κ × ν)) (h : keysNodup a = true) : keysNodup (dictMerge a b) = true :=
  List.foldlRecOn (motive := fun d : List (κ × ν) => keysNodup d = true) b _ h
    fun d hd p _ => keysNodup_dictUpdate d p.1 p.2 hd

theorem lookup_dictUpdate_ne (d : List (κ × ν)) (k k0 : κ) (v : ν) (h : (k == k0) = false) :
    lookup (dictUpdate d k v) k0 = lookup d k0 := by
  unfold dictUpdate
  split
  · -- `k` is present and overwritten in place: the entry found for `k0` has key `k0`, which the update passes over
    rw [lookup_eq_find?, lookup_eq_find?, List.find?_map,
      show ((·.1 == k0) ∘ fun p : κ × ν => if p.1 == k then (p.1, v) else p) = (·.1 == k0) from
        funext fun p => by simp only [Function.comp]; split <;> rfl]
    rw [Option.map_map]
    refine Option.map_congr fun x hx => ?_
    have hk : (x.1 == k0) = true := List.find?_some (p := fun y : κ × ν => y.1 == k0) hx
    have : (x.1 == k) = false := Bool.eq_false_iff.mpr fun hxk => by simp [← eq_of_beq hxk, hk] at h
    simp [this]
  · -- `k` is new and appended behind every entry
    simp [lookup_eq_find?, List.find?_append, h]

theorem lookup_dictMerge_absent (a b : List (κ × ν)) (k0 : κ) (h : ∀ p ∈ b, (p.1 == k0) = false) :
    lookup (dictMerge a b) k0 = lookup a k0 :=
  List.foldlRecOn (motive := fun d : List (κ × ν) => lookup d k0 = lookup a k0) b _ rfl
    fun d hd p hp => (lookup_dictUpdate_ne d p.1 k0 p.2 (h p hp)).trans hd

theorem dictInvertFrom_mem (keep : Char → Bool) (u : List (Seq2 × Char)) :
    ∀ q ∈ dictInvertFrom keep [] u, (q.2, q.1) ∈ u ∧ keep q.1 = true :=
  List.foldlRecOn (motive := fun acc : List (Char × Seq2) => ∀ q ∈ acc, (q.2, q.1) ∈ u ∧ keep q.1 = true) u _
    (fun _ hq => nomatch hq) fun acc hacc p hp q hq => by
      split at hq
      · rename_i hk
        rcases mem_dictUpdate acc p.2 p.1 q hq with h | rfl
        · exact hacc q h
        · exact ⟨hp, hk⟩
      · exact hacc q hq

theorem mem_escaped (dflt : List (Seq2 × Char)) (printable : Char → Bool) (b : EscBody) (ch : Char) (ab : Seq2)
    (h : lookup (deriveEsc dflt printable b).escaped ch = some ab) :
    (ab, ch) ∈ (deriveEsc dflt printable b).unesc ∧ keepEscaped printable ch = true :=
  dictInvertFrom_mem (keepEscaped printable) (deriveEsc dflt printable b).unesc (ch, ab) (lookup_mem _ ch ab h)

theorem keysNodup_deriveEsc (dflt : List (Seq2 × Char)) (printable : Char → Bool) (b : EscBody)
    (h1 : keysNodup dflt = true) (h2 : keysNodup b.unescBody = true) :
    keysNodup (deriveEsc dflt printable b).unesc = true := by
  simp only [deriveEsc]
  split
  · exact keysNodup_dictMerge dflt b.unescBody h1
  · exact h2

/-- The derived ESCAPED_SEQUENCES inverts the derived UNESCAPED_SEQUENCES, and so does every pair of tables that answer
    each `dict.get` as the derived ones do: the condition only looks entries up.  (The generated pairings hold their
    tables sorted by key, the derived ones are in insertion order; `tieOk` compares them with `lookupEquiv`, that is at
    the keys either table holds, and no lemma here turns that into `he` / `hu`.) -/
theorem deriveEsc_inverse (dflt : List (Seq2 × Char)) (printable : Char → Bool) (b : EscBody)
    (h1 : keysNodup dflt = true) (h2 : keysNodup b.unescBody = true) {esc : List (Char × Seq2)} {un : List (Seq2 × Char)}
    (he : ∀ k, lookup esc k = lookup (deriveEsc dflt printable b).escaped k)
    (hu : ∀ k, lookup un k = lookup (deriveEsc dflt printable b).unesc k) (ch : Char) (ab : Seq2)
    (h : lookup esc ch = some ab) : lookup un ab = some ch :=
  (hu ab).trans (keysNodup_mem_lookup _ (keysNodup_deriveEsc dflt printable b h1 h2) ab ch
    (mem_escaped dflt printable b ch ab ((he ch).symm.trans h)).1)

end SqlglotModel.Str
