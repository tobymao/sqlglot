/-
  C04: the `str.find` fast path of `_extract_string`.  Its guards (`fastPath_some`) leave, before the delimiter, only
  characters that under `wfFast` are `Item`s standing for themselves, so `scanL_flatMap` reads the text back unchanged:
  the fast path returns what the slow loop returns, and `extract` is the slow loop (`extract_eq_scanL`).
-/
import SqlglotModel.Proofs.Str

namespace SqlglotModel.Str

/-- what the proofs use of `wfFast`: its first two conjuncts as propositions, and, from the other two with the second,
    that the loop stops at a closing delimiter -/
structure WFFast (c : Cfg) : Prop where
  esc_cls : ∀ x, c.isEsc x = true → x = '\\' ∨ x = c.q ∨ c.isQuote x = true
  unesc_bs : ∀ a b u, lookup c.unesc (a, b) = some u → a = '\\'
  closes : Closes c

theorem WFFast.of_wfFast (c : Cfg) (h : wfFast c = true) : WFFast c := by
  simp only [wfFast, Bool.and_eq_true, Bool.or_eq_true, Bool.not_eq_true', bne_iff_ne, ne_eq] at h
  obtain ⟨⟨⟨h1, h2⟩, h3⟩, h4⟩ := h
  have hu : ∀ a b u, lookup c.unesc (a, b) = some u → a = '\\' := fun a b u hl => by
    simpa using lookup_all c.unesc _ h2 (a, b) u hl
  refine ⟨fun x hx => ?_, hu, .of_close h4 (close_of_all h3) fun p => unescLookup_eq_none fun u hl _ => h4 (hu c.q p u hl)⟩
  simpa [or_assoc] using isEsc_of_all h1 hx

theorem splitAt_spec (q : Char) : ∀ (s pre post : List Char), splitAt q s = some (pre, post) →
    s = pre ++ q :: post ∧ q ∉ pre := by
  intro s
  induction s with
  | nil => intro pre post h; simp [splitAt] at h
  | cons x xs ih =>
    intro pre post h
    simp only [splitAt] at h
    split at h
    · rename_i hx
      simp at h
      obtain ⟨rfl, rfl⟩ := h
      simp [hx]
    · rename_i hx
      cases hs : splitAt q xs with
      | none => simp [hs] at h
      | some ab =>
        obtain ⟨a, b⟩ := ab
        simp [hs] at h
        obtain ⟨rfl, rfl⟩ := h
        obtain ⟨h1, h2⟩ := ih a b hs
        refine ⟨by rw [h1]; simp, ?_⟩
        simp only [List.mem_cons, not_or]
        exact ⟨fun e => hx e.symm, h2⟩

theorem splitAt_append (q : Char) (v rest : List Char) (h : ∀ x ∈ v, x ≠ q) :
    splitAt q (v ++ q :: rest) = some (v, rest) := by
  induction v with
  | nil => simp [splitAt]
  | cons x v ih =>
    have hx : x ≠ q := h x List.mem_cons_self
    simp [splitAt, hx, ih (fun y hy => h y (List.mem_cons_of_mem _ hy))]

/-- the guard of `fastPath` against a backslash to process: the tokenizer has no use for one, or the text has none -/
def NoBackslashWork (c : Cfg) (t : List Char) : Prop := (c.unesc.isEmpty = true ∧ c.isEsc '\\' = false) ∨ '\\' ∉ t

/-- a character of a text that passes the guards of the fast path stands for itself -/
theorem WFFast.item {c : Cfg} (h : WFFast c) {t : List Char} (hB : NoBackslashWork c t) (x : Char) (hx : x ∈ t)
    (hq : x ≠ c.q) : Item c [x] x := by
  have hbs : c.isEsc x = true → x ≠ '\\' := by
    rintro he rfl
    rcases hB with hB | hB
    · rw [hB.2] at he; cases he
    · exact hB hx
  exact .self hq (fun p => unescLookup_eq_none fun u hl he => hbs he (h.unesc_bs x p u hl))
    fun he => ((h.esc_cls x he).resolve_left (hbs he)).resolve_left hq

theorem fastPath_some {c : Cfg} {s t r : List Char} (hf : fastPath c s = some (t, r)) :
    s = t ++ c.q :: r ∧ c.q ∉ t ∧ NotDoubled c r ∧ NoBackslashWork c t := by
  unfold fastPath at hf
  split at hf
  · cases hf
  · rename_i pre post hs
    split at hf
    · rename_i hcond
      cases hf
      obtain ⟨h1, h2⟩ := splitAt_spec c.q s t r hs
      simp only [Bool.and_eq_true, Bool.or_eq_true] at hcond
      exact ⟨h1, h2, by simpa [NotDoubled] using hcond.1.1, by simpa [NoBackslashWork] using hcond.1.2⟩
    · cases hf

/-- on a text that ends at its first delimiter the fast path, when its guards pass, splits there -/
theorem fastPath_append (c : Cfg) (v rest : List Char) (h : ∀ x ∈ v, x ≠ c.q) :
    fastPath c (v ++ c.q :: rest) = none ∨ fastPath c (v ++ c.q :: rest) = some (v, rest) := by
  unfold fastPath
  rw [splitAt_append c.q v rest h]
  simp only
  split
  · exact .inr rfl
  · exact .inl rfl

theorem scanL_of_fastPath (c : Cfg) (h : WFFast c) (s t r : List Char)
    (hf : fastPath c s = some (t, r)) : scanL c s [] = .ok t r := by
  obtain ⟨rfl, hq, hA, hB⟩ := fastPath_some hf
  simpa using scanL_flatMap c h.closes (fun x => [x]) r hA t (fun x hx => h.item hB x hx fun e => hq (e ▸ hx)) []

theorem extract_eq_scanL (c : Cfg) (h : WFFast c) (s : List Char) : extract c s = scanL c s [] := by
  unfold extract
  cases hf : fastPath c s with
  | none => rfl
  | some tr => exact (scanL_of_fastPath c h s tr.1 tr.2 hf).symm

theorem extract_escapeStr (c : Cfg) (h : WF c) (hf : WFFast c) (v rest : List Char) (hr : rest.head? ≠ some c.q) :
    extract c (escapeStr c v ++ c.q :: rest) = .ok v rest := by
  rw [extract_eq_scanL c hf]
  simpa using scanL_escapeStr c h v [] rest hr

end SqlglotModel.Str
