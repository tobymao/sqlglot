/-
  C19 — the full model (`Full` of Model/Threads.lean). importlib's module locks are `Counted` by the frames past their
  acquisition; `frameOk` stays true because `started m` is set under the lock of `m`, so loading once needs the module
  locks only. The package lock of this model is under no invariant. The plan is that of Threads.lean with the module locks
  in the place of the package lock, notion by notion: `FStep`/`Step`, `shapeOk`/`wfStack`, `MInv`/`LockInv`,
  `running`/`bodies`, `frameOk`, `FlagInv`/`RegInv`, `FResInv`/`ResInv`, `done_of_leave_single`/`registered_of_leave_single`,
  `ffinal`/`final`, `FInv`/`Inv`.
-/
import SqlglotModel.Proofs.ThreadsLock

namespace SqlglotModel.Threads

namespace Full

/-- The record of thread `t`. The invariants and the lemmas about a step are stated with it, the update equations
    `fsetT_same` / `fsetT_other` too, so that they rewrite where `FStep` and `FResInv` have it; Properties/C19 writes
    `s.threads t`, which `exact` and `simp` take for the same term (`frun_others`, which it rewrites with, is stated so). -/
abbrev Th (s : FState) (t : Tid) : Thread := s.threads t

inductive FStep (cfg : FCfg) (s : FState) (t : Tid) : FState → Prop
  | fillEarlyInc (m : Mod) (n : Nat) (hp : (Th s t).pending = some (m, n)) (he : cfg.publishEarly = true)
      (hk : (s.cache m).getD 0 < cfg.tableSize m) :
      FStep cfg s t (setT { s with cache := fun x => if x = m then some ((s.cache m).getD 0 + 1) else s.cache x } t (Th s t))
  | fillEarlyDone (m : Mod) (n : Nat) (hp : (Th s t).pending = some (m, n)) (he : cfg.publishEarly = true)
      (hk : ¬ (s.cache m).getD 0 < cfg.tableSize m) :
      FStep cfg s t (setT s t { finishOp (Th s t) (.disp m ((s.cache m).getD 0)) with pending := none })
  | fillLocalInc (m : Mod) (n : Nat) (hp : (Th s t).pending = some (m, n)) (he : cfg.publishEarly = false)
      (hk : n < cfg.tableSize m) :
      FStep cfg s t (setT s t { (Th s t) with pending := some (m, n + 1) })
  | fillLocalStore (m : Mod) (n : Nat) (hp : (Th s t).pending = some (m, n)) (he : cfg.publishEarly = false)
      (hk : ¬ n < cfg.tableSize m) :
      FStep cfg s t (setT { s with cache := fun x => if x = m then some n else s.cache x } t
        { finishOp (Th s t) (.disp m n) with pending := none })
  | accessFast (m : Mod) (rest : List Op) (hp : (Th s t).pending = none) (hst : (Th s t).stack = [])
      (ht : (Th s t).todo = .access m :: rest) (hf : cfg.fastPath = true) (hs : s.started m = true) :
      FStep cfg s t (setT s t (finishOp (Th s t) (.attr m (s.done m))))
  | accessStart (m : Mod) (rest : List Op) (hp : (Th s t).pending = none) (hst : (Th s t).stack = [])
      (ht : (Th s t).todo = .access m :: rest) (hf : (cfg.fastPath && s.started m) = false) :
      FStep cfg s t (setT s t { (Th s t) with stack := [.wantP m] })
  | lookupHit (m : Mod) (rest : List Op) (hp : (Th s t).pending = none) (hst : (Th s t).stack = [])
      (ht : (Th s t).todo = .lookup m :: rest) (hr : s.registered m = true)
      (hw : (!cfg.lookupWaits || !initializing s m) = true) :
      FStep cfg s t (setT s t (finishOp (Th s t) (.cls m true (s.confDone m) (s.done m))))
  | lookupLoad (m : Mod) (rest : List Op) (hp : (Th s t).pending = none) (hst : (Th s t).stack = [])
      (ht : (Th s t).todo = .lookup m :: rest)
      (hw : (s.registered m && (!cfg.lookupWaits || !initializing s m)) = false) :
      FStep cfg s t (setT s t { (Th s t) with stack := [.wantM m false] })
  | genHit (m : Mod) (rest : List Op) (n : Nat) (hp : (Th s t).pending = none) (hst : (Th s t).stack = [])
      (ht : (Th s t).todo = .gen m :: rest) (hc : s.cache m = some n) :
      FStep cfg s t (setT s t (finishOp (Th s t) (.disp m n)))
  | genMissEarly (m : Mod) (rest : List Op) (hp : (Th s t).pending = none) (hst : (Th s t).stack = [])
      (ht : (Th s t).todo = .gen m :: rest) (hc : s.cache m = none) (he : cfg.publishEarly = true) :
      FStep cfg s t (setT { s with cache := fun x => if x = m then some 0 else s.cache x } t
        { (Th s t) with pending := some (m, 0) })
  | genMissLocal (m : Mod) (rest : List Op) (hp : (Th s t).pending = none) (hst : (Th s t).stack = [])
      (ht : (Th s t).todo = .gen m :: rest) (hc : s.cache m = none) (he : cfg.publishEarly = false) :
      FStep cfg s t (setT s t { (Th s t) with pending := some (m, 0) })
  | acqP (m : Mod) (fs : List Frame) (lk : Option (Tid × Nat)) (hp : (Th s t).pending = none)
      (hst : (Th s t).stack = .wantP m :: fs) (ha : acquire .rlock s.pkg t = some lk) :
      FStep cfg s t (setT { s with pkg := lk } t { (Th s t) with stack := .wantM m true :: fs })
  | acqM (m : Mod) (l : Bool) (fs : List Frame) (ml : Option (Tid × Nat)) (hp : (Th s t).pending = none)
      (hst : (Th s t).stack = .wantM m l :: fs) (ha : acquire .rlock (s.mlock m) t = some ml) :
      FStep cfg s t (setT { s with mlock := fun x => if x = m then ml else s.mlock x } t
        { (Th s t) with stack := .test m l :: fs })
  | testHit (m : Mod) (l : Bool) (fs : List Frame) (hp : (Th s t).pending = none)
      (hst : (Th s t).stack = .test m l :: fs) (h : s.started m = true) :
      FStep cfg s t (setT s t { (Th s t) with stack := .leave m l :: fs })
  | testMiss (m : Mod) (l : Bool) (fs : List Frame) (hp : (Th s t).pending = none)
      (hst : (Th s t).stack = .test m l :: fs) (h : s.started m = false) :
      FStep cfg s t (setT s t { (Th s t) with stack := .load m l :: fs })
  | load (m : Mod) (l : Bool) (fs : List Frame) (hp : (Th s t).pending = none)
      (hst : (Th s t).stack = .load m l :: fs) :
      FStep cfg s t (setT { s with started := fun x => if x = m then true else s.started x,
                                   loads := fun x => if x = m then s.loads m + 1 else s.loads x } t
        { (Th s t) with stack := .body m l (cfg.body m) :: fs })
  | nestLazy (m : Mod) (l : Bool) (d : Mod) (rest : List Item) (fs : List Frame) (hp : (Th s t).pending = none)
      (hst : (Th s t).stack = .body m l (.lazy d :: rest) :: fs) :
      FStep cfg s t (setT s t { (Th s t) with stack := .wantP d :: .body m l rest :: fs })
  | nestDirect (m : Mod) (l : Bool) (d : Mod) (rest : List Item) (fs : List Frame) (hp : (Th s t).pending = none)
      (hst : (Th s t).stack = .body m l (.direct d :: rest) :: fs) :
      FStep cfg s t (setT s t { (Th s t) with stack := .wantM d false :: .body m l rest :: fs })
  | bodyEnd (m : Mod) (l : Bool) (fs : List Frame) (hp : (Th s t).pending = none)
      (hst : (Th s t).stack = .body m l [] :: fs) :
      FStep cfg s t (setT { s with registered := fun x => if x = m then (cfg.registerFirst || s.registered m) else s.registered x } t
        { (Th s t) with stack := .conf m l (cfg.cfgSteps m) :: fs })
  | confStep (m : Mod) (l : Bool) (k : Nat) (fs : List Frame) (hp : (Th s t).pending = none)
      (hst : (Th s t).stack = .conf m l (k + 1) :: fs) :
      FStep cfg s t (setT s t { (Th s t) with stack := .conf m l k :: fs })
  | confEnd (m : Mod) (l : Bool) (fs : List Frame) (hp : (Th s t).pending = none)
      (hst : (Th s t).stack = .conf m l 0 :: fs) :
      FStep cfg s t (setT { s with confDone := fun x => if x = m then true else s.confDone x,
                                   registered := fun x => if x = m then true else s.registered x } t
        { (Th s t) with stack := .fin m l :: fs })
  | fin (m : Mod) (l : Bool) (fs : List Frame) (hp : (Th s t).pending = none)
      (hst : (Th s t).stack = .fin m l :: fs) :
      FStep cfg s t (setT { s with done := fun x => if x = m then true else s.done x } t
        { (Th s t) with stack := .leave m l :: fs })
  | leaveLock (m : Mod) (fs : List Frame) (ml lk : Option (Tid × Nat)) (hp : (Th s t).pending = none)
      (hst : (Th s t).stack = .leave m true :: fs) (hm : release .rlock (s.mlock m) t = some ml)
      (hr : release .rlock s.pkg t = some lk) :
      FStep cfg s t (setT { s with mlock := fun x => if x = m then ml else s.mlock x, pkg := lk } t
        (popFrame s (Th s t) m fs))
  | leaveFree (m : Mod) (fs : List Frame) (ml : Option (Tid × Nat)) (hp : (Th s t).pending = none)
      (hst : (Th s t).stack = .leave m false :: fs) (hm : release .rlock (s.mlock m) t = some ml) :
      FStep cfg s t (setT { s with mlock := fun x => if x = m then ml else s.mlock x } t (popFrame s (Th s t) m fs))

theorem fstep_sound {cfg : FCfg} {s s' : FState} {t : Tid} (h : fstep cfg s t = some s') : FStep cfg s t s' := by
  unfold fstep at h
  split at h
  · rename_i m n hp
    cases h
    unfold stepFill
    by_cases he : cfg.publishEarly = true
    · simp only [he, if_true]
      by_cases hk : (s.cache m).getD 0 < cfg.tableSize m
      · simp only [hk, if_true]; exact .fillEarlyInc m n hp he hk
      · simp only [hk, if_false]; exact .fillEarlyDone m n hp he hk
    · have he' : cfg.publishEarly = false := by simpa using he
      simp only [he', Bool.false_eq_true, if_false]
      by_cases hk : n < cfg.tableSize m
      · simp only [hk, if_true]; exact .fillLocalInc m n hp he' hk
      · simp only [hk, if_false]; exact .fillLocalStore m n hp he' hk
  · rename_i hp
    split at h
    · rename_i hst
      unfold stepStart at h
      split at h
      · cases h
      · rename_i m rest ht
        split at h
        · rename_i hf
          cases h
          simp only [Bool.and_eq_true] at hf
          exact .accessFast m rest hp hst ht hf.1 hf.2
        · rename_i hf
          cases h
          exact .accessStart m rest hp hst ht (by simpa using hf)
      · rename_i m rest ht
        split at h
        · rename_i hf
          cases h
          simp only [Bool.and_eq_true] at hf
          exact .lookupHit m rest hp hst ht hf.1 hf.2
        · rename_i hf
          cases h
          exact .lookupLoad m rest hp hst ht (by simpa using hf)
      · rename_i m rest ht
        split at h
        · rename_i n hc
          cases h
          exact .genHit m rest n hp hst ht hc
        · rename_i hc
          split at h
          · rename_i he
            cases h
            exact .genMissEarly m rest hp hst ht hc he
          · rename_i he
            cases h
            exact .genMissLocal m rest hp hst ht hc (by simpa using he)
    · rename_i f fs hst
      cases f with
      | wantP m =>
        simp only [stepFrame] at h
        split at h
        · cases h
        · rename_i lk ha
          cases h
          exact .acqP m fs lk hp hst ha
      | wantM m l =>
        simp only [stepFrame] at h
        split at h
        · cases h
        · rename_i ml ha
          cases h
          exact .acqM m l fs ml hp hst ha
      | test m l =>
        simp only [stepFrame] at h
        split at h
        · rename_i hs
          cases h
          exact .testHit m l fs hp hst hs
        · rename_i hs
          cases h
          exact .testMiss m l fs hp hst (by simpa using hs)
      | load m l =>
        cases h
        exact .load m l fs hp hst
      | body m l rest =>
        cases h
        unfold stepBody
        split
        · exact .bodyEnd m l fs hp hst
        · exact .nestLazy m l _ _ fs hp hst
        · exact .nestDirect m l _ _ fs hp hst
      | conf m l k =>
        cases k with
        | zero =>
          cases h
          exact .confEnd m l fs hp hst
        | succ k =>
          cases h
          exact .confStep m l k fs hp hst
      | fin m l =>
        cases h
        exact .fin m l fs hp hst
      | leave m l =>
        simp only [stepFrame] at h
        unfold stepLeave at h
        split at h
        · cases h
        · rename_i ml hm
          cases l with
          | true =>
            simp only [if_true] at h
            split at h
            · cases h
            · rename_i lk hr
              cases h
              exact .leaveLock m fs ml lk hp hst hm hr
          | false =>
            simp only [Bool.false_eq_true, if_false, Option.some.injEq] at h; subst h
            exact .leaveFree m fs ml hp hst hm


@[simp] theorem fsetT_same (s : FState) (t : Tid) (th : Thread) : Th (setT s t th) t = th := if_pos rfl
theorem fsetT_other (s : FState) (t : Tid) (th : Thread) (u : Tid) (h : u ≠ t) :
    Th (setT s t th) u = Th s u := if_neg h
@[simp] theorem fsetT_pkg (s : FState) (t : Tid) (th : Thread) : (setT s t th).pkg = s.pkg := rfl
@[simp] theorem fsetT_mlock (s : FState) (t : Tid) (th : Thread) : (setT s t th).mlock = s.mlock := rfl
@[simp] theorem fsetT_started (s : FState) (t : Tid) (th : Thread) : (setT s t th).started = s.started := rfl
@[simp] theorem fsetT_done (s : FState) (t : Tid) (th : Thread) : (setT s t th).done = s.done := rfl
@[simp] theorem fsetT_registered (s : FState) (t : Tid) (th : Thread) : (setT s t th).registered = s.registered := rfl
@[simp] theorem fsetT_confDone (s : FState) (t : Tid) (th : Thread) : (setT s t th).confDone = s.confDone := rfl
@[simp] theorem fsetT_loads (s : FState) (t : Tid) (th : Thread) : (setT s t th).loads = s.loads := rfl
@[simp] theorem fsetT_cache (s : FState) (t : Tid) (th : Thread) : (setT s t th).cache = s.cache := rfl

@[simp] theorem finishOp_stack (th : Thread) (r : Res) : (finishOp th r).stack = th.stack := rfl
@[simp] theorem finishOp_pending (th : Thread) (r : Res) : (finishOp th r).pending = th.pending := rfl
@[simp] theorem fpopFrame_stack (s : FState) (th : Thread) (m : Mod) (fs : List Frame) :
    (popFrame s th m fs).stack = fs := by cases fs <;> rfl
@[simp] theorem fpopFrame_pending (s : FState) (th : Thread) (m : Mod) (fs : List Frame) :
    (popFrame s th m fs).pending = th.pending := by cases fs <;> rfl

theorem FStep.others {cfg : FCfg} {s s' : FState} {t : Tid} (h : FStep cfg s t s') (u : Tid) (hu : u ≠ t) :
    Th s' u = Th s u := by
  cases h <;> exact fsetT_other _ _ _ _ hu

/-- the levels of the lock of `m` that the frames of this stack account for -/
def mheld (st : List Frame) (m : Mod) : Nat := st.countP (fun f => f.holdsMod == some m)

/-- Everything below the top frame is a module body. `wfStack` of the package-lock model says in addition that the
    outermost frame waits for the lock or holds it, which is what turns `critical` into `0 < held` there; here exclusion
    is stated on `0 < mheld` itself (`MInv.mutex`, reached through `mheld_pos`), so that clause has no counterpart. -/
def shapeOk : List Frame → Bool
  | [] => true
  | _ :: rest => rest.all Frame.isBody

/-- every module lock is `Counted` by `mheld`; the package lock appears nowhere -/
structure MInv (s : FState) : Prop where
  lock : ∀ m, Counted (s.mlock m) fun t => mheld (Th s t).stack m
  shape : ∀ t, shapeOk (Th s t).stack = true

theorem mheld_cons (f : Frame) (fs : List Frame) (m : Mod) :
    mheld (f :: fs) m = mheld fs m + if f.holdsMod = some m then 1 else 0 := by
  simp [mheld, List.countP_cons]

theorem mheld_pos {st : List Frame} {f : Frame} {m : Mod} (hf : f ∈ st) (hm : f.holdsMod = some m) :
    0 < mheld st m :=
  List.countP_pos_iff.mpr ⟨f, hf, by simp [hm]⟩

theorem MInv.mutex {s : FState} (h : MInv s) {t u : Tid} {m : Mod} (ht : 0 < mheld (Th s t).stack m)
    (hu : 0 < mheld (Th s u).stack m) : t = u :=
  (h.lock m).mutex ht hu

theorem shape_pop {f : Frame} {fs : List Frame} (h : shapeOk (f :: fs) = true) : shapeOk fs = true := by
  cases fs with
  | nil => rfl
  | cons g rest =>
    simp only [shapeOk, List.all_cons, Bool.and_eq_true] at h
    exact h.2

theorem shape_push {b b' n : Frame} {fs : List Frame} (h : shapeOk (b :: fs) = true) (hb : b'.isBody = true) :
    shapeOk (n :: b' :: fs) = true := by
  simp only [shapeOk, List.all_cons, Bool.and_eq_true] at h ⊢
  exact ⟨hb, h⟩

theorem MInv.of_setT {s s1 : FState} {t : Tid} {th : Thread} (h : MInv s) (e0 : Th s1 = Th s)
    (hl : ∀ m, Moves t (s.mlock m) (mheld (Th s t).stack m) (s1.mlock m) (mheld th.stack m))
    (hsh : shapeOk th.stack = true) : MInv (setT s1 t th) := by
  refine ⟨fun m => (h.lock m).move (fun u hu => by rw [fsetT_other _ _ _ _ hu, e0]) ?_,
    forall_split (t := t) (by rw [fsetT_same]; exact hsh) fun u hu => by
      rw [fsetT_other _ _ _ _ hu, e0]; exact h.shape u⟩
  simp only [fsetT_same]; exact hl m

theorem MInv.step {cfg : FCfg} {s s' : FState} {t : Tid} (h : MInv s) (hs : FStep cfg s t s') : MInv s' := by
  have hw := h.shape t
  have keep : ∀ {s1 : FState} {th : Thread}, Th s1 = Th s → s1.mlock = s.mlock →
      (∀ m, mheld th.stack m = mheld (Th s t).stack m) → shapeOk th.stack = true → MInv (setT s1 t th) :=
    fun e0 e1 e2 e3 => h.of_setT e0 (fun m => .keep (by rw [e1]) (e2 m)) e3
  cases hs with
  | fillEarlyInc | fillEarlyDone | fillLocalInc | fillLocalStore | accessFast | lookupHit | genHit | genMissEarly
  | genMissLocal => exact keep rfl rfl (fun _ => rfl) hw
  | accessStart m rest hp hst | lookupLoad m rest hp hst => exact keep rfl rfl (fun _ => by rw [hst]; rfl) rfl
  -- the new top frame holds the module lock the old one held
  | acqP m fs lk hp hst | testHit m l fs hp hst | testMiss m l fs hp hst | load m l fs hp hst | bodyEnd m l fs hp hst
  | confStep m l k fs hp hst | confEnd m l fs hp hst | fin m l fs hp hst =>
    rw [hst] at hw; exact keep rfl rfl (fun _ => by rw [hst]; rfl) hw
  | nestLazy m l d rest fs hp hst | nestDirect m l d rest fs hp hst =>
    rw [hst] at hw; exact keep rfl rfl (fun _ => by rw [hst]; rfl) (shape_push hw rfl)
  -- the lock of `m` moves by one level, together with the one frame of `t` that accounts for that level
  | acqM m l fs ml hp hst ha =>
    rw [hst] at hw
    refine h.of_setT rfl (fun x => ?_) hw
    rw [hst]
    by_cases hx : x = m
    · subst hx
      exact .acq (by simpa using ha) (by simp [mheld_cons, Frame.holdsMod, Frame.mod])
    · exact .keep (if_neg hx) (by simp [mheld_cons, Frame.holdsMod, Frame.mod, Ne.symm hx])
  | leaveLock m fs ml lk hp hst hm | leaveFree m fs ml hp hst hm =>
    rw [hst] at hw
    refine h.of_setT rfl (fun x => ?_) (by rw [fpopFrame_stack]; exact shape_pop hw)
    rw [fpopFrame_stack, hst]
    by_cases hx : x = m
    · subst hx
      exact .rel (by simpa using hm) (by simp [mheld_cons, Frame.holdsMod, Frame.mod])
    · exact .keep (if_neg hx) (by simp [mheld_cons, Frame.holdsMod, Frame.mod, Ne.symm hx])


/-- the modules whose body is running in a frame of this stack (started, not done) -/
def running (st : List Frame) : List Mod := st.filterMap Frame.inProgress

/-- what a thread knows about the flags at a frame: about to load, it has seen the miss; past the test the module is in
    sys.modules; the class of a `fin` frame is configured -/
def frameOk (s : FState) : Frame → Prop
  | .load m _ => s.started m = false
  | .body m _ _ | .conf m _ _ | .leave m _ => s.started m = true
  | .fin m _ => s.started m = true ∧ s.confDone m = true
  | _ => True

/-- The flags of a module are set in the order `started` (`load`), with `registerFirst` already `registered` (`bodyEnd`),
    `confDone` together with `registered` (`confEnd`), `done` (`fin`); `loads` counts the settings of `started`. -/
structure FlagOrder (cfg : FCfg) (s : FState) : Prop where
  loads : ∀ m, s.loads m = if s.started m = true then 1 else 0
  /-- a module body that has finished has configured its class -/
  d2c : ∀ m, s.done m = true → s.confDone m = true
  /-- a configured class is in the registry -/
  c2r : ∀ m, s.confDone m = true → s.registered m = true
  /-- a class in the registry belongs to a module that is in `sys.modules` -/
  r2s : ∀ m, s.registered m = true → s.started m = true
  /-- where `__new__` stores the class last, a class in the registry is configured -/
  regLast : cfg.registerFirst = false → ∀ m, s.registered m = true → s.confDone m = true

structure FlagInv (cfg : FCfg) (s : FState) : Prop extends FlagOrder cfg s where
  prog : ∀ m, s.started m = true → s.done m = true ∨ ∃ t, m ∈ running (Th s t).stack
  fr : ∀ t f, f ∈ (Th s t).stack → frameOk s f

/-- An implication `f x → g x` between two flags survives the setting of `g` at `m` … -/
theorem imp_set_right {f g : Mod → Bool} (m : Mod) (h : ∀ x, f x = true → g x = true) (x : Mod) (hx : f x = true) :
    (if x = m then true else g x) = true := by
  split
  · rfl
  · exact h x hx

/-- … and a write to `f` at `m` when `g m` holds. -/
theorem imp_set_left {f g : Mod → Bool} {m : Mod} {b : Bool} (hm : g m = true) (h : ∀ x, f x = true → g x = true)
    (x : Mod) (hx : (if x = m then b else f x) = true) : g x = true :=
  if e : x = m then e ▸ hm else h x ((if_neg e).symm.trans hx)

/-- one case analysis for the four flags; read through the four lemmas that follow -/
theorem FStep.flags_mono {cfg : FCfg} {s s' : FState} {t : Tid} (hs : FStep cfg s t s') (x : Mod) :
    (s.started x = true → s'.started x = true) ∧ (s.done x = true → s'.done x = true) ∧
    (s.confDone x = true → s'.confDone x = true) ∧ (s.registered x = true → s'.registered x = true) := by
  have set : ∀ {f : Mod → Bool} {m : Mod}, f x = true → (if x = m then true else f x) = true :=
    fun h => by split; rfl; exact h
  cases hs with
  | load => exact ⟨set, id, id, id⟩
  | bodyEnd m l fs hp hst =>
    refine ⟨id, id, id, fun h => ?_⟩
    simp only [fsetT_registered]
    split
    · rename_i e; subst e; rw [h, Bool.or_true]
    · exact h
  | confEnd => exact ⟨id, id, set, set⟩
  | fin => exact ⟨id, set, id, id⟩
  | _ => exact ⟨id, id, id, id⟩

theorem FStep.started_mono {cfg : FCfg} {s s' : FState} {t : Tid} (hs : FStep cfg s t s') (x : Mod)
    (h : s.started x = true) : s'.started x = true := (hs.flags_mono x).1 h

theorem FStep.done_mono {cfg : FCfg} {s s' : FState} {t : Tid} (hs : FStep cfg s t s') (x : Mod)
    (h : s.done x = true) : s'.done x = true := (hs.flags_mono x).2.1 h

theorem FStep.confDone_mono {cfg : FCfg} {s s' : FState} {t : Tid} (hs : FStep cfg s t s') (x : Mod)
    (h : s.confDone x = true) : s'.confDone x = true := (hs.flags_mono x).2.2.1 h

theorem FStep.registered_mono {cfg : FCfg} {s s' : FState} {t : Tid} (hs : FStep cfg s t s') (x : Mod)
    (h : s.registered x = true) : s'.registered x = true := (hs.flags_mono x).2.2.2 h

theorem FStep.running_or_done {cfg : FCfg} {s s' : FState} {t : Tid} (hs : FStep cfg s t s') (u : Tid) (x : Mod)
    (hb : x ∈ running (Th s u).stack) : x ∈ running (Th s' u).stack ∨ s'.done x = true := by
  by_cases hut : u = t
  · subst hut
    cases hs with
    | fillEarlyInc | fillEarlyDone | fillLocalInc | fillLocalStore | accessFast | lookupHit | genHit | genMissEarly
    | genMissLocal => exact Or.inl (by rw [fsetT_same]; exact hb)
    | accessStart m rest hp hst | lookupLoad m rest hp hst => rw [hst] at hb; cases hb
    | acqP m fs lk hp hst | acqM m l fs ml hp hst | testHit m l fs hp hst | testMiss m l fs hp hst
    | nestLazy m l d rest fs hp hst | nestDirect m l d rest fs hp hst | bodyEnd m l fs hp hst | confStep m l k fs hp hst
    | confEnd m l fs hp hst =>
      rw [hst] at hb; exact Or.inl (by rw [fsetT_same]; exact hb)
    | leaveLock m fs ml lk hp hst | leaveFree m fs ml hp hst =>
      rw [hst] at hb; exact Or.inl (by rw [fsetT_same, fpopFrame_stack]; exact hb)
    | load m l fs hp hst =>
      rw [hst] at hb; exact Or.inl (by rw [fsetT_same]; exact List.mem_cons_of_mem _ hb)
    | fin m l fs hp hst =>
      rw [hst] at hb
      rcases List.mem_cons.mp hb with rfl | hb
      · exact Or.inr (by simp)
      · exact Or.inl (by rw [fsetT_same]; exact hb)
  · exact Or.inl (by rw [hs.others u hut]; exact hb)

theorem FStep.started_new {cfg : FCfg} {s s' : FState} {t : Tid} (hs : FStep cfg s t s') (x : Mod)
    (h : s'.started x = true) : s.started x = true ∨ x ∈ running (Th s' t).stack := by
  cases hs with
  | load m l fs hp hst =>
    by_cases hx : x = m
    · subst hx; exact Or.inr (by rw [fsetT_same]; exact List.mem_cons_self)
    · rw [fsetT_started] at h; simp only [if_neg hx] at h; exact Or.inl h
  | _ => exact Or.inl h

/-- What a frame knows stays true. Flags are only ever set; and `started m` is set by a thread that holds the lock of `m`,
    so no other thread is about to load `m`, and below its own top frame there are only module bodies. -/
theorem FStep.frameOk_keep {cfg : FCfg} {s s' : FState} {t : Tid} (hM : MInv s) (hs : FStep cfg s t s') {v : Tid}
    {g : Frame} (hg : g ∈ (Th s v).stack) (hv : v ≠ t ∨ g.isBody = true) (h : frameOk s g) : frameOk s' g := by
  cases g with
  | body m | conf m | leave m => exact hs.started_mono m h
  | fin m => exact ⟨hs.started_mono m h.1, hs.confDone_mono m h.2⟩
  | load m' l' =>
    cases hs with
    | load m l fs hp hst =>
      rcases hv with hv | hv
      · have hx : m' ≠ m := fun e => hv (hM.mutex (mheld_pos hg rfl)
          (mheld_pos (f := .load m l) (hst ▸ List.mem_cons_self) (by rw [e]; rfl)))
        exact (if_neg hx).trans h
      · cases hv
    | _ => exact h
  | _ => trivial

theorem FlagInv.step {cfg : FCfg} {s s' : FState} {t : Tid} (hM : MInv s) (h : FlagInv cfg s) (hs : FStep cfg s t s') :
    FlagInv cfg s' := by
  have hfrt := h.fr t
  have old : ∀ {g : Frame} {fs : List Frame}, (Th s t).stack = g :: fs → frameOk s g :=
    fun hst => hfrt _ (hst ▸ List.mem_cons_self)
  -- only `load`, `bodyEnd`, `confEnd` and `fin` write a flag
  have flags : FlagOrder cfg s' := by
    cases hs with
    | load m l fs hp hst =>
      exact ⟨loads_bump h.loads (old hst), h.d2c, h.c2r, imp_set_right m h.r2s,
        h.regLast⟩
    | bodyEnd m l fs hp hst =>
      -- `registered m` becomes `registerFirst || registered m`, which need not be `true`: `c2r` and `regLast` are read
      -- at `m` by hand
      have hm : s.started m = true := old hst
      refine ⟨h.loads, h.d2c, forall_split (fun hx => ?_) (fun x e hx => (if_neg e).trans (h.c2r x hx)),
        imp_set_left hm h.r2s,
        fun hrf => forall_split (fun hx => ?_) (fun x e hx => h.regLast hrf x ((if_neg e).symm.trans hx))⟩
      · exact (if_pos rfl).trans (by rw [h.c2r m hx, Bool.or_true])
      · have hx : (cfg.registerFirst || s.registered m) = true := (if_pos rfl).symm.trans hx
        rw [hrf, Bool.false_or] at hx
        exact h.regLast hrf m hx
    | confEnd m l fs hp hst =>
      have hm : s.started m = true := old hst
      exact ⟨h.loads, imp_set_right m h.d2c, imp_set_left (if_pos rfl) (imp_set_right m h.c2r), imp_set_left hm h.r2s,
        fun hrf => imp_set_left (if_pos rfl) (imp_set_right m (h.regLast hrf))⟩
    | fin m l fs hp hst =>
      exact ⟨h.loads, imp_set_left (old hst).2 h.d2c, h.c2r, h.r2s,
        h.regLast⟩
    | _ => exact ⟨h.loads, h.d2c, h.c2r, h.r2s, h.regLast⟩
  refine ⟨flags, ?_, ?_⟩
  · intro x hx
    rcases hs.started_new x hx with h0 | h0
    · rcases h.prog x h0 with h1 | ⟨u, h1⟩
      · exact Or.inl (hs.done_mono x h1)
      · rcases hs.running_or_done u x h1 with h2 | h2
        · exact Or.inr ⟨u, h2⟩
        · exact Or.inl h2
    · exact Or.inr ⟨t, h0⟩
  · intro u
    by_cases hut : u = t
    · subst hut
      have hw := hM.shape u
      -- the frames under the top frame stay; each case says what the new top frame knows
      have top : ∀ {g g' : Frame} {fs : List Frame}, (Th s u).stack = g :: fs → frameOk s' g' →
          ∀ f ∈ g' :: fs, frameOk s' f := by
        intro g g' fs hst hg'
        rw [hst] at hw hfrt
        exact List.forall_mem_cons.mpr ⟨hg', fun f hf => hs.frameOk_keep hM (hst ▸ List.mem_cons_of_mem _ hf)
          (Or.inr (List.all_eq_true.mp hw f hf)) (hfrt f (List.mem_cons_of_mem _ hf))⟩
      cases hs with
      | fillEarlyInc | fillEarlyDone | fillLocalInc | fillLocalStore | accessFast | lookupHit | genHit | genMissEarly
      | genMissLocal => rw [fsetT_same]; exact hfrt
      | accessStart | lookupLoad => rw [fsetT_same]; exact List.forall_mem_cons.mpr ⟨trivial, nofun⟩
      | acqP m fs lk hp hst | acqM m l fs ml hp hst => rw [fsetT_same]; exact top hst trivial
      | testHit m l fs hp hst hstart | testMiss m l fs hp hst hstart => rw [fsetT_same]; exact top hst hstart
      | load m l fs hp hst => rw [fsetT_same]; exact top hst (if_pos rfl)
      -- the new top frame belongs to the module of the old one, which was past the test already
      | bodyEnd m l fs hp hst | confStep m l k fs hp hst => rw [fsetT_same]; exact top hst (old hst)
      | confEnd m l fs hp hst => rw [fsetT_same]; exact top hst ⟨old hst, if_pos rfl⟩
      | fin m l fs hp hst => rw [fsetT_same]; exact top hst (old hst).1
      | nestLazy m l d rest fs hp hst | nestDirect m l d rest fs hp hst =>
        rw [fsetT_same]; exact List.forall_mem_cons.mpr ⟨trivial, top hst (old hst)⟩
      | leaveLock m fs ml lk hp hst | leaveFree m fs ml hp hst =>
        rw [fsetT_same, fpopFrame_stack]; exact (List.forall_mem_cons.mp (top (g' := .wantP m) hst trivial)).2
    · rw [hs.others u hut]
      exact fun f hf => hs.frameOk_keep hM hf (Or.inl hut) (h.fr u f hf)


/-- the module of the outermost frame: the one the `access` or `lookup` in flight asked for -/
def botMod : List Frame → Option Mod
  | [] => none
  | [f] => some f.mod
  | _ :: g :: rest => botMod (g :: rest)

theorem botMod_top {f f' : Frame} (fs : List Frame) (h : f'.mod = f.mod) : botMod (f' :: fs) = botMod (f :: fs) := by
  cases fs with
  | nil => simp [botMod, h]
  | cons g rest => rfl

structure FResInv (cfg : FCfg) (s : FState) : Prop where
  cacheOk : cfg.publishEarly = false → ∀ m n, s.cache m = some n → n = cfg.tableSize m
  pendLe : cfg.publishEarly = false → ∀ t m n, (Th s t).pending = some (m, n) → n ≤ cfg.tableSize m
  bottom : ∀ t m, botMod (Th s t).stack = some m →
    ∃ rest, (Th s t).todo = .access m :: rest ∨ (Th s t).todo = .lookup m :: rest
  pend : ∀ t m n, (Th s t).pending = some (m, n) → ∃ rest, (Th s t).todo = .gen m :: rest

theorem FResInv.step {cfg : FCfg} {s s' : FState} {t : Tid} (h : FResInv cfg s) (hs : FStep cfg s t s') :
    FResInv cfg s' := by
  have hbt := h.bottom t
  have upd : ∀ {s1 : FState} {th : Thread}, Th s1 = Th s →
      (cfg.publishEarly = false → ∀ m n, s1.cache m = some n → n = cfg.tableSize m) →
      (∀ m n, th.pending = some (m, n) →
        (cfg.publishEarly = false → n ≤ cfg.tableSize m) ∧ ∃ rest, th.todo = .gen m :: rest) →
      (∀ m, botMod th.stack = some m → ∃ rest, th.todo = .access m :: rest ∨ th.todo = .lookup m :: rest) →
      FResInv cfg (setT s1 t th) := by
    intro s1 th e0 hc hpend hbot
    refine ⟨hc, fun hpe => forall_split (t := t) ?_ fun u hu => ?_, forall_split (t := t) ?_ fun u hu => ?_,
      forall_split (t := t) ?_ fun u hu => ?_⟩
    · rw [fsetT_same]; exact fun m n hx => (hpend m n hx).1 hpe
    · rw [fsetT_other _ _ _ _ hu, e0]; exact h.pendLe hpe u
    · rw [fsetT_same]; exact hbot
    · rw [fsetT_other _ _ _ _ hu, e0]; exact h.bottom u
    · rw [fsetT_same]; exact fun m n hx => (hpend m n hx).2
    · rw [fsetT_other _ _ _ _ hu, e0]; exact h.pend u
  have pend : ∀ m n, (Th s t).pending = some (m, n) →
      (cfg.publishEarly = false → n ≤ cfg.tableSize m) ∧ ∃ rest, (Th s t).todo = .gen m :: rest :=
    fun m n hx => ⟨fun hpe => h.pendLe hpe t m n hx, h.pend t m n hx⟩
  -- a fill belongs to a `gen`, a bottom frame to an `access` or a `lookup`
  have noBot : ∀ {m : Mod} {n : Nat} {p : Prop}, (Th s t).pending = some (m, n) →
      ∀ x, botMod (Th s t).stack = some x → p := by
    intro m n p hp x hx
    obtain ⟨r1, h1⟩ := hbt x hx
    obtain ⟨r2, h2⟩ := h.pend t m n hp
    rcases h1 with h1 | h1 <;> (rw [h1] at h2; cases h2)
  -- the bottom frame stays, and with it the call in flight
  have keep : ∀ {g : Frame} {fs st : List Frame} {x : Mod}, (Th s t).stack = g :: fs → botMod st = some x →
      botMod st = botMod (g :: fs) → ∃ rest, (Th s t).todo = .access x :: rest ∨ (Th s t).todo = .lookup x :: rest :=
    @fun _ _ _ x hst hx e => hbt x (by rw [hst, ← e]; exact hx)
  cases hs with
  | fillEarlyInc m n hp he => exact upd rfl (fun hpe => nomatch he.symm.trans hpe) pend hbt
  | fillEarlyDone m n hp => exact upd rfl h.cacheOk nofun (fun x hx => noBot hp x hx)
  | fillLocalInc m n hp he hk =>
    exact upd rfl h.cacheOk (fun _ _ hx => by cases hx; exact ⟨fun _ => hk, h.pend t m n hp⟩) hbt
  | fillLocalStore m n hp he hk =>
    refine upd rfl (fun hpe x v hx => ?_) nofun (fun x hx => noBot hp x hx)
    dsimp only at hx
    split at hx
    · rename_i e; subst e
      cases hx
      have := h.pendLe hpe t x n hp
      omega
    · exact h.cacheOk hpe x v hx
  | accessFast m rest hp hst | lookupHit m rest hp hst | genHit m rest n hp hst =>
    exact upd rfl h.cacheOk (fun _ _ hx => nomatch hp.symm.trans hx)
      (fun x hx => by rw [finishOp_stack, hst] at hx; cases hx)
  | accessStart m rest hp hst ht =>
    exact upd rfl h.cacheOk (fun _ _ hx => nomatch hp.symm.trans hx) (fun x hx => by cases hx; exact ⟨rest, Or.inl ht⟩)
  | lookupLoad m rest hp hst ht =>
    exact upd rfl h.cacheOk (fun _ _ hx => nomatch hp.symm.trans hx) (fun x hx => by cases hx; exact ⟨rest, Or.inr ht⟩)
  | genMissEarly m rest hp hst ht hc he =>
    exact upd rfl (fun hpe => nomatch he.symm.trans hpe)
      (fun _ _ hx => by cases hx; exact ⟨fun _ => Nat.zero_le _, rest, ht⟩) hbt
  | genMissLocal m rest hp hst ht =>
    exact upd rfl h.cacheOk (fun _ _ hx => by cases hx; exact ⟨fun _ => Nat.zero_le _, rest, ht⟩) hbt
  | acqP m fs lk hp hst | acqM m l fs ml hp hst | testHit m l fs hp hst | testMiss m l fs hp hst | load m l fs hp hst
  | bodyEnd m l fs hp hst | confStep m l k fs hp hst | confEnd m l fs hp hst | fin m l fs hp hst
  | nestLazy m l d rest fs hp hst | nestDirect m l d rest fs hp hst =>
    exact upd rfl h.cacheOk (fun _ _ hx => nomatch hp.symm.trans hx) (fun x hx => keep hst hx (botMod_top fs rfl))
  | leaveLock m fs ml lk hp hst | leaveFree m fs ml hp hst =>
    refine upd rfl h.cacheOk (fun _ _ hx => by rw [fpopFrame_pending, hp] at hx; cases hx) (fun x hx => ?_)
    cases fs with
    | nil => cases hx
    | cons g rest => exact keep hst hx rfl


theorem holdsMod_of_inProgress {f : Frame} {m : Mod} (h : f.inProgress = some m) : f.holdsMod = some m := by
  cases f with
  | body | conf | fin => exact h
  | _ => cases h

theorem done_of_leave_single {cfg : FCfg} {s : FState} {t : Tid} {m : Mod} {l : Bool} (hM : MInv s)
    (hF : FlagInv cfg s) (hst : (Th s t).stack = [.leave m l]) : s.done m = true := by
  have hmem : Frame.leave m l ∈ (Th s t).stack := hst ▸ List.mem_cons_self
  rcases hF.prog m (hF.fr t _ hmem) with h | ⟨u, hu⟩
  · exact h
  · -- whoever runs the body holds the lock of `m`, as `t` does
    obtain ⟨f, hf, hp⟩ := List.mem_filterMap.mp hu
    cases hM.mutex (mheld_pos hf (holdsMod_of_inProgress hp)) (mheld_pos hmem rfl)
    rw [hst] at hf
    cases List.mem_singleton.mp hf
    cases hp

/-- the source shape under which every call gives its sequential answer -/
structure Good (cfg : FCfg) : Prop where
  waits : cfg.lookupWaits = true
  noFast : cfg.fastPath = false
  noEarly : cfg.publishEarly = false

def ffinal (cfg : FCfg) (th : Thread) : List Res := th.results ++ th.todo.map (fexpected cfg)

theorem FStep.final_eq {cfg : FCfg} (hg : Good cfg) {s s' : FState} {t : Tid}
    (hM : MInv s) (hF : FlagInv cfg s) (hV : FResInv cfg s) (hs : FStep cfg s t s') (u : Tid) :
    ffinal cfg (Th s' u) = ffinal cfg (Th s u) := by
  by_cases hut : u = t
  · subst hut
    have leave : ∀ {m : Mod} {b : Bool} {fs : List Frame}, (Th s u).stack = .leave m b :: fs →
        ffinal cfg (popFrame s (Th s u) m fs) = ffinal cfg (Th s u) := by
      intro m b fs hst
      cases fs with
      | nil =>
        have hdone := done_of_leave_single hM hF hst
        have hconf := hF.d2c m hdone
        have hreg := hF.c2r m hconf
        obtain ⟨rest, hr | hr⟩ := hV.bottom u m (by rw [hst]; rfl) <;>
          simp [ffinal, popFrame, finishOp, opResult, hr, fexpected, hdone, hconf, hreg]
      | cons g rest => rfl
    cases hs with
    | fillEarlyInc m n hp he | fillEarlyDone m n hp he => rw [hg.noEarly] at he; cases he
    | accessFast m rest hp hst ht hf => rw [hg.noFast] at hf; cases hf
    | fillLocalStore m n hp he hk =>
      obtain ⟨rest, hr⟩ := hV.pend u m n hp
      have := hV.pendLe hg.noEarly u m n hp
      have e : n = cfg.tableSize m := by omega
      simp [ffinal, finishOp, hr, fexpected, e]
    | lookupHit m rest hp hst ht hr hw =>
      have hnot : initializing s m = false := by simpa [hg.waits] using hw
      have hdone : s.done m = true := by simpa [initializing, hF.r2s m hr] using hnot
      simp [ffinal, finishOp, ht, fexpected, hdone, hF.d2c m hdone]
    | genHit m rest n hp hst ht hc =>
      simp [ffinal, finishOp, ht, fexpected, hV.cacheOk hg.noEarly m n hc]
    | leaveLock m fs ml lk hp hst | leaveFree m fs ml hp hst => rw [fsetT_same]; exact leave hst
    | _ => rw [fsetT_same]; rfl
  · rw [hs.others u hut]

/-- what a look-up may hand out when only the store order is known (register last, no waiting): a class that was found
    is configured -/
def clsGood : Res → Prop
  | .cls _ f c _ => f = true → c = true
  | _ => True

def ResGood (s : FState) : Prop := ∀ t r, r ∈ (Th s t).results → clsGood r

theorem ResGood.cls {s : FState} {t : Tid} {m : Mod} {f c d : Bool} (h : ResGood s)
    (hm : Res.cls m f c d ∈ (Th s t).results) (hf : f = true) : c = true :=
  h t _ hm hf

theorem ResGood.step {cfg : FCfg} (hrl : cfg.registerFirst = false) {s s' : FState} {t : Tid}
    (hF : FlagInv cfg s) (h : ResGood s) (hs : FStep cfg s t s') : ResGood s' := by
  intro u r hr
  by_cases hut : u = t
  · subst hut
    have hreg := hF.regLast hrl
    have fin : ∀ {r0 : Res}, r ∈ (finishOp (Th s u) r0).results → clsGood r0 → clsGood r := by
      intro r0 hr h0
      rcases List.mem_append.mp hr with hr | hr
      · exact h u r hr
      · cases List.mem_singleton.mp hr; exact h0
    cases hs with
    | fillEarlyDone | fillLocalStore | accessFast | genHit => rw [fsetT_same] at hr; exact fin hr trivial
    | lookupHit m rest hp hst ht hr' => rw [fsetT_same] at hr; exact fin hr (fun _ => hreg m hr')
    | leaveLock m fs ml lk hp hst | leaveFree m fs ml hp hst =>
      rw [fsetT_same] at hr
      cases fs with
      | nil =>
        refine fin hr ?_
        unfold opResult
        split
        · exact hreg m
        · trivial
      | cons g rest => exact h u r hr
    | _ => rw [fsetT_same] at hr; exact h u r hr
  · rw [hs.others u hut] at hr
    exact h u r hr

structure FInv (cfg : FCfg) (s : FState) : Prop where
  m : MInv s
  flag : FlagInv cfg s
  res : FResInv cfg s

theorem FInv.init (cfg : FCfg) (progs : Tid → List Op) : FInv cfg (finit progs) :=
  ⟨⟨fun _ => ⟨fun _ => rfl, nofun⟩, fun _ => rfl⟩,
   ⟨⟨fun _ => rfl, (fun _ h => nomatch h), (fun _ h => nomatch h), (fun _ h => nomatch h), (fun _ _ h => nomatch h)⟩,
    (fun _ h => nomatch h), (fun _ _ h => nomatch h)⟩,
   ⟨(fun _ _ _ h => nomatch h), (fun _ _ _ _ h => nomatch h), (fun _ _ h => nomatch h), (fun _ _ _ h => nomatch h)⟩⟩

theorem FInv.step {cfg : FCfg} {s s' : FState} {t : Tid} (h : FInv cfg s) (hs : FStep cfg s t s') : FInv cfg s' :=
  ⟨h.m.step hs, h.flag.step h.m hs, h.res.step hs⟩

inductive FReach (cfg : FCfg) (s0 : FState) : FState → Prop
  | init : FReach cfg s0 s0
  | next {s s' : FState} {t : Tid} : FReach cfg s0 s → fstep cfg s t = some s' → FReach cfg s0 s'

theorem FInv.reach {cfg : FCfg} {progs : Tid → List Op} {s : FState} (h : FReach cfg (finit progs) s) : FInv cfg s := by
  induction h with
  | init => exact FInv.init cfg progs
  | next _ hs ih => exact ih.step (fstep_sound hs)

theorem freach_frun {cfg : FCfg} {s0 s : FState} (h : FReach cfg s0 s) (sched : List Tid) :
    FReach cfg s0 (frun cfg s sched) := by
  induction sched generalizing s with
  | nil => exact h
  | cons t ts ih =>
    simp only [frun]
    split
    · rename_i s' hs; exact ih (.next h hs)
    · exact ih h

theorem ffinal_reach {cfg : FCfg} (hg : Good cfg) {progs : Tid → List Op} {s : FState}
    (h : FReach cfg (finit progs) s) (u : Tid) : ffinal cfg (Th s u) = fseq cfg (progs u) := by
  induction h with
  | init => simp [ffinal, finit, Th, fseq]
  | next hr hs ih =>
    have hI := FInv.reach hr
    rw [(fstep_sound hs).final_eq hg hI.m hI.flag hI.res u, ih]

theorem resGood_reach {cfg : FCfg} (hrl : cfg.registerFirst = false) {progs : Tid → List Op} {s : FState}
    (h : FReach cfg (finit progs) s) : ResGood s := by
  induction h with
  | init => intro t r hr; simp [finit, Th] at hr
  | next hr hs ih => exact ih.step hrl (FInv.reach hr).flag (fstep_sound hs)

theorem frun_others (cfg : FCfg) (u : Tid) : ∀ (sched : List Tid) (s : FState), u ∉ sched →
    (frun cfg s sched).threads u = s.threads u
  | [], _, _ => rfl
  | t :: ts, s, h => by
    simp only [List.mem_cons, not_or] at h
    simp only [frun]
    split
    · rename_i s' hs
      exact (frun_others cfg u ts s' h.2).trans ((fstep_sound hs).others u h.1)
    · exact frun_others cfg u ts s h.2

end Full

end SqlglotModel.Threads
