/-
  C19 — what the systems of Model/Threads.lean share. A step of thread `t` rewrites the entry of `t` in a table; a fact
  about every entry is then checked at `t` only (`forall_split`, with the two equations of the update; `forall_set` where
  the fact is a named predicate of the entry). A lock word `(owner, depth)` is `Counted` by a function that
  says how many levels each thread accounts for: the owner is the one thread with a positive count, and the depth is
  that count; mutual exclusion and the enabledness of the owner come from there. Last, `loads m` counts how often
  `started m` was set, and a flag is set once (`loads_bump`, `once_of_loads`).
-/
import SqlglotModel.Model.Threads

namespace SqlglotModel.Threads

theorem forall_split {P : Nat → Prop} {t : Nat} (ht : P t) (h : ∀ u, u ≠ t → P u) (u : Nat) : P u :=
  if e : u = t then e ▸ ht else h u e

/-- Every system keeps its threads in a table `Tid → α`, and a step of `t` writes the entry of `t`. `Q` is found by
    unification only where the goal applies a named predicate to the entry (the three thread systems of ThreadsObjects); a clause
    spelt out in a field of an invariant is split by `forall_split`. -/
theorem forall_set {α : Type} {Q : Tid → α → Prop} {f : Tid → α} {t : Tid} {a : α}
    (h : ∀ u, u ≠ t → Q u (f u)) (ha : Q t a) : ∀ u, Q u (if u = t then a else f u) :=
  forall_split (P := fun u => Q u (if u = t then a else f u)) ((if_pos rfl).symm ▸ ha) fun u e => (if_neg e).symm ▸ h u e

def depthOf (lock : Option (Tid × Nat)) (t : Tid) : Nat :=
  match lock with
  | some (o, d) => if o = t then d else 0
  | none => 0

theorem depthOf_other {o u : Tid} {d : Nat} (h : u ≠ o) : depthOf (some (o, d)) u = 0 :=
  if_neg fun e => h e.symm

theorem acquire_rlock {lock lk : Option (Tid × Nat)} {t : Tid} (h : acquire .rlock lock t = some lk) :
    depthOf lk t = depthOf lock t + 1 ∧ (∀ u, u ≠ t → depthOf lk u = depthOf lock u) ∧
      ∀ o d, lk = some (o, d) → 0 < d := by
  cases lock with
  | none =>
    cases h
    exact ⟨by simp [depthOf], fun u hu => by rw [depthOf_other hu]; rfl, fun o d e => by cases e; exact Nat.one_pos⟩
  | some p =>
    obtain ⟨o, d⟩ := p
    simp only [acquire] at h
    split at h
    · rename_i ho; subst ho
      cases h
      exact ⟨by simp [depthOf], fun u hu => by rw [depthOf_other hu, depthOf_other hu],
        fun o' d' e => by cases e; exact Nat.succ_pos d⟩
    · cases h

theorem release_rlock {lock lk : Option (Tid × Nat)} {t : Tid} (h : release .rlock lock t = some lk) :
    depthOf lk t = depthOf lock t - 1 ∧ (∀ u, u ≠ t → depthOf lk u = depthOf lock u) ∧
      ∀ o d, lk = some (o, d) → 0 < d := by
  cases lock with
  | none => cases h
  | some p =>
    obtain ⟨o, d⟩ := p
    simp only [release] at h
    split at h
    · rename_i ho; subst ho
      split at h
      · cases h
        exact ⟨by simp [depthOf]; omega, fun u hu => by rw [depthOf_other hu]; rfl, fun _ _ e => by cases e⟩
      · cases h
        exact ⟨by simp [depthOf], fun u hu => by rw [depthOf_other hu, depthOf_other hu],
          fun o' d' e => by cases e; omega⟩
    · cases h

/-- The lock word `w` is accounted for by `n`: thread `t` holds `n t` levels of it (its frames past the acquisition in the
    two stack models, its place between acquisition and release in `Routes`). -/
structure Counted (w : Option (Tid × Nat)) (n : Tid → Nat) : Prop where
  depth : ∀ t, n t = depthOf w t
  pos : ∀ o d, w = some (o, d) → 0 < d

theorem Counted.owner {w : Option (Tid × Nat)} {n : Tid → Nat} {t : Tid} (h : Counted w n) (ht : 0 < n t) :
    w = some (t, n t) := by
  rw [h.depth t] at ht ⊢
  match w with
  | none => exact absurd ht (Nat.lt_irrefl 0)
  | some (o, d) =>
    by_cases ho : o = t
    · subst ho; simp [depthOf]
    · simp [depthOf, ho] at ht

theorem Counted.mutex {w : Option (Tid × Nat)} {n : Tid → Nat} {t u : Tid} (h : Counted w n) (ht : 0 < n t)
    (hu : 0 < n u) : t = u :=
  (Prod.mk.inj (Option.some.inj ((h.owner ht).symm.trans (h.owner hu)))).1

theorem Counted.of_word {w : Option (Tid × Nat)} {n : Tid → Nat} {o : Tid} {d : Nat} (h : Counted w n)
    (hw : w = some (o, d)) : n o = d ∧ 0 < d :=
  ⟨by rw [h.depth o, hw]; exact if_pos rfl, h.pos o d hw⟩

/-- Thread `t` leaves the lock word alone, takes one more level of it or gives one back; `k`, the number of levels `t`
    accounts for, follows. -/
inductive Moves (t : Tid) (w : Option (Tid × Nat)) (k : Nat) (w' : Option (Tid × Nat)) (k' : Nat) : Prop
  | keep (ew : w' = w) (e : k' = k)
  | acq (h : acquire .rlock w t = some w') (e : k' = k + 1)
  | rel (h : release .rlock w t = some w') (e : k' + 1 = k)

theorem Counted.move {w w' : Option (Tid × Nat)} {n n' : Tid → Nat} {t : Tid} (h : Counted w n)
    (ho : ∀ u, u ≠ t → n' u = n u) (hm : Moves t w (n t) w' (n' t)) : Counted w' n' := by
  have hd := h.depth t
  rcases hm with ⟨rfl, e⟩ | ⟨ha, e⟩ | ⟨hr, e⟩
  · exact ⟨forall_split (e.trans hd) fun u hu => (ho u hu).trans (h.depth u), h.pos⟩
  · obtain ⟨h1, h2, h3⟩ := acquire_rlock ha
    exact ⟨forall_split (by rw [e, h1, hd]) fun u hu => by rw [ho u hu, h2 u hu]; exact h.depth u, h3⟩
  · obtain ⟨h1, h2, h3⟩ := release_rlock hr
    exact ⟨forall_split (by rw [h1, ← hd, ← e]; rfl) fun u hu => by rw [ho u hu, h2 u hu]; exact h.depth u, h3⟩

theorem Counted.acquire_isSome {w : Option (Tid × Nat)} {n : Tid → Nat} {t : Tid} (h : Counted w n)
    (hf : w = none ∨ 0 < n t) : (acquire .rlock w t).isSome = true := by
  rcases hf with rfl | ht
  · rfl
  · rw [h.owner ht]; simp [acquire]

theorem Counted.release_isSome {w : Option (Tid × Nat)} {n : Tid → Nat} {t : Tid} (h : Counted w n)
    (ht : 0 < n t) : (release .rlock w t).isSome = true := by
  rw [h.owner ht]; simp only [release, if_true]; split <;> rfl

theorem loads_bump {loads : Mod → Nat} {started : Mod → Bool} {m : Mod}
    (h : ∀ x, loads x = if started x = true then 1 else 0) (hm : started m = false) (x : Mod) :
    (if x = m then loads m + 1 else loads x) = if (if x = m then true else started x) = true then 1 else 0 := by
  by_cases hx : x = m
  · subst hx; simp [h x, hm]
  · simpa [hx] using h x

theorem once_of_loads {n : Nat} {b : Bool} (h : n = if b = true then 1 else 0) : n ≤ 1 ∧ (n = 1 ↔ b = true) := by
  cases b <;> subst h <;> decide

end SqlglotModel.Threads
