/-
  C19 — the four small systems of Model/Threads.lean about objects that several threads use: a worker per call
  (`Workers`), class construction that rebinds (`ClassTables`), a table that is only read (`SharedTable`), a memo whose
  eviction is one step (`Memo`). One invariant each, a fact about the record of every thread that is checked at the thread
  that moves (`forall_set`). `SharedTable` is `Workers` with a setting `v` that every call carries and a slot nobody writes:
  `trunOk`, `tfinal`, `TOk`, `TInv.step` are `runOk`, `wfinal`, `WOk`, `WInv.step` line by line. Each system has its own
  `…Reach` and recursive `…run`, so the induction over the schedule (`wreach_wrun`, `treach_trun`, `mreach_mrun`) is written
  with each, as in the three lock models.
-/
import SqlglotModel.Proofs.ThreadsLock

namespace SqlglotModel.Threads

namespace Workers

/-- a call in flight on a private worker has emitted exactly the names below its counter, and counter + bumps left is
    the size of the call at the head of `todo` -/
def runOk (th : WThread) : Prop :=
  match th.run with
  | none => True
  | some (r, c, e) => e = List.range c ∧ ∃ rest, th.todo = (r + c) :: rest

def wfinal (th : WThread) : List (List Nat) := th.results ++ th.todo.map List.range

structure WOk (prog : List Nat) (th : WThread) : Prop where
  ok : runOk th
  fin : wfinal th = wseq prog

def WInv (progs : Tid → List Nat) (s : WState) : Prop := ∀ t, WOk (progs t) (s.threads t)

theorem WInv.init (progs : Tid → List Nat) : WInv progs (winit progs) :=
  fun t => ⟨trivial, by simp [winit, wfinal, wseq]⟩

theorem WInv.step {cfg : WCfg} (hc : cfg.cached = false) {progs : Tid → List Nat} {s s' : WState} {t : Tid}
    (h : WInv progs s) (hs : wstep cfg s t = some s') : WInv progs s' := by
  obtain ⟨hok, hfin⟩ := h t
  unfold wstep at hs
  split at hs
  · rename_i r c e hrun
    cases hs
    unfold runOk at hok
    simp only [hrun] at hok
    obtain ⟨he, rest, htodo⟩ := hok
    unfold wstepRun
    cases r with
    | zero => exact forall_set (fun u _ => h u) ⟨trivial, by rw [← hfin]; simp [wfinal, htodo, he]⟩
    | succ r' =>
      simp only [hc, Bool.false_eq_true, if_false]
      exact forall_set (fun u _ => h u) ⟨⟨by rw [he, List.range_succ], rest, by rw [htodo]; congr 1; omega⟩, hfin⟩
  · split at hs
    · cases hs
    · rename_i k rest htodo
      simp only [hc, Bool.false_eq_true, if_false] at hs
      cases hs
      exact forall_set (fun u _ => h u) ⟨⟨rfl, rest, htodo⟩, hfin⟩

inductive WReach (cfg : WCfg) (s0 : WState) : WState → Prop
  | init : WReach cfg s0 s0
  | next {s s' : WState} {t : Tid} : WReach cfg s0 s → wstep cfg s t = some s' → WReach cfg s0 s'

theorem WInv.reach {cfg : WCfg} (hc : cfg.cached = false) {progs : Tid → List Nat} {s : WState}
    (h : WReach cfg (winit progs) s) : WInv progs s := by
  induction h with
  | init => exact WInv.init progs
  | next _ hs ih => exact ih.step hc hs

theorem wreach_wrun {cfg : WCfg} {s0 s : WState} (h : WReach cfg s0 s) (sched : List Tid) :
    WReach cfg s0 (wrun cfg s sched) := by
  induction sched generalizing s with
  | nil => exact h
  | cons t ts ih =>
    simp only [wrun]
    split
    · rename_i s' hs; exact ih (.next h hs)
    · exact ih h

end Workers


namespace ClassTables

/-- The frame condition of class construction (not a stack frame like `Threads.Frame`, `Full.Frame`): what a run of
    rebinding updates for class `y` keeps, relative to the store `s0` it started from. -/
structure Frame (s0 s : Store) (y : Nat) : Prop where
  next_le : s0.next ≤ s.next
  wf : WF s
  others : ∀ x, x ≠ y → ∀ a, s.bind x a = s0.bind x a
  old : ∀ o, o < s0.next → s.heap o = s0.heap o

theorem Frame.step {s0 s : Store} {y : Nat} (h : Frame s0 s y) (u : Upd) (hu : u.isRebind = true) :
    Frame s0 (applyUpd y s u) y := by
  cases u with
  | mutate a extra => simp [Upd.isRebind] at hu
  | rebind a extra =>
    refine ⟨?_, ?_, ?_, ?_⟩
    · simp only [applyUpd]; have := h.next_le; omega
    · intro c a'
      simp only [applyUpd]
      split
      · omega
      · have := h.wf c a'; omega
    · intro x hx a'
      simp only [applyUpd]
      have : ¬ (x = y ∧ a' = a) := fun e => hx e.1
      simp only [this, if_false]
      exact h.others x hx a'
    · intro o ho
      simp only [applyUpd]
      have : ¬ o = s.next := by have := h.next_le; omega
      simp only [this, if_false]
      exact h.old o ho

theorem Frame.foldl {s0 : Store} {y : Nat} : ∀ (us : List Upd) (s : Store), Frame s0 s y →
    (∀ u ∈ us, u.isRebind = true) → Frame s0 (us.foldl (applyUpd y) s) y
  | [], _, h, _ => h
  | u :: us, s, h, hall => by
    simp only [List.foldl_cons]
    exact Frame.foldl us _ (h.step u (hall u List.mem_cons_self)) (fun v hv => hall v (List.mem_cons_of_mem _ hv))

theorem Frame.inherit {s : Store} (hw : WF s) (y b : Nat) : Frame s (inherit s y b) y := by
  refine ⟨Nat.le_refl _, ?_, ?_, fun _ _ => rfl⟩
  · intro c a
    simp only [ClassTables.inherit]
    split
    · exact hw b a
    · exact hw c a
  · intro x hx a
    simp [ClassTables.inherit, hx]

end ClassTables


namespace SharedTable

def trunOk (th : TThread) : Prop :=
  match th.run with
  | none => True
  | some (r, c, v, e) => e = (List.range c).map (fun i => (i, v)) ∧ ∃ rest, th.todo = (r + c, v) :: rest

def tfinal (th : TThread) : List (List (Nat × Nat)) := th.results ++ th.todo.map texpected

structure TOk (prog : List (Nat × Nat)) (th : TThread) : Prop where
  ok : trunOk th
  fin : tfinal th = tseq prog

structure TInv (slot0 : Nat) (progs : Tid → List (Nat × Nat)) (s : TState) : Prop where
  th : ∀ t, TOk (progs t) (s.threads t)
  slot : s.slot = slot0

theorem TInv.init (slot0 : Nat) (progs : Tid → List (Nat × Nat)) : TInv slot0 progs (tinit slot0 progs) :=
  ⟨fun t => ⟨trivial, by simp [tinit, tfinal, tseq]⟩, rfl⟩

theorem TInv.step {cfg : TCfg} (hc : cfg.ctorWrites = false) {slot0 : Nat} {progs : Tid → List (Nat × Nat)}
    {s s' : TState} {t : Tid} (h : TInv slot0 progs s) (hs : tstep cfg s t = some s') : TInv slot0 progs s' := by
  obtain ⟨hok, hfin⟩ := h.th t
  unfold tstep at hs
  split at hs
  · rename_i r c v e hrun
    cases hs
    unfold trunOk at hok
    simp only [hrun] at hok
    obtain ⟨he, rest, htodo⟩ := hok
    unfold tstepRun
    cases r with
    | zero =>
      exact ⟨forall_set (fun u _ => h.th u) ⟨trivial, by rw [← hfin]; simp [tfinal, htodo, he, texpected]⟩, h.slot⟩
    | succ r' =>
      simp only [hc, Bool.false_eq_true, if_false]
      exact ⟨forall_set (fun u _ => h.th u)
        ⟨⟨by rw [he, List.range_succ, List.map_append]; rfl, rest, by rw [htodo]; congr 2; omega⟩, hfin⟩, h.slot⟩
  · split at hs
    · cases hs
    · rename_i k v rest htodo
      simp only [hc, Bool.false_eq_true, if_false] at hs
      cases hs
      exact ⟨forall_set (fun u _ => h.th u) ⟨⟨rfl, rest, htodo⟩, hfin⟩, h.slot⟩

inductive TReach (cfg : TCfg) (s0 : TState) : TState → Prop
  | init : TReach cfg s0 s0
  | next {s s' : TState} {t : Tid} : TReach cfg s0 s → tstep cfg s t = some s' → TReach cfg s0 s'

theorem TInv.reach {cfg : TCfg} (hc : cfg.ctorWrites = false) {slot0 : Nat} {progs : Tid → List (Nat × Nat)}
    {s : TState} (h : TReach cfg (tinit slot0 progs) s) : TInv slot0 progs s := by
  induction h with
  | init => exact TInv.init slot0 progs
  | next _ hs ih => exact ih.step hc hs

theorem treach_trun {cfg : TCfg} {s0 s : TState} (h : TReach cfg s0 s) (sched : List Tid) :
    TReach cfg s0 (trun cfg s sched) := by
  induction sched generalizing s with
  | nil => exact h
  | cons t ts ih =>
    simp only [trun]
    split
    · rename_i s' hs; exact ih (.next h hs)
    · exact ih h

end SharedTable


namespace Memo

/-- no look-up has raised, none is between pick and delete, and every look-up started has returned or is inserting -/
structure MOk (prog : List Nat) (th : MThread) : Prop where
  noErr : th.errors = 0
  noPick : th.pc.isPicked = false
  count : th.finished + th.todo.length + (if th.pc = .idle then 0 else 1) = prog.length

def MInvar (progs : Tid → List Nat) (s : MState) : Prop := ∀ t, MOk (progs t) (s.threads t)

theorem MInvar.init (cache0 : List Nat) (progs : Tid → List Nat) : MInvar progs (minit cache0 progs) :=
  fun t => ⟨rfl, rfl, by simp [minit]⟩

theorem MInvar.step {cfg : MCfg} (hm : cfg.mode ≠ .nonatomic) {progs : Tid → List Nat} {s s' : MState} {t : Tid}
    (h : MInvar progs s) (hs : mstep cfg s t = some s') : MInvar progs s' := by
  obtain ⟨h1, h2, h3⟩ := h t
  unfold mstep at hs
  split at hs
  · rename_i hpc
    rw [hpc, if_pos rfl] at h3
    unfold mstepIdle at hs
    split at hs
    · cases hs
    · rename_i k rest htodo
      rw [htodo, List.length_cons] at h3
      -- the look-up returns at once (hit, or atomic eviction), or goes on to insert
      have ret : MOk (progs t) { (s.threads t) with todo := rest, finished := (s.threads t).finished + 1 } :=
        ⟨h1, by rw [hpc]; rfl, by simp [hpc]; omega⟩
      have ins : MOk (progs t) { (s.threads t) with todo := rest, pc := .insert k } := ⟨h1, rfl, by simp; omega⟩
      split at hs
      · cases hs; exact forall_set (fun u _ => h u) ret
      · split at hs
        · cases hs; exact forall_set (fun u _ => h u) ins
        · cases hmode : cfg.mode with
          | nonatomic => exact absurd hmode hm
          | noEvict => rw [hmode] at hs; cases hs; exact forall_set (fun u _ => h u) ins
          | atomic => rw [hmode] at hs; cases hs; exact forall_set (fun u _ => h u) ret
  · rename_i k v hpc
    rw [hpc] at h2; cases h2
  · rename_i k hpc
    cases hs
    rw [hpc, if_neg MPc.noConfusion] at h3
    exact forall_set (fun u _ => h u) ⟨h1, rfl, by simp; omega⟩

inductive MReach (cfg : MCfg) (s0 : MState) : MState → Prop
  | init : MReach cfg s0 s0
  | next {s s' : MState} {t : Tid} : MReach cfg s0 s → mstep cfg s t = some s' → MReach cfg s0 s'

theorem MInvar.reach {cfg : MCfg} (hm : cfg.mode ≠ .nonatomic) {cache0 : List Nat} {progs : Tid → List Nat}
    {s : MState} (h : MReach cfg (minit cache0 progs) s) : MInvar progs s := by
  induction h with
  | init => exact MInvar.init cache0 progs
  | next _ hs ih => exact ih.step hm hs

theorem mreach_mrun {cfg : MCfg} {s0 s : MState} (h : MReach cfg s0 s) (sched : List Tid) :
    MReach cfg s0 (mrun cfg s sched) := by
  induction sched generalizing s with
  | nil => exact h
  | cons t ts ih =>
    simp only [mrun]
    split
    · rename_i s' hs; exact ih (.next h hs)
    · exact ih h

end Memo

end SqlglotModel.Threads
