/-
  C19 — the two routes to a module (`Routes` of Model/Threads.lean). The package lock and every module lock are `Counted`
  by the place each thread is at; with no re-entry a thread waits for the package lock or for a module lock only, and
  following the owners leads to a thread that can move.
-/
import SqlglotModel.Proofs.ThreadsLock

namespace SqlglotModel.Threads

namespace Routes

/-- `rstep` in relational form, one constructor per branch -/
inductive RStep (cfg : RCfg) (s : RState) (t : Tid) : RState → Prop
  | startAttr (m : Mod) (rest : List Route) (hpc : s.pc t = .idle) (ht : s.todo t = .attr m :: rest) :
      RStep cfg s t { s with pc := fun u => if u = t then .wantP m else s.pc u,
                             todo := fun u => if u = t then rest else s.todo u }
  | startStr (m : Mod) (rest : List Route) (hpc : s.pc t = .idle) (ht : s.todo t = .str m :: rest) :
      RStep cfg s t { s with pc := fun u => if u = t then .wantM m false else s.pc u,
                             todo := fun u => if u = t then rest else s.todo u }
  | acqP (m : Mod) (lk : Option (Tid × Nat)) (hpc : s.pc t = .wantP m) (ha : acquire .rlock s.pkg t = some lk) :
      RStep cfg s t (setPc { s with pkg := lk } t (.wantM m true))
  | acqM (m : Mod) (v : Bool) (hpc : s.pc t = .wantM m v) (hf : s.modLock m = none) :
      RStep cfg s t (setPc { s with modLock := fun x => if x = m then some t else s.modLock x } t (.body m v))
  | bodyLoaded (m : Mod) (v : Bool) (hpc : s.pc t = .body m v) (hl : s.loaded m = true) :
      RStep cfg s t (setPc s t (.relM m v))
  | bodyReenter (m : Mod) (v : Bool) (hpc : s.pc t = .body m v) (hl : s.loaded m = false)
      (hre : cfg.reentry m = true) : RStep cfg s t (setPc s t (.reWantP m v))
  | bodyLoad (m : Mod) (v : Bool) (hpc : s.pc t = .body m v) (hl : s.loaded m = false)
      (hre : cfg.reentry m = false) :
      RStep cfg s t (setPc { s with loaded := fun x => if x = m then true else s.loaded x } t (.relM m v))
  | reAcq (m : Mod) (v : Bool) (lk : Option (Tid × Nat)) (hpc : s.pc t = .reWantP m v)
      (ha : acquire .rlock s.pkg t = some lk) : RStep cfg s t (setPc { s with pkg := lk } t (.reHasP m v))
  | reRel (m : Mod) (v : Bool) (lk : Option (Tid × Nat)) (hpc : s.pc t = .reHasP m v)
      (hr : release .rlock s.pkg t = some lk) :
      RStep cfg s t (setPc { s with pkg := lk, loaded := fun x => if x = m then true else s.loaded x } t (.relM m v))
  | relM (m : Mod) (v : Bool) (hpc : s.pc t = .relM m v) :
      RStep cfg s t (setPc { s with modLock := fun x => if x = m then none else s.modLock x } t
        (if v then .relP m else .idle))
  | relP (m : Mod) (lk : Option (Tid × Nat)) (hpc : s.pc t = .relP m) (hr : release .rlock s.pkg t = some lk) :
      RStep cfg s t (setPc { s with pkg := lk } t .idle)

theorem rstep_sound {cfg : RCfg} {s s' : RState} {t : Tid} (h : rstep cfg s t = some s') : RStep cfg s t s' := by
  unfold rstep at h
  split at h
  · rename_i hpc
    unfold rstepIdle at h
    split at h
    · cases h
    · rename_i m rest ht; cases h; exact .startAttr m rest hpc ht
    · rename_i m rest ht; cases h; exact .startStr m rest hpc ht
  · rename_i m hpc
    split at h
    · cases h
    · rename_i lk ha; cases h; exact .acqP m lk hpc ha
  · rename_i m v hpc
    split at h
    · cases h
    · rename_i hf; cases h; exact .acqM m v hpc hf
  · rename_i m v hpc
    cases h
    unfold rstepBody
    split
    · rename_i hl; exact .bodyLoaded m v hpc hl
    · rename_i hl
      have hl : s.loaded m = false := by simpa using hl
      split
      · rename_i hre; exact .bodyReenter m v hpc hl hre
      · rename_i hre; exact .bodyLoad m v hpc hl (by simpa using hre)
  · rename_i m v hpc
    split at h
    · cases h
    · rename_i lk ha; cases h; exact .reAcq m v lk hpc ha
  · rename_i m v hpc
    split at h
    · cases h
    · rename_i lk hr; cases h; exact .reRel m v lk hpc hr
  · rename_i m v hpc; cases h; exact .relM m v hpc
  · rename_i m hpc
    split at h
    · cases h
    · rename_i lk hr; cases h; exact .relP m lk hpc hr

theorem RStep.others {cfg : RCfg} {s s' : RState} {t u : Tid} (hs : RStep cfg s t s') (hu : u ≠ t) :
    s'.pc u = s.pc u ∧ s'.todo u = s.todo u := by
  cases hs with
  | startAttr | startStr => exact ⟨if_neg hu, if_neg hu⟩
  | _ => exact ⟨if_neg hu, rfl⟩

/-- importlib's module locks are plain in this model: a word of depth 1 -/
abbrev plain (w : Option Tid) : Option (Tid × Nat) := w.map (·, 1)

structure RInv (s : RState) : Prop where
  pkg : Counted s.pkg fun t => if (s.pc t).holdsP = true then 1 else 0
  mod : ∀ m, Counted (plain (s.modLock m)) fun t => if (s.pc t).holdsM = some m then 1 else 0
  noRe : ∀ t, (s.pc t).isRe = false

theorem RInv.init (progs : Tid → List Route) : RInv (rinit progs) :=
  ⟨⟨fun _ => rfl, nofun⟩, fun _ => ⟨fun _ => rfl, nofun⟩, fun _ => rfl⟩

theorem RInv.pkg_of_holdsP {s : RState} (h : RInv s) (t : Tid) (ht : (s.pc t).holdsP = true) : s.pkg = some (t, 1) := by
  have := h.pkg.owner (t := t)
  rw [if_pos ht] at this
  exact this Nat.one_pos

theorem RInv.holdsP_of_pkg {s : RState} (h : RInv s) (o : Tid) (d : Nat) (ho : s.pkg = some (o, d)) : (s.pc o).holdsP = true := by
  obtain ⟨h1, h2⟩ := h.pkg.of_word ho
  split at h1
  · assumption
  · omega

theorem RInv.modLock_of_holdsM {s : RState} (h : RInv s) (t : Tid) (m : Mod) (ht : (s.pc t).holdsM = some m) :
    s.modLock m = some t := by
  have := (h.mod m).owner (t := t)
  rw [if_pos ht] at this
  cases hm : s.modLock m with
  | none => rw [hm] at this; cases this Nat.one_pos
  | some o => rw [hm] at this; cases this Nat.one_pos; rfl

theorem RInv.holdsM_of_modLock {s : RState} (h : RInv s) (m : Mod) (o : Tid) (ho : s.modLock m = some o) :
    (s.pc o).holdsM = some m := by
  obtain ⟨h1, _⟩ := (h.mod m).of_word (o := o) (d := 1) (by rw [ho]; rfl)
  split at h1
  · assumption
  · cases h1

/-- thread `t` takes the free lock of module `m`: the word of `m` moves, the others stay -/
theorem plain_take {L : Mod → Option Tid} {t : Tid} {m : Mod} (hf : L m = none) (x : Mod) :
    Moves t (plain (L x)) 0 (plain (if x = m then some t else L x)) (if some m = some x then 1 else 0) := by
  by_cases hx : x = m
  · subst hx; rw [if_pos rfl, if_pos rfl, hf]; exact .acq rfl rfl
  · rw [if_neg hx, if_neg fun e => hx (Option.some.inj e).symm]; exact .keep rfl rfl

theorem plain_give {L : Mod → Option Tid} {t : Tid} {m : Mod} (ho : L m = some t) (x : Mod) :
    Moves t (plain (L x)) (if some m = some x then 1 else 0) (plain (if x = m then none else L x)) 0 := by
  by_cases hx : x = m
  · subst hx; rw [if_pos rfl, if_pos rfl, ho]; exact .rel (by simp [plain, release]) rfl
  · rw [if_neg hx, if_neg fun e => hx (Option.some.inj e).symm]; exact .keep rfl rfl

/-- thread `t` moves from `q` to `p`: each lock word moves with what the place of `t` accounts for -/
theorem RInv.of_setPc {s s1 : RState} {t : Tid} {q p : Pc} (h : RInv s) (hq : s.pc t = q) (e : s1.pc = s.pc)
    (hc : p.isRe = false)
    (hP : Moves t s.pkg (if q.holdsP = true then 1 else 0) s1.pkg (if p.holdsP = true then 1 else 0))
    (hM : ∀ x, Moves t (plain (s.modLock x)) (if q.holdsM = some x then 1 else 0) (plain (s1.modLock x))
      (if p.holdsM = some x then 1 else 0)) :
    RInv (setPc s1 t p) := by
  have pcT : (setPc s1 t p).pc t = p := if_pos rfl
  have pcO : ∀ u, u ≠ t → (setPc s1 t p).pc u = s.pc u := fun u hu => by
    show (if u = t then p else s1.pc u) = _
    rw [if_neg hu, e]
  subst hq
  exact ⟨h.pkg.move (fun u hu => by rw [pcO u hu]) (by simp only [pcT]; exact hP),
    fun x => (h.mod x).move (fun u hu => by rw [pcO u hu]) (by simp only [pcT]; exact hM x),
    forall_split (by rw [pcT]; exact hc) fun u hu => by rw [pcO u hu]; exact h.noRe u⟩

theorem RInv.step {cfg : RCfg} (hno : ∀ m, cfg.reentry m = false) {s s' : RState} {t : Tid}
    (h : RInv s) (hs : RStep cfg s t s') : RInv s' := by
  have hc := h.noRe t
  cases hs with
  | startAttr m rest hpc | startStr m rest hpc =>
    exact h.of_setPc (s1 := { s with todo := fun u => if u = t then rest else s.todo u }) hpc rfl rfl
      (.keep rfl rfl) (fun _ => .keep rfl rfl)
  | acqP m lk hpc ha => exact h.of_setPc hpc rfl rfl (.acq ha rfl) (fun _ => .keep rfl rfl)
  | acqM m v hpc hf => exact h.of_setPc hpc rfl rfl (.keep rfl rfl) (plain_take hf)
  | bodyLoaded m v hpc | bodyLoad m v hpc =>
    exact h.of_setPc hpc rfl rfl (.keep rfl rfl) (fun _ => .keep rfl rfl)
  -- no module re-enters the package: `reWantP` and `reHasP` are never reached
  | bodyReenter m v hpc hl hre => rw [hno m] at hre; cases hre
  | reAcq m v lk hpc | reRel m v lk hpc => rw [hpc] at hc; cases hc
  | relM m v hpc =>
    have ho := h.modLock_of_holdsM t m (by rw [hpc]; rfl)
    -- the same term twice: the next place is `if v then .relP m else .idle`, and what it holds is read by `rfl`
    cases v
    · exact h.of_setPc hpc rfl rfl (.keep rfl rfl) (plain_give ho)
    · exact h.of_setPc hpc rfl rfl (.keep rfl rfl) (plain_give ho)
  | relP m lk hpc hr => exact h.of_setPc hpc rfl rfl (.rel hr rfl) (fun _ => .keep rfl rfl)

inductive RReach (cfg : RCfg) (s0 : RState) : RState → Prop
  | init : RReach cfg s0 s0
  | next {s s' : RState} {t : Tid} : RReach cfg s0 s → rstep cfg s t = some s' → RReach cfg s0 s'

theorem RInv.reach {cfg : RCfg} (hno : ∀ m, cfg.reentry m = false) {progs : Tid → List Route} {s : RState}
    (h : RReach cfg (rinit progs) s) : RInv s := by
  induction h with
  | init => exact RInv.init progs
  | next _ hs ih => exact ih.step hno (rstep_sound hs)

theorem rreach_rrun {cfg : RCfg} {s0 s : RState} (h : RReach cfg s0 s) (sched : List Tid) :
    RReach cfg s0 (rrun cfg s sched) := by
  induction sched generalizing s with
  | nil => exact h
  | cons t ts ih =>
    simp only [rrun]
    split
    · rename_i s' hs; exact ih (.next h hs)
    · exact ih h

/-- a thread that holds a module lock can always move (no re-entry: it never asks for anything else) -/
theorem enabled_of_holdsM {cfg : RCfg} {s : RState} (h : RInv s) {o : Tid} {m : Mod}
    (ho : (s.pc o).holdsM = some m) : (rstep cfg s o).isSome = true := by
  have hc := h.noRe o
  unfold rstep
  cases hpc : s.pc o <;> simp [hpc, Pc.holdsM, Pc.isRe] at ho hc ⊢

theorem enabled_wantM {cfg : RCfg} {s : RState} (h : RInv s) {u : Tid} {m : Mod} {v : Bool}
    (hpc : s.pc u = .wantM m v) : ∃ t, (rstep cfg s t).isSome = true := by
  cases hml : s.modLock m with
  | none => exact ⟨u, by simp [rstep, hpc, hml]⟩
  | some o => exact ⟨o, enabled_of_holdsM h (h.holdsM_of_modLock m o hml)⟩

/-- the owner of the package lock can move, or waits for a module lock, whose holder can -/
theorem enabled_of_holdsP {cfg : RCfg} {s : RState} (h : RInv s) {o : Tid} (ho : (s.pc o).holdsP = true) :
    ∃ t, (rstep cfg s t).isSome = true := by
  have hc := h.noRe o
  cases hpo : s.pc o with
  | idle | wantP => rw [hpo] at ho; cases ho
  | reWantP | reHasP => rw [hpo] at hc; cases hc
  | wantM m v => exact enabled_wantM h hpo
  | body m v | relM m v => exact ⟨o, enabled_of_holdsM (m := m) h (by rw [hpo]; rfl)⟩
  | relP m => exact ⟨o, by simp [rstep, hpo, h.pkg_of_holdsP o ho, release]⟩

/-- a thread waits for the package lock or for a module lock only; follow the chain of owners to one that can move -/
theorem rprogress {cfg : RCfg} {s : RState} (h : RInv s) (hnc : ¬ RComplete s) :
    ∃ t, (rstep cfg s t).isSome = true := by
  obtain ⟨t, ht⟩ : ∃ t, ¬ (s.pc t = .idle ∧ s.todo t = []) := Classical.not_forall.mp hnc
  cases hpc : s.pc t with
  | idle =>
    refine ⟨t, ?_⟩
    unfold rstep rstepIdle
    simp only [hpc]
    cases htd : s.todo t with
    | nil => exact absurd ⟨hpc, htd⟩ ht
    | cons r rest => cases r <;> rfl
  | wantP m =>
    cases hp : s.pkg with
    | none => exact ⟨t, by simp [rstep, hpc, hp, acquire]⟩
    | some p => exact enabled_of_holdsP h (h.holdsP_of_pkg p.1 p.2 hp)
  | wantM m v => exact enabled_wantM h hpc
  | reWantP m v | reHasP m v => have := h.noRe t; rw [hpc] at this; cases this
  | body m v | relM m v => exact ⟨t, enabled_of_holdsM (m := m) h (by rw [hpc]; rfl)⟩
  | relP m => exact enabled_of_holdsP h (by rw [hpc]; rfl)


theorem rrun_others (cfg : RCfg) (u : Tid) : ∀ (sched : List Tid) (s : RState), u ∉ sched →
    (rrun cfg s sched).pc u = s.pc u ∧ (rrun cfg s sched).todo u = s.todo u
  | [], _, _ => ⟨rfl, rfl⟩
  | t :: ts, s, h => by
    simp only [List.mem_cons, not_or] at h
    simp only [rrun]
    split
    · rename_i s' hs
      have h1 := rrun_others cfg u ts s' h.2
      have h2 := (rstep_sound hs).others h.1
      exact ⟨h1.1.trans h2.1, h1.2.trans h2.2⟩
    · exact rrun_others cfg u ts s h.2

theorem rstep_none_of_done (cfg : RCfg) (s : RState) (t : Tid) (h1 : s.pc t = .idle) (h2 : s.todo t = []) :
    rstep cfg s t = none := by
  simp [rstep, h1, rstepIdle, h2]

end Routes

end SqlglotModel.Threads
