/-
  C01 — `format_time` is the identity on strings none of whose characters starts a mapping key
  (in particular for the empty mapping).
-/
import SqlglotModel.Model.TimeFmt

namespace SqlglotModel.TimeFmt

/-- no character of `s` is the first character of a key -/
def NoKeyStart (keys : List (List Char)) (s : List Char) : Prop :=
  ∀ c ∈ s, ∀ k ∈ keys, k.head? ≠ some c

theorem NoKeyStart.head {keys : List (List Char)} {c : Char} {cs : List Char} (h : NoKeyStart keys (c :: cs)) :
    ∀ k ∈ keys, k.head? ≠ some c :=
  h c (List.mem_cons_self ..)

theorem NoKeyStart.tail {keys : List (List Char)} {c : Char} {cs : List Char} (h : NoKeyStart keys (c :: cs)) :
    NoKeyStart keys cs :=
  fun x hx => h x (List.mem_cons_of_mem _ hx)

theorem trieStep_failed (keys : List (List Char)) (c : Char) (h : ∀ k ∈ keys, k.head? ≠ some c) :
    trieStep keys [] c = .failed := by
  have h1 : keys.contains ([] ++ [c]) = false := by
    simp only [List.nil_append, List.contains_eq_mem, decide_eq_false_iff_not]
    intro hm
    exact h [c] hm rfl
  have h2 : keys.any (fun k => isPrefixOf ([] ++ [c]) k) = false := by
    simp only [List.any_eq_false]
    intro k hk
    have := h k hk
    cases k with
    | nil => simp [isPrefixOf]
    | cons x xs =>
      simp only [List.head?_cons, ne_eq, Option.some.injEq] at this
      simp [isPrefixOf, this]
  simp only [trieStep, h1, h2]
  simp

theorem ftLoop_id (keys : List (List Char)) (rest : List Char) :
    ∀ f chunks, rest.length < f → NoKeyStart keys rest →
      ftLoop keys f rest 1 [] none chunks = some (chunks ++ rest.map (fun c => [c])) := by
  induction rest with
  | nil =>
    intro f chunks hf _
    obtain ⟨f', rfl⟩ := Nat.exists_eq_add_one_of_ne_zero (Nat.ne_zero_of_lt hf)
    simp [ftLoop]
  | cons c cs ih =>
    intro f chunks hf hk
    obtain ⟨f', rfl⟩ := Nat.exists_eq_add_one_of_ne_zero (Nat.ne_zero_of_lt hf)
    have hc := trieStep_failed keys c hk.head
    have hlen : ¬ (1 > (c :: cs).length) := by simp
    simp only [ftLoop, hlen, if_false, List.take_succ_cons, List.take_zero, List.getLast?_singleton, hc,
      List.drop_succ_cons, List.drop_zero]
    rw [ih f' (chunks ++ [[c]]) (Nat.lt_of_succ_lt_succ hf) hk.tail]
    simp

theorem lookupC_none (m : List (List Char × List Char)) (c : Char)
    (h : ∀ k ∈ m.map (·.1), k.head? ≠ some c) : lookupC m [c] = none := by
  induction m with
  | nil => rfl
  | cons a as ih =>
    obtain ⟨k, v⟩ := a
    simp only [List.map_cons, List.mem_cons, forall_eq_or_imp] at h
    simp only [lookupC]
    have : k ≠ [c] := by
      intro e; subst e; exact h.1 rfl
    rw [if_neg this]
    exact ih h.2

theorem mapChunks_id (m : List (List Char × List Char)) (s : List Char) (h : NoKeyStart (m.map (·.1)) s) :
    mapChunks m (s.map (fun c => [c])) = s := by
  induction s with
  | nil => rfl
  | cons c cs ih =>
    simp only [List.map_cons, mapChunks]
    rw [lookupC_none m c h.head, ih h.tail]
    simp

theorem formatTimeL_id (m : List (List Char × List Char)) (s : List Char) (hs : s ≠ [])
    (h : NoKeyStart (m.map (·.1)) s) : formatTimeL s m = some (some s) := by
  have he : s.isEmpty = false := by cases s <;> simp_all
  simp only [formatTimeL, he, Bool.false_eq_true, if_false]
  rw [ftLoop_id _ s _ [] (by omega) h]
  simp [mapChunks_id m s h]

end SqlglotModel.TimeFmt
