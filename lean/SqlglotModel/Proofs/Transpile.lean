/-
  Lemmas behind C02.  ORDER BY: the decision core is a parser half and a generator half, each a closed form in
  `defaultNullsFirst`; `lift_effective` carries it to the comparator of the emitted keys, `cmpKeys_append` to key lists,
  `sortBy_congr` to the sorted table.  Division: `genDiv` returns one of five shapes, evaluated on operand values
  through the equations of `divV`; DuckDB -> SQLite on every tree of divisions the parser builds by structural
  induction.  Then the re-spelling of LIMIT.  Last, three loops, each with the invariant that explains it: the stack of
  `Generator.set_operations` (`setOpsLoop_spec`: the weight of the stack bounds the iterations left), the aliases
  `eliminate_qualify` draws (`hoistAliases_spec`: each is drawn against all earlier ones), and the ROW_NUMBER of
  `eliminate_distinct_on` (`rowNumberOneAux_eq`: a row is the first of its partition iff its key has not been seen).
-/
import SqlglotModel.Model.Transpile
import SqlglotModel.Proofs.Bag

namespace SqlglotModel.Transpile
open SqlglotModel.Bag

theorem nullFlag_not_null (v : Val) : (nullFlag v).isNull = false := by
  unfold nullFlag; split <;> rfl

/-- the two-key simulation `CASE WHEN x IS NULL THEN 1 ELSE 0 END [DESC], x [DESC]` orders like
    `x [DESC] NULLS FIRST|LAST` -/
theorem simulation_cmp (d nf nf0 nf1 : Bool) (x y : Val) :
    (cmpKeyVal nf nf0 (nullFlag x) (nullFlag y)).then (cmpKeyVal d nf1 x y) = cmpKeyVal d nf x y := by
  -- both sides look at x and y only through `isNull` (and `cmpVal x y`, left symbolic)
  simp only [cmpKeyVal, nullFlag]
  cases x.isNull <;> cases y.isNull <;> cases nf <;> rfl

/-- from the decision core to comparators: emitted keys whose `effective` reading is `(d, nf)` compare any two rows as
    the single key `f [DESC] NULLS FIRST|LAST` does -/
theorem lift_effective (no : NullOrdering) (f : Row → Val) (ks : List OutKey) (d nf : Bool)
    (h : effective no ks = some (d, nf)) (a b : Row) :
    cmpKeys (ks.map (keySem no f)) a b = cmpKey ⟨f, d, nf⟩ a b := by
  unfold effective at h
  split at h
  · cases h
    simp [cmpKeys_single, keySem, cmpKey]
  · cases h
    simp only [List.map, cmpKeys, keySem, cmpKey, Ordering.then_eq]
    exact simulation_cmp _ _ _ _ _ _
  · cases h

/-- the condition under which `_parse_ordered` sets `nulls_first` without a NULLS clause is the default placement of the
    source class -/
theorem impliedNullsFirst_eq (no : NullOrdering) (desc : Bool) :
    (((!desc && no == .small) || (desc && no != .small)) && no != .last) = defaultNullsFirst no desc := by
  cases no <;> cases desc <;> rfl

/-- the parser's half: `nulls_first` as stored on `exp.Ordered` IS the NULL placement of the source text on an engine of
    the source class -/
theorem parseOrdered_eq (src : NullOrdering) (s : OrdSpec) :
    parseOrdered src s = ⟨s.desc, (specEffective src s).2⟩ := by
  simp only [parseOrdered, specEffective, Bool.and_assoc, impliedNullsFirst_eq]
  rcases s.nulls with _ | _ | _ <;> simp

theorem nullsSortChange_eq (no : NullOrdering) (o : Ordered) :
    nullsSortChange no o = if o.nullsFirst = defaultNullsFirst no (isDesc o.desc) then .none
      else if o.nullsFirst then .first else .last := by
  unfold nullsSortChange
  generalize isDesc o.desc = d
  cases no <;> cases d <;> cases o.nullsFirst <;> rfl

/-- the generator's half: whatever `nulls_first` says, the emitted items have that placement on an engine of the target
    class -/
theorem effective_genOrdered (dst : NullOrdering) (sup : Option Bool) (o : Ordered) :
    effective dst (genOrdered dst sup o) = some (isDesc o.desc, o.nullsFirst) := by
  unfold genOrdered
  simp only [nullsSortChange_eq]
  by_cases h : o.nullsFirst = defaultNullsFirst dst (isDesc o.desc)
  · -- no clause: the target's default is what was wanted
    rw [if_pos h, h]
    rfl
  · -- the clause, or its simulation by a second key, says what was wanted
    rw [if_neg h]
    cases sup <;> cases o.nullsFirst <;> rfl

/-- the decision core, all 3 source classes × 3 target classes × 3 support flags × 9 spellings = 243 cases at once: the
    generator's half applied to what the parser's half stores -/
theorem decision_core (src dst : NullOrdering) (sup : Option Bool) (s : OrdSpec) :
    effective dst (genOrdered dst sup (parseOrdered src s)) = some (specEffective src s) := by
  rw [effective_genOrdered, parseOrdered_eq]
  rfl

theorem item_preserved (src dst : NullOrdering) (sup : Option Bool) (s : OrdSpec) (f : Row → Val) (a b : Row) :
    cmpKeys ((genOrdered dst sup (parseOrdered src s)).map (keySem dst f)) a b = cmpKey (specSem src f s) a b := by
  rw [lift_effective dst f _ _ _ (decision_core src dst sup s)]
  rfl

theorem keys_preserved (src dst : NullOrdering) (sup : Option Bool) (ob : OrderBy) (a b : Row) :
    cmpKeys (dstKeys src dst sup ob) a b = cmpKeys (srcKeys src ob) a b := by
  induction ob with
  | nil => rfl
  | cons sf rest ih =>
    simp only [dstKeys, srcKeys, List.flatMap_cons, List.map_cons, cmpKeys_append] at ih ⊢
    rw [item_preserved, cmpKeys, ih]

theorem same_refl (v : DV) : DV.same v v = true := by
  cases v <;> simp [DV.same, DV.num?]

theorem same_refl_num (n d : Int) : DV.same (.real n d) (.real n d) = true := same_refl _

theorem DV.num_cases {v : DV} (h : v.num?.isSome = true) : (∃ i, v = .int i) ∨ ∃ n d, v = .real n d :=
  match v, h with
  | .int i, _ => .inl ⟨i, rfl⟩
  | .real n d, _ => .inr ⟨n, d, rfl⟩

theorem DV.isZero_cases {v : DV} (h : v.isZero = true) : v = .int 0 ∨ ∃ d, v = .real 0 d := by
  cases v <;> simp_all [DV.isZero, DV.num?]

/- The equations of `divV`, named by the constructors of the operands, left operand first.  A NULL operand makes the
   quotient NULL; two numbers `an / ad` and `bn / bd` with `bn ≠ 0` are divided as fractions, except that SQLite
   truncates on two integers; a number divided by zero is NULL on SQLite, NaN or an infinity on DuckDB. -/

theorem divV_null_left (e : Engine) (b : DV) (h : b ≠ .err) : divV e .null b = .null := by
  cases b <;> simp_all [divV]

@[simp] theorem divV_int_null (e : Engine) (x : Int) : divV e (.int x) .null = .null := by simp [divV]

@[simp] theorem divV_real_null (e : Engine) (x y : Int) : divV e (.real x y) .null = .null := by simp [divV]

theorem divV_sqlite_int_int (x y : Int) (hy : y ≠ 0) : divV .sqlite (.int x) (.int y) = .int (x.tdiv y) := by
  simp [divV, hy]

theorem divV_duckdb_int_int (x y : Int) (hy : y ≠ 0) : divV .duckdb (.int x) (.int y) = .real x y := by
  simp [divV, hy]

theorem divV_real_int (e : Engine) (an ad y : Int) (hy : y ≠ 0) :
    divV e (.real an ad) (.int y) = .real an (ad * y) := by
  simp [divV, DV.num?, hy]

theorem divV_int_real (e : Engine) (x bn bd : Int) (hb : bn ≠ 0) :
    divV e (.int x) (.real bn bd) = .real (x * bd) bn := by
  simp [divV, DV.num?, hb]

theorem divV_real_real (e : Engine) (an ad bn bd : Int) (hb : bn ≠ 0) :
    divV e (.real an ad) (.real bn bd) = .real (an * bd) (ad * bn) := by
  simp [divV, DV.num?, hb]

theorem divV_sqlite_by_zero (A B : DV) (hA : A.num?.isSome = true) (hB : B.isZero = true) :
    divV .sqlite A B = .null := by
  rcases DV.num_cases hA with ⟨x, rfl⟩ | ⟨an, ad, rfl⟩ <;> rcases DV.isZero_cases hB with rfl | ⟨d, rfl⟩ <;> rfl

theorem divV_duckdb_by_zero (A B : DV) (an ad : Int) (hA : A.num? = some (an, ad)) (hB : B.isZero = true) :
    divV .duckdb A B = if an == 0 then .nan else .inf ((an < 0) != (ad < 0)) := by
  rcases DV.isZero_cases hB with rfl | ⟨d, rfl⟩ <;> cases A <;> cases hA <;> simp [divV, DV.num?]

theorem nullif0V_int (v : Int) : nullif0V (.int v) = if v == 0 then .null else .int v := by
  simp [nullif0V, DV.isZero, DV.num?]

theorem nullif0V_real (v d : Int) : nullif0V (.real v d) = if v == 0 then .null else .real v d := by
  simp [nullif0V, DV.isZero, DV.num?]

@[simp] theorem nullif0V_null : nullif0V .null = .null := rfl

theorem nullif0V_ne_err (v : DV) (h : v ≠ .err) : nullif0V v ≠ .err := by
  unfold nullif0V; split <;> simp [h]

theorem operandVal_ne_err (a : Ann) (r : Option Int) : operandVal a r ≠ .err := by
  cases r <;> simp [operandVal]; split <;> simp

/-- everything `div_sql` can print for one division -/
def genDivShapes : List DEx :=
  [.div .l .r, .div .l (.nullif0 .r), .div (.castDouble .l) .r, .div (.castDouble .l) (.nullif0 .r),
   .castBigint (.div .l .r)]

theorem genDiv_mem_shapes (dt ds : Bool) (n : DivNode) (la ra : Ann) : genDiv dt ds n la ra ∈ genDivShapes := by
  unfold genDiv
  -- with or without the NULLIF on the right operand, every leaf of the decision tree is one of the five shapes
  cases (!ds && n.safe) <;>
    exact ite_mem (ite_mem (by decide) (by decide)) (ite_mem (ite_mem (by decide) (by decide)) (by decide))

/-- what `div_sql` prints for one division, DuckDB → SQLite (TYPED_DIVISION and SAFE_DIVISION hold of the target only) … -/
theorem genDiv_toSqlite (la ra : Ann) : genDiv true true ⟨false, false⟩ la ra =
    if la = .real ∨ ra = .real then .div .l .r else .div (.castDouble .l) .r := by
  cases la <;> cases ra <;> rfl

/-- … and SQLite → DuckDB -/
theorem genDiv_toDuckdb (la ra : Ann) : genDiv false false ⟨true, true⟩ la ra =
    if la = .int ∧ ra = .int then .castBigint (.div .l .r) else .div .l (.nullif0 .r) := by
  cases la <;> cases ra <;> rfl

theorem castDoubleV_operandVal (a : Ann) (o : Option Int) : castDoubleV (operandVal a o) = operandVal .real o := by
  cases o <;> cases a <;> rfl

/-- true (not truncating) division of `lv` by `rv`: what `/` computes on DuckDB, and on SQLite once an operand is
    REAL-typed, by its annotation or by the CAST that `div_sql` inserts (`castDoubleV_operandVal`; for any two numbers
    that case is `divV_sqlite_castDouble`) -/
theorem divV_true (e : Engine) (la ra : Ann) (lv rv : Int) (hz : rv ≠ 0)
    (ht : e = .duckdb ∨ la = .real ∨ ra = .real) :
    divV e (operandVal la (some lv)) (operandVal ra (some rv)) = .real lv rv := by
  cases e <;> cases la <;> cases ra <;>
    simp [operandVal, divV_duckdb_int_int, divV_real_int, divV_int_real, divV_real_real, hz] at ht ⊢

theorem divV_sqlite_trunc (la ra : Ann) (lv rv : Int) (hz : rv ≠ 0) (hl : la ≠ .real) (hr : ra ≠ .real) :
    divV .sqlite (operandVal la (some lv)) (operandVal ra (some rv)) = .int (lv.tdiv rv) := by
  cases la <;> cases ra <;> simp [operandVal, divV_sqlite_int_int, hz] at hl hr ⊢

theorem divV_sqlite_zero (la ra : Ann) (lv : Int) :
    divV .sqlite (operandVal la (some lv)) (operandVal ra (some 0)) = .null :=
  divV_sqlite_by_zero _ _ (by cases la <;> rfl) (by cases ra <;> rfl)

theorem divV_operand_null (e : Engine) (a : Ann) (i : Int) : divV e (operandVal a (some i)) .null = .null := by
  cases a <;> simp [operandVal]

theorem nullif0V_operandVal (a : Ann) (i : Int) :
    nullif0V (operandVal a (some i)) = if i = 0 then .null else operandVal a (some i) := by
  cases a <;> simp [operandVal, nullif0V_int, nullif0V_real]

theorem evalDiv_null_left (eng : Engine) (e : DEx) (he : e ∈ genDivShapes) (R : DV) (hR : R ≠ .err) :
    evalDiv eng e .null R = .null := by
  simp only [genDivShapes, List.mem_cons, List.not_mem_nil, or_false] at he
  rcases he with rfl | rfl | rfl | rfl | rfl <;>
    simp [evalDiv, castDoubleV, castBigintV, divV_null_left, hR, nullif0V_ne_err]

theorem evalDiv_null_right (eng : Engine) (e : DEx) (he : e ∈ genDivShapes) (a : Ann) (i : Int) :
    evalDiv eng e (operandVal a (some i)) .null = .null := by
  simp only [genDivShapes, List.mem_cons, List.not_mem_nil, or_false] at he
  rcases he with rfl | rfl | rfl | rfl | rfl <;>
    simp [evalDiv, castDoubleV_operandVal, divV_operand_null, castBigintV]

/-- generation for DuckDB -> SQLite: TYPED_DIVISION and SAFE_DIVISION hold of the target, not of the source -/
abbrev toSqlite (anns : Nat → Ann) : DT → CEx := genT true true ⟨false, false⟩ anns

theorem DT.ann_opnd (anns : Nat → Ann) (i : Nat) : (DT.opnd i).ann anns = anns i := rfl

/-- the trees the parser builds: `/` associates to the left, so the right operand of a Div is never a bare Div -/
def DT.parsed : DT → Bool
  | .opnd _ => true
  | .paren t => t.parsed
  | .div l r => l.parsed && r.parsed && !r.isDiv

/-- every divisor of the text evaluates (on DuckDB) to something that is not zero -/
def divisorsNonzero (vals : Nat → DV) : DT → Prop
  | .opnd _ => True
  | .paren t => divisorsNonzero vals t
  | .div l r => divisorsNonzero vals l ∧ divisorsNonzero vals r ∧ (evalC .duckdb vals (plainT r)).isZero = false

theorem DT.ann_ne_real (anns : Nat → Ann) (h : ∀ i, anns i ≠ .real) (t : DT) : t.ann anns ≠ .real := by
  cases t with
  | opnd i => exact h i
  | paren _ => exact Ann.noConfusion
  | div _ _ => exact Ann.noConfusion

theorem flat_of_not_isDiv (dt ds : Bool) (n : DivNode) (anns : Nat → Ann) (t : DT) (h : t.isDiv = false) :
    flat dt ds n anns t = genT dt ds n anns t := by
  cases t with
  | div _ _ => cases h
  | opnd _ => simp only [flat, genT]
  | paren _ => simp only [flat, genT]

/-- DuckDB's quotient of two numbers, the divisor not zero, is a number again -/
theorem divV_duckdb_isNum (A B : DV) (hA : A.num?.isSome = true) (hB : B.num?.isSome = true)
    (hz : B.isZero = false) : (divV .duckdb A B).num?.isSome = true := by
  rcases DV.num_cases hA with ⟨x, rfl⟩ | ⟨an, ad, rfl⟩ <;> rcases DV.num_cases hB with ⟨y, rfl⟩ | ⟨bn, bd, rfl⟩ <;>
    simp_all [DV.num?, DV.isZero, divV_duckdb_int_int, divV_real_int, divV_int_real, divV_real_real]

/-- what the CAST inserted by `div_sql` achieves: with its left operand cast to REAL, SQLite's `/` is the division
    DuckDB performs, on all numbers with a non-zero divisor -/
theorem divV_sqlite_castDouble (A B : DV) (hA : A.num?.isSome = true) (hB : B.num?.isSome = true)
    (hz : B.isZero = false) : divV .sqlite (castDoubleV A) B = divV .duckdb A B := by
  rcases DV.num_cases hA with ⟨x, rfl⟩ | ⟨an, ad, rfl⟩ <;> rcases DV.num_cases hB with ⟨y, rfl⟩ | ⟨bn, bd, rfl⟩ <;>
    simp_all [DV.num?, DV.isZero, castDoubleV, divV_duckdb_int_int, divV_real_int, divV_int_real, divV_real_real]

/-- on DuckDB a tree of divisions over numbers, no divisor zero, evaluates to a number -/
theorem evalC_plainT_isNum (vals : Nat → DV) (hv : ∀ i, (vals i).num?.isSome = true) (t : DT)
    (hz : divisorsNonzero vals t) : (evalC .duckdb vals (plainT t)).num?.isSome = true := by
  induction t with
  | opnd i => exact hv i
  | paren t ih => exact ih hz
  | div l r ihl ihr =>
    obtain ⟨hzl, hzr, hr0⟩ := hz
    exact divV_duckdb_isNum _ _ (ihl hzl) (ihr hzr) hr0

/-- every Div gets its own CAST: neither operand is REAL-typed, so the left one is wrapped and goes back through
    `sql()` (and `div_sql`); the right one is not a Div, so `binary` has nothing to flatten -/
theorem toSqlite_div (anns : Nat → Ann) (h : ∀ i, anns i ≠ .real) (l r : DT) (hnd : r.isDiv = false) :
    toSqlite anns (.div l r) = .div (.castDouble (toSqlite anns l)) (toSqlite anns r) := by
  simp only [toSqlite, genT, flat_of_not_isDiv _ _ _ _ r hnd]
  simp [DT.ann_ne_real anns h]

/-- DuckDB -> SQLite, every tree of divisions the parser can build (any nesting of chains and parentheses) over
    operands that are not REAL-typed: the generated text evaluates on SQLite to the number DuckDB computes -/
theorem toSqlite_eval (anns : Nat → Ann) (h : ∀ i, anns i ≠ .real) (vals : Nat → DV)
    (hv : ∀ i, (vals i).num?.isSome = true) (t : DT) (hp : t.parsed = true) (hz : divisorsNonzero vals t) :
    evalC .sqlite vals (toSqlite anns t) = evalC .duckdb vals (plainT t) := by
  induction t with
  | opnd i => rfl
  | paren t ih => exact ih hp hz
  | div l r ihl ihr =>
    simp only [DT.parsed, Bool.and_eq_true, Bool.not_eq_true'] at hp
    obtain ⟨⟨hpl, hpr⟩, hnd⟩ := hp
    obtain ⟨hzl, hzr, hr0⟩ := hz
    rw [toSqlite_div anns h l r hnd]
    simp only [evalC, plainT, ihl hpl hzl, ihr hpr hzr]
    exact divV_sqlite_castDouble _ _ (evalC_plainT_isNum vals hv l hzl) (evalC_plainT_isNum vals hv r hzr) hr0

theorem chainT_wellFormed (v : Nat → Int) (k : Nat) (hz : ∀ i, 1 ≤ i → i ≤ k → v i ≠ 0) :
    (chainT k).parsed = true ∧ divisorsNonzero (fun i => .int (v i)) (chainT k) := by
  induction k with
  | zero => exact ⟨rfl, trivial⟩
  | succ k ih =>
    obtain ⟨hp, hd⟩ := ih fun i h1 h2 => hz i h1 (Nat.le_succ_of_le h2)
    have hk : v (k + 1) ≠ 0 := hz (k + 1) (Nat.le_add_left ..) (Nat.le_refl _)
    exact ⟨by simp [chainT, DT.parsed, DT.isDiv, hp], hd, trivial, by simp [plainT, evalC, DV.isZero, DV.num?, hk]⟩

/-- the single-node shape read as a tree over the operands 0 and 1 -/
def DEx.toCEx : DEx → CEx
  | .l => .opnd 0
  | .r => .opnd 1
  | .castDouble e => .castDouble e.toCEx
  | .castBigint e => .castBigint e.toCEx
  | .nullif0 e => .nullif0 e.toCEx
  | .div a b => .div a.toCEx b.toCEx

/-- with operands as children nothing is flattened: on `o₀ / o₁` the tree model is the single-node model `genDiv` -/
theorem genT_single (dt ds : Bool) (n : DivNode) (anns : Nat → Ann) :
    genT dt ds n anns (chainT 1) = (genDiv dt ds n (anns 0) (anns 1)).toCEx := by
  simp only [chainT, genT, flat, DT.ann, genDiv, Nat.zero_add, apply_ite DEx.toCEx, DEx.toCEx]
  rfl

theorem limit_roundtrip (f : LimitForm) (t : Table) : limitSem (genLimit (parseLimit f)) t = limitSem f t := by
  cases f <;> simp [parseLimit, genLimit, limitSem, limitOffset]

theorem SetTree.weight_pos (t : SetTree) : 0 < t.weight := by cases t <;> simp [SetTree.weight] <;> omega

theorem setOpsLoop_spec (fuel : Nat) (st : List SetItem) (out : List SetTok)
    (h : (st.map SetItem.weight).sum ≤ fuel) :
    setOpsLoop fuel st out = out ++ st.flatMap SetItem.flat := by
  induction fuel generalizing st out with
  | zero =>
    cases st with
    | nil => simp [setOpsLoop]
    | cons x xs =>
      have : 0 < x.weight := by
        cases x with
        | tree t => exact t.weight_pos
        | kw _ _ => exact Nat.one_pos
      simp only [List.map_cons, List.sum_cons] at h
      omega
  | succ f ih =>
    -- one iteration: the popped item's weight pays for the step and for what it pushes
    rcases st with _ | ⟨⟨⟨i⟩ | ⟨k, d, l, r⟩⟩ | ⟨k, d⟩, xs⟩
    · simp [setOpsLoop]
    all_goals
      simp only [setOpsLoop]
      rw [ih _ _ (by simp only [List.map_cons, List.sum_cons, SetItem.weight, SetTree.weight] at h ⊢; omega)]
      simp [SetItem.flat, SetTree.inorder, List.append_assoc]

theorem findNewNameFrom_fresh (taken : List String) (base : String) (fuel i : Nat) (n : String)
    (h : findNewNameFrom taken base fuel i = some n) : n ∉ taken := by
  induction fuel generalizing i with
  | zero => cases h
  | succ f ih =>
    simp only [findNewNameFrom] at h
    split at h
    · exact ih _ h
    · rename_i hc
      cases h
      simpa using hc

theorem findNewName_fresh (taken : List String) (base n : String) (h : findNewName taken base = some n) :
    n ∉ taken := by
  unfold findNewName at h
  split at h
  · exact findNewNameFrom_fresh taken base _ _ n h
  · rename_i hc
    cases h
    simpa using hc

theorem hoistAliases_spec (base : String) (k : Nat) (taken names : List String)
    (h : hoistAliases base taken k = some names) :
    names.Nodup ∧ (∀ n ∈ names, n ∉ taken) ∧ names.length = k := by
  induction k generalizing taken names with
  | zero => cases h; simp
  | succ k ih =>
    simp only [hoistAliases] at h
    split at h
    · cases h
    · rename_i a hf
      obtain ⟨rest, hr, rfl⟩ := Option.map_eq_some_iff.mp h
      -- the later aliases avoid `taken ++ [a]`, that is `a` and `taken`
      obtain ⟨hnd, hfresh, hlen⟩ := ih _ _ hr
      refine ⟨List.nodup_cons.mpr ⟨fun hm => hfresh a hm (by simp), hnd⟩, fun n hn => ?_, by simp [hlen]⟩
      rcases List.mem_cons.mp hn with rfl | h2
      · exact findNewName_fresh taken base _ hf
      · exact fun hin => hfresh n h2 (by simp [hin])

theorem rowNumberOneAux_eq (key : Row → Val) (t : Table) (pre : Table) (seen : List Val)
    (h : ∀ v, seen.contains v = pre.any (fun p => key p == v)) :
    rowNumberOneAux key pre t = firstPerKeyAux key seen t := by
  induction t generalizing pre seen with
  | nil => rfl
  | cons r rs ih =>
    -- "first row of its partition" is "key not seen yet"
    have hcount : ((pre.filter (fun p => key p == key r)).length + 1 == 1) = !(seen.contains (key r)) := by
      rw [h, ← not_isEmpty_filter_eq_any]
      cases pre.filter (fun p => key p == key r) <;> rfl
    simp only [rowNumberOneAux, firstPerKeyAux, hcount]
    cases hs : seen.contains (key r)
    · rw [ih (r :: pre) (key r :: seen) fun v => by rw [List.contains_cons, List.any_cons, h v, BEq.comm]]
      rfl
    · -- a key that was seen already adds nothing to `seen`
      rw [ih (r :: pre) seen fun v => by
        rw [List.any_cons, ← h v]
        cases hv : key r == v
        · rfl
        · rw [← eq_of_beq hv, hs]; rfl]
      rfl

theorem firstPerKeyAux_map_key (key : Row → Val) (t : Table) (seen : List Val) :
    (firstPerKeyAux key seen t).map key = dedupValsAux seen (t.map key) := by
  induction t generalizing seen with
  | nil => rfl
  | cons r rs ih =>
    simp only [firstPerKeyAux, List.map_cons, dedupValsAux]
    cases seen.contains (key r)
    · simp [ih]
    · simp [ih]

end SqlglotModel.Transpile
