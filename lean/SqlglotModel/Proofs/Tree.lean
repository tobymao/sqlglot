/-
  Proofs/Tree.lean — the editing operations keep the invariant `Inv` (C08, C09).

  The edits (`set` in all its branches, `append`) all write one slot `(p, k)` of an uncached node and some back pointers:
  `SlotWrite` names that shape, `SlotWrite.invX` is the one preservation argument, and `setCore_spec` says which slot
  write each branch of `set` is (`SetWrite`).  Changes that touch neither `args` nor caches (`cls()`, clearing pointers) go
  through `invX_of_sameArgs`.  Both are stated for `InvX`, so that they also serve `__deepcopy__`, which writes a copy whose
  `_hash` it has just carried over.  `__hash__` and `==` only fill `_hash` fields (`fill_spec`, `opEq_spec`).
-/
import SqlglotModel.Proofs.TreeCells

namespace SqlglotModel.Tree

variable {H : Type}

/-- loop rule for `setParentItems` (`spi_` in the names below): what holds of the heap at the start and is kept by a
    `setPtr` at a node of `L` holds at the end -/
theorem spi_induct (self : Id) (k : String) (P : Heap H → Prop) : ∀ (L : List Item) (o : Nat) (h : Heap H), P h →
    (∀ h c i, P h → Item.node c ∈ L → P (setPtr h c (some self) (some k) (some i))) →
    P (setParentItems self k o L h)
  | [], _, _, h0, _ => h0
  | .node c :: r, o, h, h0, step =>
    spi_induct self k P r (o + 1) _ (step h c o h0 (List.mem_cons_self ..))
      (fun h c i hp hc => step h c i hp (List.mem_cons_of_mem _ hc))
  | .leaf _ :: r, o, h, h0, step =>
    spi_induct self k P r (o + 1) h h0 (fun h c i hp hc => step h c i hp (List.mem_cons_of_mem _ hc))

theorem spi_fields (self : Id) (k : String) (L : List Item) (o : Nat) (h : Heap H) (m : Id) :
    (setParentItems self k o L h m).args = (h m).args ∧ Fields (setParentItems self k o L h m) (h m) :=
  spi_induct self k (fun h' => (h' m).args = (h m).args ∧ Fields (h' m) (h m)) L o h ⟨rfl, rfl, rfl, rfl⟩
    (fun _ _ _ hp _ => ⟨(setPtr_args ..).trans hp.1, (fields_setPtr ..).trans hp.2⟩)

theorem spi_other (self : Id) (k : String) (L : List Item) (o : Nat) (h : Heap H) (m : Id)
    (hm : Item.node m ∉ L) : setParentItems self k o L h m = h m :=
  spi_induct self k (fun h' => h' m = h m) L o h rfl
    (fun _ c _ hp hc => by rw [setPtr_other _ _ _ _ (fun e : m = c => hm (by rw [e]; exact hc))]; exact hp)

theorem spi_at (self : Id) (k : String) : ∀ (L : List Item) (o : Nat) (h : Heap H) (j : Nat) (c : Id),
    ItemsDistinct L → L[j]? = some (.node c) →
    ptrs (setParentItems self k o L h c) = (some self, some k, some (o + j))
  | [], _, _, _, _, _, hj => by simp at hj
  | .node c0 :: r, o, h, j, c, hd, hj => by
    simp only [ItemsDistinct, List.pairwise_cons] at hd
    simp only [setParentItems]
    cases j with
    | zero =>
      simp only [List.getElem?_cons_zero, Option.some.injEq, Item.node.injEq] at hj
      subst hj
      have hnot : Item.node c0 ∉ r := fun hm => hd.1 _ hm c0 rfl rfl
      rw [spi_other self k r (o + 1) _ c0 hnot]
      simp only [ptrs, setPtr, upd_same, Nat.add_zero]
    | succ j' =>
      simp only [List.getElem?_cons_succ] at hj
      have := spi_at self k r (o + 1) (setPtr h c0 (some self) (some k) (some o)) j' c hd.2 hj
      rw [this, Nat.add_right_comm]; rfl
  | .leaf s :: r, o, h, j, c, hd, hj => by
    simp only [ItemsDistinct, List.pairwise_cons] at hd
    simp only [setParentItems]
    cases j with
    | zero => simp at hj
    | succ j' =>
      simp only [List.getElem?_cons_succ] at hj
      have := spi_at self k r (o + 1) h j' c hd.2 hj
      rw [this, Nat.add_right_comm]; rfl

theorem spi_at_zero (self : Id) (k : String) (L : List Item) (h : Heap H) {j : Nat} {c : Id} (hd : ItemsDistinct L)
    (hj : L[j]? = some (.node c)) : ptrs (setParentItems self k 0 L h c) = (some self, some k, some j) := by
  rw [spi_at self k L 0 h j c hd hj, Nat.zero_add]

theorem decrIdx_node {h h' : Heap H} {c : Id} {r : List Item} (he : decrIdx h (.node c :: r) = some h') :
    ∃ j, (h c).index = some (j + 1) ∧ decrIdx (setIndex h c (some j)) r = some h' := by
  simp only [decrIdx] at he
  split at he
  · next j hj => exact ⟨j, hj, he⟩
  · cases he

/-- what `decrIdx` over the items `L` does to the cell `m`: only `index` moves, one down at the nodes of `L` -/
structure Decr (L : List Item) (h h' : Heap H) (m : Id) : Prop where
  args : (h' m).args = (h m).args
  fields : Fields (h' m) (h m)
  parent : (h' m).parent = (h m).parent
  argKey : (h' m).argKey = (h m).argKey
  keep : Item.node m ∉ L → (h' m).index = (h m).index
  dec : ItemsDistinct L → Item.node m ∈ L → ∃ n, (h m).index = some (n + 1) ∧ (h' m).index = some n

theorem decr_spec : ∀ (L : List Item) (h h' : Heap H), decrIdx h L = some h' → ∀ m, Decr L h h' m
  | [], h, h', he, m => by cases he; exact ⟨rfl, ⟨rfl, rfl, rfl⟩, rfl, rfl, fun _ => rfl, fun _ hm => nomatch hm⟩
  | .leaf _ :: _, h, h', he, m => by simp [decrIdx] at he
  | .node c :: r, h, h', he, m => by
    obtain ⟨j, hj, he⟩ := decrIdx_node he
    have ih := decr_spec r _ h' he m
    refine ⟨by simpa using ih.args, ih.fields.trans (fields_setIndex ..), by simpa using ih.parent,
      by simpa using ih.argKey, fun hm => ?_, fun hd hm => ?_⟩
    · rw [ih.keep (fun x => hm (List.mem_cons_of_mem _ x)),
        setIndex_other _ _ (fun e => hm (List.mem_cons.mpr (.inl (by rw [e]))))]
    · simp only [ItemsDistinct, List.pairwise_cons] at hd
      have hnot : Item.node c ∉ r := fun hc => hd.1 _ hc c rfl rfl
      rcases List.mem_cons.mp hm with e | e
      · cases e
        exact ⟨j, hj, by rw [ih.keep hnot]; simp [setIndex]⟩
      · obtain ⟨n, a1, a2⟩ := ih.dec hd.2 e
        rw [setIndex_other _ _ (fun e' : m = c => hnot (by rw [← e']; exact e))] at a1
        exact ⟨n, a1, a2⟩

theorem itemsDistinct_of_inj {items : List Item}
    (h : ∀ (i j : Nat) (c : Id), items[i]? = some (Item.node c) → items[j]? = some (Item.node c) → i = j) :
    ItemsDistinct items := by
  rw [ItemsDistinct, List.pairwise_iff_getElem]
  intro i j hi hj hij c hc hc'
  have := h i j c (by rw [List.getElem?_eq_getElem hi, hc]) (by rw [List.getElem?_eq_getElem hj, hc'])
  omega

theorem distinct_of_links {h : Heap H} (hl : Links h) {p : Id} {k : String} {items : List Item}
    (hg : getKey k (h p).args = some (.many items)) : ItemsDistinct items :=
  itemsDistinct_of_inj (fun i j _ hi hj =>
    Option.some.inj (no_sharing hl (i := some i) (i' := some j) ⟨_, hg, hi⟩ ⟨_, hg, hj⟩).2.2)

theorem distinct_splice {items mid : List Item} {i j : Nat} (hd : ItemsDistinct items) (hm : ItemsDistinct mid)
    (hx : ∀ c, Item.node c ∈ mid → Item.node c ∉ items) (hij : i ≤ j) :
    ItemsDistinct (items.take i ++ mid ++ items.drop j) := by
  have hsplit : ItemsDistinct (items.take i ++ items.drop i) := by rw [List.take_append_drop]; exact hd
  simp only [ItemsDistinct, List.pairwise_append] at hsplit ⊢
  obtain ⟨ht, hdr, hcross⟩ := hsplit
  refine ⟨⟨ht, hm, ?_⟩, List.Pairwise.sublist (List.drop_sublist _ _) hd, ?_⟩
  · intro a ha b hb c hac hbc
    subst hac; subst hbc
    exact hx c hb (List.mem_of_mem_take ha)
  · intro a ha b hb c hac hbc
    subst hac; subst hbc
    rcases List.mem_append.mp ha with ha | ha
    · exact hcross _ ha _ ((List.drop_sublist_drop_left items hij).subset hb) c rfl rfl
    · exact hx c ha (List.mem_of_mem_drop hb)

theorem stored_of_mem_items {h : Heap H} {p : Id} {k : String} {items : List Item}
    (hg : getKey k (h p).args = some (.many items)) {c : Id} (hm : Item.node c ∈ items) :
    ∃ j, Stored h p k j c := by
  obtain ⟨j, hj⟩ := List.mem_iff_getElem?.mp hm
  exact ⟨some j, _, hg, by simpa [ArgHas] using hj⟩

/-- the API precondition of `set` / `replace`: the nodes of the value are stored nowhere, and a list names no node twice -/
def ValueOk (h : Heap H) : Value → Prop
  | .node c => Unstored h c
  | .list items => ItemsDistinct items ∧ ∀ c, Item.node c ∈ items → Unstored h c
  | _ => True

/-- the API precondition of `append` -/
def ItemOk (h : Heap H) : Item → Prop
  | .node c => Unstored h c
  | .leaf _ => True

/-- the hypothesis is the common form of `ValueOk` and `ValueOkAt` (TreeWalk), which differ in `P` only: `value_items hv`
    reads either -/
theorem value_items {P : Id → Prop} {v : Value}
    (hv : match v with
      | .node c => P c
      | .list items => ItemsDistinct items ∧ ∀ c, Item.node c ∈ items → P c
      | _ => True) :
    ItemsDistinct (itemOfValue v) ∧ ∀ c, Item.node c ∈ itemOfValue v → P c := by
  cases v with
  | none => exact ⟨.nil, fun _ hc => nomatch hc⟩
  | leaf s => exact ⟨List.pairwise_singleton .., fun _ hc => nomatch List.mem_singleton.mp hc⟩
  | node c => exact ⟨List.pairwise_singleton .., fun _ hc => (Item.node.inj (List.mem_singleton.mp hc)) ▸ hv⟩
  | list items => exact hv

theorem spliced_eq (items : List Item) (i : Nat) (v : Value) (ow : Bool) :
    ∃ j, i ≤ j ∧ (ow = true → j = i + 1) ∧ spliced items i v ow = items.take i ++ itemOfValue v ++ items.drop j := by
  cases ow with
  | true => exact ⟨i + 1, Nat.le_succ i, fun _ => rfl, by cases v <;> rfl⟩
  | false =>
    cases v with
    | list vs => exact ⟨i + 1, Nat.le_succ i, (fun e => nomatch e), rfl⟩
    | _ => exact ⟨i, Nat.le_refl i, (fun e => nomatch e), rfl⟩

theorem mem_spliced {items : List Item} {i : Nat} {v : Value} {ow : Bool} {x : Item}
    (hx : x ∈ spliced items i v ow) : x ∈ itemOfValue v ∨ ∃ j, items[j]? = some x ∧ (ow = true → j ≠ i) := by
  obtain ⟨j, hij, hj, hsp⟩ := spliced_eq items i v ow
  rw [hsp, List.mem_append, List.mem_append] at hx
  rcases hx with (hx | hx) | hx
  · obtain ⟨t, ht⟩ := List.mem_iff_getElem?.mp hx
    rw [List.getElem?_take] at ht
    split at ht
    · exact .inr ⟨t, ht, fun _ => by omega⟩
    · cases ht
  · exact .inl hx
  · obtain ⟨t, ht⟩ := List.mem_iff_getElem?.mp hx
    rw [List.getElem?_drop] at ht
    exact .inr ⟨j + t, ht, fun e => by have := hj e; omega⟩

theorem distinct_spliced {h : Heap H} (hl : Links h) {p : Id} {k : String} {items : List Item}
    (hg : getKey k (h p).args = some (.many items)) {v : Value} (hvd : ItemsDistinct (itemOfValue v))
    (hvu : ∀ c, Item.node c ∈ itemOfValue v → Unstored h c) (i : Nat) (ow : Bool) :
    ItemsDistinct (spliced items i v ow) := by
  obtain ⟨j, hij, _, hsp⟩ := spliced_eq items i v ow
  rw [hsp]
  refine distinct_splice (distinct_of_links hl hg) hvd (fun c hc hci => ?_) hij
  obtain ⟨j', hs'⟩ := stored_of_mem_items hg hci
  exact hvu c hc _ _ _ hs'

/-- the one shape of every branch of `set` and `append` that changes the heap: `p.args[k]` is assigned or popped, and back
    pointers are written at some nodes `W`, every written `parent` being `p` -/
structure SlotWrite (h h2 : Heap H) (p : Id) (k : String) (new : Option Arg) (W : Id → Prop) : Prop where
  args : ∀ m, (h2 m).args = (setArgs h p (putKey k new (h p).args) m).args
  fields : ∀ m, Fields (h2 m) (h m)
  frame : ∀ m, ¬ W m → ptrs (h2 m) = ptrs (h m)
  parent : ∀ m, (h2 m).parent = (h m).parent ∨ (h2 m).parent = some p

namespace SlotWrite

variable {h h2 : Heap H} {p : Id} {k : String} {new : Option Arg} {W : Id → Prop}

theorem mono {W' : Id → Prop} (sw : SlotWrite h h2 p k new W) (hW : ∀ m, W m → W' m) : SlotWrite h h2 p k new W' :=
  ⟨sw.args, sw.fields, fun m hm => sw.frame m (fun hw => hm (hW m hw)), sw.parent⟩

theorem setPtr (sw : SlotWrite h h2 p k new W) {c : Id} (hc : W c) (kk : Option String) (i : Option Nat) :
    SlotWrite h (setPtr h2 c (some p) kk i) p k new W := by
  refine ⟨fun m => (setPtr_args ..).trans (sw.args m), fun m => (fields_setPtr ..).trans (sw.fields m), fun m hm => ?_,
    fun m => ?_⟩
  · rw [setPtr_other _ _ _ _ (fun e : m = c => hm (by rw [e]; exact hc))]; exact sw.frame m hm
  · by_cases hmc : m = c
    · subst hmc; exact .inr (setPtr_self ..).1
    · rw [setPtr_other _ _ _ _ hmc]; exact sw.parent m

theorem argsOther (sw : SlotWrite h h2 p k new W) {m : Id} (hm : m ≠ p) : (h2 m).args = (h m).args :=
  (sw.args m).trans (setArgs_args_other _ _ hm)

theorem argsSelf (sw : SlotWrite h h2 p k new W) : (h2 p).args = putKey k new (h p).args :=
  (sw.args p).trans (setArgs_args_self ..)

theorem same (sw : SlotWrite h h2 p k new W) {m : Id} (hp : m ≠ p) (hw : ¬ W m) : h2 m = h m :=
  node_eq (sw.argsOther hp) (sw.fields m) (sw.frame m hw)

theorem stored (sw : SlotWrite h h2 p k new W) {q : Id} {k' : String} {j : Option Nat} {c : Id}
    (hs : Stored h2 q k' j c) :
    (q = p ∧ k' = k ∧ ∃ a, new = some a ∧ ArgHas a j c) ∨ (¬ (q = p ∧ k' = k) ∧ Stored h q k' j c) := by
  obtain ⟨a, hg, ha⟩ := hs
  by_cases hq : q = p
  · subst hq
    rw [sw.argsSelf, getKey_putKey] at hg
    split at hg
    · next e => subst e; exact .inl ⟨rfl, rfl, a, hg, ha⟩
    · next e => exact .inr ⟨fun x => e x.2.symm, a, hg, ha⟩
  · rw [sw.argsOther hq] at hg
    exact .inr ⟨fun x => hq x.1, a, hg, ha⟩

theorem keys (sw : SlotWrite h h2 p k new W) (hk : Keys h) : Keys h2 := by
  intro n
  by_cases hn : n = p
  · subst hn; rw [sw.argsSelf]; exact keysUnique_putKey (hk n)
  · rw [sw.argsOther hn]; exact hk n

/-- `hs`: the written node must not claim a hash of its old `args`: it is uncached, or it is the cell whose cache clause is
    suspended. `hW`: a node whose pointers are written is stored nowhere else, being unattached or an old occupant of the
    slot. `hnew`: the new occupants point at their positions -/
theorem invX (F : HashFns H) {x : Option Id} (sw : SlotWrite h h2 p k new W) (hI : InvX F x h)
    (hs : (h p).hash = none ∨ x = some p) (hW : ∀ m, W m → Unstored h m ∨ ∃ j, Stored h p k j m)
    (hnew : ∀ a j c, new = some a → ArgHas a j c → ptrs (h2 c) = (some p, some k, j)) : InvX F x h2 := by
  refine ⟨fun q k' j c hst => ?_, fun n y hy hne => ?_, sw.keys hI.keys⟩
  · rcases sw.stored hst with ⟨rfl, rfl, a, hn, ha⟩ | ⟨hne, hs0⟩
    · exact hnew a j c hn ha
    · -- `c` is still stored where it was, outside the slot: its pointers were not written
      rw [sw.frame c (fun hw => ?_)]
      · exact hI.links q k' j c hs0
      · rcases hW c hw with hu | ⟨j', hs'⟩
        · exact hu q k' j hs0
        · obtain ⟨e1, e2, _⟩ := no_sharing hI.links hs0 hs'
          exact hne ⟨e1, e2⟩
  · rw [(sw.fields n).hash] at hy
    have hns : n ≠ p := by
      intro e; subst e
      rcases hs with hs | hs
      · rw [hs] at hy; cases hy
      · exact hne hs.symm
    rw [hashNode_transfer F (sw.fields n).cls (sw.fields n).raw (sw.argsOther hns) (fun c _ => (sw.fields c).hash)]
    exact hI.cache n y hy hne

theorem inv (F : HashFns H) (sw : SlotWrite h h2 p k new W) (hI : Inv F h) (hs : (h p).hash = none)
    (hW : ∀ m, W m → Unstored h m ∨ ∃ j, Stored h p k j m)
    (hnew : ∀ a j c, new = some a → ArgHas a j c → ptrs (h2 c) = (some p, some k, j)) : Inv F h2 :=
  (sw.invX F (hI.suspend none) (.inl hs) hW hnew).inv

end SlotWrite

theorem slotWrite_setArgs (h : Heap H) (p : Id) (k : String) (new : Option Arg) :
    SlotWrite h (setArgs h p (putKey k new (h p).args)) p k new (fun _ => False) :=
  ⟨fun _ => rfl, fun _ => fields_setArgs .., fun _ _ => by simp [ptrs],
    fun _ => .inl (setArgs_parent ..)⟩

theorem slotWrite_setPtr (h : Heap H) (p : Id) (k : String) (new : Option Arg) (c : Id) (kk : Option String)
    (i : Option Nat) :
    SlotWrite h (setPtr (setArgs h p (putKey k new (h p).args)) c (some p) kk i) p k new (· = c) :=
  ((slotWrite_setArgs h p k new).mono (W' := (· = c)) (fun _ hf => hf.elim)).setPtr rfl kk i

theorem slotWrite_spi (h : Heap H) (p : Id) (k : String) (new : Option Arg) (kk : String) (o : Nat) (L : List Item) :
    SlotWrite h (setParentItems p kk o L (setArgs h p (putKey k new (h p).args))) p k new
      (fun m => Item.node m ∈ L) :=
  spi_induct p kk (fun h' => SlotWrite h h' p k new (fun m => Item.node m ∈ L)) L o _
    ((slotWrite_setArgs h p k new).mono (fun _ hf => hf.elim)) (fun _ _ _ sw hc => sw.setPtr hc _ _)

theorem slotWrite_decr {h h' : Heap H} {L : List Item} (hd : decrIdx h L = some h') (p : Id) (k : String)
    (new : Option Arg) :
    SlotWrite h (setArgs h' p (putKey k new (h p).args)) p k new (fun m => Item.node m ∈ L) := by
  have hs := decr_spec _ _ _ hd
  refine ⟨fun m => ?_, fun m => (fields_setArgs ..).trans (hs m).fields, fun m hm => ?_,
    fun m => .inl ((setArgs_parent ..).trans (hs m).parent)⟩
  · by_cases hm : m = p
    · subst hm; simp
    · rw [setArgs_args_other _ _ hm, setArgs_args_other _ _ hm, (hs m).args]
  · simp only [ptrs, setArgs_parent, setArgs_argKey, setArgs_index, (hs m).parent, (hs m).argKey, (hs m).keep hm]

theorem setOnScalar_eq {h h2 : Heap H} {s : Scalar} {i : Nat} (he : setOnScalar h s i = some h2) : h2 = h := by
  unfold setOnScalar at he
  split at he
  · split at he
    · split at he
      · cases he
      · simp only [Option.some.injEq] at he; exact he.symm
    · cases he
  · simp only [Option.some.injEq] at he; exact he.symm

theorem setCore_some {h h2 : Heap H} {self : Id} {k : String} {v : Value} {i : Nat} {ow : Bool}
    (he : setCore h self k v (some i) ow = some h2) :
    (h2 = h ∧ ∀ c, ¬ Stored h self k (some i) c) ∨
    ∃ items, getKey k (h self).args = some (.many items) ∧ i < items.length ∧
      ((v = .none ∧ ∃ h', decrIdx h (items.drop (i + 1)) = some h' ∧
          h2 = setArgs h' self (setKey k (.many (items.take i ++ items.drop (i + 1))) (h self).args)) ∨
        h2 = setParentItems self k 0 (spliced items i v ow)
          (setArgs h self (setKey k (.many (spliced items i v ow)) (h self).args))) := by
  unfold setCore at he
  simp only at he
  split at he
  · next hg =>
    simp only [Option.some.injEq] at he
    exact .inl ⟨he.symm, fun c ⟨a, hga, _⟩ => by rw [hg] at hga; cases hga⟩
  · next items hg =>
    have nothing : ∀ it, items[i]? = it → (∀ c, it ≠ some (.node c)) → ∀ c, ¬ Stored h self k (some i) c := by
      rintro it hit hne c ⟨a, hga, hac⟩
      rw [hg] at hga; cases hga
      exact hne c (hit ▸ hac)
    split at he
    · next hnone =>
      simp only [Option.some.injEq] at he
      exact .inl ⟨he.symm, nothing _ hnone (fun c e => by cases e)⟩
    · next hleaf =>
      simp only [Option.some.injEq] at he
      exact .inl ⟨he.symm, nothing _ hleaf (fun c e => by cases e)⟩
    · next it _ hit =>
      have hlen : i < items.length := by
        apply Nat.lt_of_not_le
        intro hle
        rw [List.getElem?_eq_none hle] at hit; cases hit
      refine .inr ⟨items, hg, hlen, ?_⟩
      split at he
      · split at he
        · next h' hdec => simp only [Option.some.injEq] at he; exact .inl ⟨rfl, h', hdec, he.symm⟩
        · cases he
      · simp only [Option.some.injEq] at he; exact .inr he.symm
  · next s hg =>
    refine .inl ⟨setOnScalar_eq he, ?_⟩
    rintro c ⟨a, hga, hac⟩
    rw [hg] at hga; cases hga
    exact not_argHas_leaf hac
  · cases he

/-- a branch of `p.set(k, v, idx, ow)` that changes the heap writes the slot `(p, k)`:
    * `written`: pointers are written only at nodes of the value and at old occupants;
    * `origin` : what the slot then holds comes from the value or from the old occupants (with `overwrite`, not the one at
                 the index);
    * `placed` : when the value's nodes are distinct — and, for a splice at an index, unattached — the new occupants
                 point at their positions -/
structure SetWrite (h h2 : Heap H) (p : Id) (k : String) (v : Value) (idx : Option Nat) (ow : Bool)
    (new : Option Arg) (W : Id → Prop) : Prop where
  sw : SlotWrite h h2 p k new W
  written : ∀ m, W m → Item.node m ∈ itemOfValue v ∨ ∃ j, Stored h p k j m
  origin : ∀ a j c, new = some a → ArgHas a j c → Item.node c ∈ itemOfValue v ∨
    ∃ i j', idx = some i ∧ (ow = true → j' ≠ i) ∧ Stored h p k (some j') c
  placed : Links h → ItemsDistinct (itemOfValue v) → (idx ≠ none → ∀ c, Item.node c ∈ itemOfValue v → Unstored h c) →
    ∀ a j c, new = some a → ArgHas a j c → ptrs (h2 c) = (some p, some k, j)

/-- `set` after the invalidation loop does nothing (an index with no node behind it) or is a `SetWrite` -/
theorem setCore_spec {h h2 : Heap H} {self : Id} {k : String} {v : Value} {idx : Option Nat} {ow : Bool}
    (he : setCore h self k v idx ow = some h2) :
    (h2 = h ∧ ∃ i, idx = some i ∧ ∀ c, ¬ Stored h self k (some i) c) ∨
    ∃ new W, SetWrite h h2 self k v idx ow new W := by
  cases idx with
  | none =>
    right
    unfold setCore at he
    simp only at he
    cases v with
    | none =>
      simp only [Option.some.injEq] at he; subst he
      refine ⟨none, _, slotWrite_setArgs h self k none, fun _ hm => hm.elim, ?_, ?_⟩
      · intro _ _ _ ha; cases ha
      · intro _ _ _ _ _ _ ha; cases ha
    | leaf s =>
      simp only [Option.some.injEq] at he; subst he
      refine ⟨some (.leaf s), _, slotWrite_setArgs h self k (some (.leaf s)), fun _ hm => hm.elim, ?_, ?_⟩
      · intro _ _ _ ha hac; cases ha; exact (not_argHas_leaf hac).elim
      · intro _ _ _ _ _ _ ha hac; cases ha; exact (not_argHas_leaf hac).elim
    | node c =>
      simp only [Option.some.injEq] at he; subst he
      refine ⟨some (.one c), _, slotWrite_setPtr h self k (some (.one c)) c (some k) none,
        fun m hm => .inl (by simp [itemOfValue, hm]), ?_, ?_⟩
      · intro _ _ _ ha hac; cases ha
        exact .inl (by simp [itemOfValue, (argHas_one.mp hac).2])
      · intro _ _ _ _ _ _ ha hac; cases ha
        obtain ⟨rfl, rfl⟩ := argHas_one.mp hac
        simp [ptrs, setPtr]
    | list vs =>
      simp only [Option.some.injEq] at he; subst he
      refine ⟨some (.many vs), _, slotWrite_spi h self k (some (.many vs)) k 0 vs, fun m hm => .inl hm, ?_, ?_⟩
      · intro _ _ _ ha hac; cases ha
        obtain ⟨n, _, hn⟩ := argHas_many.mp hac
        exact .inl (List.mem_iff_getElem?.mpr ⟨n, hn⟩)
      · intro _ hd _ _ _ _ ha hac; cases ha
        obtain ⟨n, rfl, hn⟩ := argHas_many.mp hac
        exact spi_at_zero self k vs _ hd hn
  | some i =>
    rcases setCore_some he with ⟨e, hno⟩ | ⟨items, hg, hlen, hcase⟩
    · exact .inl ⟨e, i, rfl, hno⟩
    right
    have old : ∀ {t c}, items[t]? = some (Item.node c) → Stored h self k (some t) c :=
      fun ht => ⟨_, hg, ht⟩
    rcases hcase with ⟨rfl, h', hdec, rfl⟩ | rfl
    · -- `set(k, None, i)`: item `i` is removed, the later ones are renumbered
      have sw := slotWrite_decr hdec self k (some (.many (items.take i ++ items.drop (i + 1))))
      refine ⟨_, _, sw, fun m hm => .inr (stored_of_mem_items hg (List.mem_of_mem_drop hm)), ?_, ?_⟩
      · intro _ _ c ha hac; cases ha
        obtain ⟨n, rfl, hn⟩ := argHas_many.mp hac
        rw [← List.eraseIdx_eq_take_drop_succ, List.getElem?_eraseIdx] at hn
        right
        split at hn
        · next hlt => exact ⟨i, n, rfl, fun _ => Nat.ne_of_lt hlt, old hn⟩
        · next hlt => exact ⟨i, n + 1, rfl, fun _ e => hlt (e ▸ Nat.lt_succ_self n), old hn⟩
      · intro hl _ _ _ _ c ha hac; cases ha
        obtain ⟨n, rfl, hn⟩ := argHas_many.mp hac
        rw [← List.eraseIdx_eq_take_drop_succ, List.getElem?_eraseIdx] at hn
        split at hn
        · -- before the gap: not renumbered, because it does not occur again after the gap
          refine (sw.frame c (fun hm => ?_)).trans (hl _ _ _ _ (old hn))
          obtain ⟨t, ht⟩ := List.mem_iff_getElem?.mp hm
          rw [List.getElem?_drop] at ht
          have := Option.some.inj (no_sharing hl (old hn) (old ht)).2.2
          omega
        · -- after the gap: its index was `n + 1` and has been decremented
          next hlt =>
          have hp := hl _ _ _ _ (old hn)
          simp only [ptrs, Prod.mk.injEq] at hp
          have hat : (items.drop (i + 1))[n - i]? = some (Item.node c) := by
            rw [List.getElem?_drop, Nat.add_right_comm, Nat.add_sub_cancel' (Nat.le_of_not_lt hlt)]; exact hn
          have hs := decr_spec _ _ _ hdec c
          obtain ⟨n', hn1, hn2⟩ := hs.dec
            (List.Pairwise.sublist (List.drop_sublist _ _) (distinct_of_links hl hg))
            (List.mem_iff_getElem?.mpr ⟨_, hat⟩)
          rw [hp.2.2] at hn1
          simp only [ptrs, setArgs_parent, setArgs_argKey, setArgs_index, hs.parent, hs.argKey, hp.1, hp.2.1, hn2,
            Prod.mk.injEq, Option.some.injEq, true_and]
          exact (Nat.succ.inj (Option.some.inj hn1)).symm
    · -- any other value: spliced in, the whole list re-parented
      refine ⟨some (.many (spliced items i v ow)), _,
        slotWrite_spi h self k (some (.many (spliced items i v ow))) k 0 _, fun m hm => ?_, ?_, ?_⟩
      · rcases mem_spliced hm with hx | ⟨t, ht, _⟩
        · exact .inl hx
        · exact .inr ⟨_, old ht⟩
      · intro _ _ _ ha hac; cases ha
        obtain ⟨n, _, hn⟩ := argHas_many.mp hac
        rcases mem_spliced (List.mem_iff_getElem?.mpr ⟨n, hn⟩) with hx | ⟨t, ht, hti⟩
        · exact .inl hx
        · exact .inr ⟨i, t, rfl, hti, old ht⟩
      · intro hl hd hu _ _ _ ha hac; cases ha
        obtain ⟨n, rfl, hn⟩ := argHas_many.mp hac
        exact spi_at_zero self k _ _ (distinct_spliced hl hg hd (hu (fun e => nomatch e)) i ow) hn

/-- a write of the whole slot may re-install nodes that already live in it (`replace_children` does) -/
theorem inv_setCore (F : HashFns H) {h h2 : Heap H} {self : Id} {k : String} {v : Value} {idx : Option Nat}
    {ow : Bool} (hI : Inv F h) (hs : (h self).hash = none) (hd : ItemsDistinct (itemOfValue v))
    (hv : ∀ c, Item.node c ∈ itemOfValue v → Unstored h c ∨ (idx = none ∧ ∃ j, Stored h self k j c))
    (he : setCore h self k v idx ow = some h2) : Inv F h2 := by
  rcases setCore_spec he with ⟨e, _⟩ | ⟨new, W, s⟩
  · rw [e]; exact hI
  · refine s.sw.inv F hI hs (fun m hm => ?_)
      (s.placed hI.links hd (fun hi c hc => (hv c hc).resolve_right (fun e => hi e.1)))
    rcases s.written m hm with hx | hx
    · exact (hv m hx).imp_right (·.2)
    · exact .inr hx

theorem opSet_some {fuel : Nat} {h h2 : Heap H} {self : Id} {k : String} {v : Value} {idx : Option Nat} {ow : Bool}
    (he : opSet fuel h self k v idx ow = some h2) :
    ∃ h1, inval fuel h (some self) = some h1 ∧ setCore h1 self k v idx ow = some h2 := by
  unfold opSet at he
  split at he
  · next h1 hinv => exact ⟨h1, hinv, he⟩
  · cases he

/-- `set` under the precondition of `inv_setCore`; `inv_opSet` (`ValueOk`) and `inv_opSet_whole` (`ValueOkAt`,
    Proofs/TreeWalk) are its two readings -/
theorem inv_opSet_items (F : HashFns H) {fuel : Nat} {h h2 : Heap H} {self : Id} {k : String} {v : Value}
    {idx : Option Nat} {ow : Bool} (hI : Inv F h) (hd : ItemsDistinct (itemOfValue v))
    (hv : ∀ c, Item.node c ∈ itemOfValue v → Unstored h c ∨ (idx = none ∧ ∃ j, Stored h self k j c))
    (he : opSet fuel h self k v idx ow = some h2) : Inv F h2 := by
  obtain ⟨h1, hinv, hcore⟩ := opSet_some he
  obtain ⟨hI1, ho, hn⟩ := inval_inv F hI hinv
  refine inv_setCore F hI1 hn hd (fun c hc => ?_) hcore
  exact (hv c hc).imp (unstored_hashOnly ho).mpr (fun ⟨e, j, hs⟩ => ⟨e, j, (stored_hashOnly ho).mpr hs⟩)

theorem inv_opSet (F : HashFns H) {fuel : Nat} {h h2 : Heap H} {self : Id} {k : String} {v : Value}
    {idx : Option Nat} {ow : Bool} (hI : Inv F h) (hv : ValueOk h v)
    (he : opSet fuel h self k v idx ow = some h2) : Inv F h2 :=
  let ⟨hd, hu⟩ := value_items hv
  inv_opSet_items F hI hd (fun c hc => .inl (hu c hc)) he

/-- with the index normalised first, `set(k, None, -back)` stops after the invalidation loop or is `set(k, None, pos)` -/
theorem opSetNoneNeg_normalised {fuel : Nat} {h h' : Heap H} {self : Id} {k : String} {back : Nat}
    (he : opSetNoneNeg fuel h self k back true = some h') :
    inval fuel h (some self) = some h' ∨ ∃ pos, opSet fuel h self k .none (some pos) true = some h' := by
  unfold opSetNoneNeg at he
  split at he
  · next h1 hinv =>
    have stop : some h1 = some h' → inval fuel h (some self) = some h' := fun e => hinv.trans e
    unfold setNoneNegCore at he
    split at he
    · split at he
      · exact .inl (stop he)
      · exact .inr ⟨_, by rw [opSet, hinv]; exact he⟩
    · exact .inl (stop he)
    · split at he
      · cases he
      · exact .inl (stop he)
    · cases he
  · cases he

theorem listOf_cases (k : String) (args : List (String × Arg)) :
    getKey k args = some (.many (listOf k args)) ∨ listOf k args = [] := by
  unfold listOf
  split
  · next items hg => exact .inl hg
  · exact .inr rfl

theorem listOf_snoc {k : String} {A : List (String × Arg)} {zs : List Item} (hk : k ∉ A.map Prod.fst) :
    listOf k (A ++ [(k, .many zs)]) = zs := by
  unfold listOf
  rw [getKey_append_of_none (getKey_eq_none.mpr hk), if_pos rfl]

theorem getElem?_appended {k : String} {args : List (String × Arg)} {it x : Item} {n : Nat}
    (hn : (listOf k args ++ [it])[n]? = some x) :
    (getKey k args = some (.many (listOf k args)) ∧ (listOf k args)[n]? = some x) ∨
      (n = (listOf k args).length ∧ x = it) := by
  rw [List.getElem?_append] at hn
  split at hn
  · next hlt =>
    rcases listOf_cases k args with hg | hnil
    · exact .inl ⟨hg, hn⟩
    · rw [hnil] at hlt; cases hlt
  · next hge =>
    rw [List.getElem?_singleton] at hn
    split at hn
    · exact .inr ⟨by omega, (Option.some.inj hn).symm⟩
    · cases hn

/-- the reading-friendly formulation of `appendCore` in the model, as the sequence of updates it stands for -/
def appendCoreSpec (h : Heap H) (self : Id) (k : String) (it : Item) : Heap H :=
  let items := listOf k (h self).args
  let h1 := setArgs h self (setKey k (.many (items ++ [it])) (h self).args)
  match it with
  | .node c => setPtr h1 c (some self) (some k) (some items.length)
  | .leaf _ => h1

theorem appendCore_eq (h : Heap H) (self : Id) (k : String) (it : Item) :
    appendCore h self k it = appendCoreSpec h self k it := by
  funext j
  unfold appendCore appendCoreSpec
  cases it with
  | leaf s => simp only [setArgs, upd]; split <;> simp_all
  | node c =>
    simp only [setArgs, setPtr, upd]
    by_cases h1 : j = c <;> by_cases h2 : j = self <;> simp_all

theorem slotWrite_append (h : Heap H) (self : Id) (k : String) (it : Item) :
    SlotWrite h (appendCore h self k it) self k (some (.many (listOf k (h self).args ++ [it])))
      (fun m => it = .node m) := by
  rw [appendCore_eq]
  cases it with
  | leaf s => exact (slotWrite_setArgs h self k (some (.many _))).mono (fun _ hm => hm.elim)
  | node c => exact (slotWrite_setPtr h self k (some (.many _)) c (some k) (some _)).mono (fun m hm => by rw [hm])

theorem inv_appendCore (F : HashFns H) {h : Heap H} {self : Id} {k : String} {it : Item} (hI : Inv F h)
    (hs : (h self).hash = none) (hv : ItemOk h it) : Inv F (appendCore h self k it) := by
  have sw := slotWrite_append h self k it
  refine sw.inv F hI hs (fun m hm => by subst hm; exact .inl hv) ?_
  intro a j c ha hac; cases ha
  obtain ⟨n, rfl, hn⟩ := argHas_many.mp hac
  rcases getElem?_appended hn with ⟨hg, hn⟩ | ⟨rfl, rfl⟩
  · -- an old occupant: not the appended node, which is unstored
    have hst : Stored h self k (some n) c := ⟨_, hg, hn⟩
    rw [sw.frame c (fun e => by subst e; exact hv _ _ _ hst)]
    exact hI.links _ _ _ _ hst
  · rw [appendCore_eq]
    simp only [appendCoreSpec, ptrs, setPtr, upd_same]

theorem opAppend_some {fuel : Nat} {h h2 : Heap H} {self : Id} {k : String} {it : Item}
    (he : opAppend fuel h self k it = some h2) :
    ∃ h1, inval fuel h (some self) = some h1 ∧ h2 = appendCore h1 self k it := by
  unfold opAppend at he
  split at he
  · next h1 hinv => exact ⟨h1, hinv, (Option.some.inj he).symm⟩
  · cases he

theorem inv_opAppend (F : HashFns H) {fuel : Nat} {h h2 : Heap H} {self : Id} {k : String} {it : Item}
    (hI : Inv F h) (hv : ItemOk h it) (he : opAppend fuel h self k it = some h2) : Inv F h2 := by
  obtain ⟨h1, hinv, rfl⟩ := opAppend_some he
  obtain ⟨hI1, ho, hn⟩ := inval_inv F hI hinv
  refine inv_appendCore F hI1 hn ?_
  cases it with
  | leaf s => trivial
  | node c => exact (unstored_hashOnly ho).mpr hv

/-- the invariant only reads `args`, `_hash`, the class of cached nodes, and the back pointers of stored nodes -/
theorem invX_of_sameArgs (F : HashFns H) {x : Option Id} {h h2 : Heap H} (hI : InvX F x h)
    (ha : ∀ m, (h2 m).args = (h m).args ∧ (h2 m).hash = (h m).hash)
    (hc : ∀ m y, (h m).hash = some y → (h2 m).cls = (h m).cls ∧ (h2 m).raw = (h m).raw)
    (hp : ∀ p k i c, Stored h p k i c → ptrs (h2 c) = ptrs (h c)) : InvX F x h2 := by
  have hst : ∀ {p k i c}, Stored h2 p k i c → Stored h p k i c := fun {p _ _ _} => (stored_args_eq (ha p).1).mp
  refine ⟨fun p k i c hs => ?_, fun n y hy hne => ?_, fun n => ?_⟩
  · rw [hp p k i c (hst hs)]; exact hI.links _ _ _ _ (hst hs)
  · rw [(ha n).2] at hy
    rw [hashNode_transfer F (hc n y hy).1 (hc n y hy).2 (ha n).1 (fun c _ => (ha c).2)]
    exact hI.cache n y hy hne
  · rw [(ha n).1]; exact hI.keys n

theorem inv_empty (F : HashFns H) : Inv F (empty : Heap H) := by
  refine ⟨?_, ?_, ?_⟩
  · intro p k i c hs
    obtain ⟨a, hg, _⟩ := hs
    simp [empty, blank, getKey] at hg
  · intro n x hx; simp [empty, blank] at hx
  · intro n; simp [empty, blank]; exact keysUnique_nil

/-- `id` is unused: nobody stores it and it holds nothing -/
def Fresh (h : Heap H) (id : Id) : Prop := Unstored h id ∧ (h id).args = [] ∧ (h id).hash = none

theorem invX_opNew (F : HashFns H) {x : Option Id} {h : Heap H} {id : Id} {cls : String} {raw : Bool}
    (hI : InvX F x h) (hf : Fresh h id) : InvX F x (opNew h id cls raw) := by
  obtain ⟨hu, ha, hh⟩ := hf
  refine invX_of_sameArgs F hI (fun m => ?_) (fun m x hx => ?_) (fun p k i c hs => ?_)
  · by_cases hm : m = id
    · subst hm; simp [opNew, blank, ha, hh]
    · rw [opNew_other _ _ _ hm]; exact ⟨rfl, rfl⟩
  · rw [opNew_other _ _ _ (fun e => by subst e; rw [hh] at hx; cases hx)]; exact ⟨rfl, rfl⟩
  · rw [opNew_other _ _ _ (fun e => by subst e; exact hu _ _ _ hs)]

theorem inv_opNew (F : HashFns H) {h : Heap H} {id : Id} {cls : String} {raw : Bool} (hI : Inv F h)
    (hf : Fresh h id) : Inv F (opNew h id cls raw) :=
  (invX_opNew F (hI.suspend none) hf).inv

theorem inv_clearPtr (F : HashFns H) {h : Heap H} {s : Id} (hI : Inv F h) (hu : Unstored h s) :
    Inv F (clearPtr h s) :=
  (invX_of_sameArgs F (h2 := clearPtr h s) (hI.suspend none) (fun _ => ⟨setPtr_args .., setPtr_hash ..⟩)
    (fun _ _ _ => ⟨setPtr_cls .., setPtr_raw ..⟩)
    (fun _ _ _ c hs => by rw [clearPtr, setPtr_other _ _ _ _ (fun e => by subst e; exact hu _ _ _ hs)])).inv

/-- an overwriting `set` at the place of `s` leaves `s` stored nowhere, unless the value holds `s` itself: what `replace`
    needs before it clears the pointers of the replaced node -/
theorem setCore_evicts {h h2 : Heap H} {p : Id} {k : String} {v : Value} {idx : Option Nat} {s : Id} (hl : Links h)
    (he : setCore h p k v idx true = some h2) (hst : Stored h p k idx s) (hv : Item.node s ∉ itemOfValue v) :
    Unstored h2 s := by
  intro q k' j hs2
  rcases setCore_spec he with ⟨_, i, rfl, hno⟩ | ⟨new, W, w⟩
  · exact hno s hst
  · rcases w.sw.stored hs2 with ⟨_, _, a, hn, ha⟩ | ⟨hne, hs0⟩
    · rcases w.origin a j s hn ha with hin | ⟨i, j', rfl, hji, hsj⟩
      · exact hv hin
      · exact hji rfl (Option.some.inj (no_sharing hl hsj hst).2.2)
    · obtain ⟨e1, e2, _⟩ := no_sharing hl hs0 hst
      exact hne ⟨e1, e2⟩

theorem opReplace_some {fuel : Nat} {h h2 : Heap H} {self : Id} {v : Value} (he : opReplace fuel h self v = some h2) :
    h2 = h ∨ ∃ p h', (h self).parent = some p ∧ h2 = (if v = .node self then h' else clearPtr h' self) ∧
      (((h self).argKey = none ∧ h' = h) ∨
        ∃ k, (h self).argKey = some k ∧ opSet fuel h p k v (h self).index true = some h') := by
  unfold opReplace at he
  cases hp : (h self).parent with
  | none => simp only [hp] at he; exact .inl (Option.some.inj he).symm
  | some p =>
    simp only [hp] at he
    by_cases hv : v = .node p
    · rw [if_pos hv] at he; exact .inl (Option.some.inj he).symm
    · rw [if_neg hv] at he
      cases hk : (h self).argKey with
      | none => simp only [hk] at he; exact .inr ⟨p, h, rfl, (Option.some.inj he).symm, .inl ⟨rfl, rfl⟩⟩
      | some k =>
        simp only [hk] at he
        by_cases hb : (isListValue v && isOne (getKey k (h p).args)) = true
        · rw [if_pos hb] at he; cases he
        · rw [if_neg hb] at he
          cases hset : opSet fuel h p k v (h self).index true with
          | none => simp only [hset] at he; cases he
          | some h' =>
            simp only [hset] at he
            exact .inr ⟨p, h', rfl, (Option.some.inj he).symm, .inr ⟨k, rfl, hset⟩⟩

/-- the node being replaced is genuinely attached where its own pointers say -/
def Attached (h : Heap H) (s : Id) : Prop :=
  ∀ p k, (h s).parent = some p → (h s).argKey = some k → Stored h p k (h s).index s

theorem inv_opReplace (F : HashFns H) {fuel : Nat} {h h2 : Heap H} {self : Id} {v : Value} (hI : Inv F h)
    (hv : ValueOk h v) (hat : Attached h self) (he : opReplace fuel h self v = some h2) : Inv F h2 := by
  rcases opReplace_some he with rfl | ⟨p, h', hp, rfl, hcase⟩
  · exact hI
  -- in both cases the heap before the pointers are cleared satisfies the invariant and no longer stores `self`
  have key : Inv F h' ∧ (v ≠ .node self → Unstored h' self) := by
    rcases hcase with ⟨hk, rfl⟩ | ⟨k, hk, hset⟩
    · refine ⟨hI, fun _ q k' j hs => ?_⟩
      have := hI.links _ _ _ _ hs
      simp only [ptrs, Prod.mk.injEq] at this
      rw [hk] at this; cases this.2.1
    · refine ⟨inv_opSet F hI hv hset, fun _ => ?_⟩
      obtain ⟨h1, hinv, hcore⟩ := opSet_some hset
      obtain ⟨hI1, ho, _⟩ := inval_inv F hI hinv
      have hst : Stored h p k (h self).index self := hat p k hp hk
      exact setCore_evicts hI1.links hcore ((stored_hashOnly ho).mpr hst)
        (fun hin => (value_items hv).2 self hin _ _ _ hst)
  split
  · exact key.1
  · next hvs => exact inv_clearPtr F key.1 (key.2 hvs)

theorem inv_opPop (F : HashFns H) {fuel : Nat} {h h2 : Heap H} {self : Id} (hI : Inv F h)
    (hat : Attached h self) (he : opPop fuel h self = some h2) : Inv F h2 :=
  inv_opReplace F hI (by trivial) hat he

/-- specification of one `fill` call, used as the induction hypothesis for the fold over the children -/
def FillSpec (F : HashFns H) (g : Heap H → Id → Option (Heap H)) : Prop :=
  ∀ h n h', g h n = some h' → Inv F h →
    Inv F h' ∧ HashOnly h h' ∧ (∀ m x, (h m).hash = some x → (h' m).hash = some x) ∧ ((h' n).hash).isSome

theorem foldOpt_spec (F : HashFns H) {g : Heap H → Id → Option (Heap H)} (hg : FillSpec F g) :
    ∀ (cs : List Id) (h h' : Heap H), foldOpt g h cs = some h' → Inv F h →
      Inv F h' ∧ HashOnly h h' ∧ (∀ m x, (h m).hash = some x → (h' m).hash = some x) ∧
        ∀ c, c ∈ cs → ((h' c).hash).isSome
  | [], h, h', he, hI => by
    simp only [foldOpt, Option.some.injEq] at he; subst he
    exact ⟨hI, HashOnly.refl _, fun _ _ hx => hx, fun c hc => by cases hc⟩
  | c0 :: r, h, h', he, hI => by
    simp only [foldOpt] at he
    split at he
    · next h1 h1e =>
      obtain ⟨hI1, ho1, hm1, hs1⟩ := hg h c0 h1 h1e hI
      obtain ⟨hI2, ho2, hm2, hs2⟩ := foldOpt_spec F hg r h1 h' he hI1
      refine ⟨hI2, ho1.trans ho2, fun m x hx => hm2 m x (hm1 m x hx), ?_⟩
      intro c hc
      rcases List.mem_cons.mp hc with e | e
      · subst e
        cases hx : (h1 c).hash with
        | none => rw [hx] at hs1; cases hs1
        | some x => rw [hm2 c x hx]; rfl
      · exact hs2 c e
    · cases he

theorem fill_spec (F : HashFns H) : ∀ fuel, FillSpec F (fill F fuel)
  | 0 => by intro h n h' he; simp [fill] at he
  | f + 1 => by
    intro h n h' he hI
    simp only [fill] at he
    split at he
    · next x hx =>
      simp only [Option.some.injEq] at he; subst he
      exact ⟨hI, HashOnly.refl _, fun _ _ hm => hm, by simp [hx]⟩
    · next hnone =>
      split at he
      · cases he
      · next h1 hfold =>
        obtain ⟨hI1, ho1, hm1, hs1⟩ := foldOpt_spec F (fill_spec F f) _ h h1 hfold hI
        split at he
        · next x hx =>
          simp only [Option.some.injEq] at he; subst he
          obtain ⟨hI2, keep⟩ := setHash_computed F hI1 hx
          exact ⟨hI2, ho1.trans (hashOnly_setHash h1 n (some x)), fun m y hy => keep m y (hm1 m y hy), by simp⟩
        · cases he

theorem inv_fill (F : HashFns H) {fuel : Nat} {h h' : Heap H} {n : Id} (hI : Inv F h)
    (he : fill F fuel h n = some h') : Inv F h' ∧ HashOnly h h' ∧ ((h' n).hash).isSome :=
  let ⟨a, b, _, d⟩ := fill_spec F fuel h n h' he hI
  ⟨a, b, d⟩

/-- a node that is cached stays cached, with the same value -/
theorem fill_keeps (F : HashFns H) {fuel : Nat} {h h' : Heap H} {n : Id} (hI : Inv F h)
    (he : fill F fuel h n = some h') {m : Id} {x : H} (hx : (h m).hash = some x) : (h' m).hash = some x :=
  (fill_spec F fuel h n h' he hI).2.2.1 m x hx

theorem opEq_some [DecidableEq H] {F : HashFns H} {fuel : Nat} {h h' : Heap H} {a b : Id} {r : Bool}
    (he : opEq F fuel h a b = some (h', r)) :
    (h' = h ∧ (a = b ∨ (h a).cls ≠ (h b).cls)) ∨
    ∃ h1, fill F fuel h a = some h1 ∧ fill F fuel h1 b = some h' ∧ r = decide ((h' a).hash = (h' b).hash) := by
  unfold opEq at he
  by_cases e : a = b
  · rw [if_pos e] at he; exact .inl ⟨(Prod.mk.inj (Option.some.inj he)).1.symm, .inl e⟩
  · rw [if_neg e] at he
    by_cases ec : (h a).cls ≠ (h b).cls
    · rw [if_pos ec] at he; exact .inl ⟨(Prod.mk.inj (Option.some.inj he)).1.symm, .inr ec⟩
    · rw [if_neg ec] at he
      cases e1 : fill F fuel h a with
      | none => simp only [e1] at he; cases he
      | some h1 =>
        simp only [e1] at he
        cases e2 : fill F fuel h1 b with
        | none => simp only [e2] at he; cases he
        | some h2 =>
          simp only [e2] at he
          obtain ⟨rfl, rfl⟩ := Prod.mk.inj (Option.some.inj he)
          exact .inr ⟨h1, rfl, e2, rfl⟩

/-- `a == b` under the invariant: a shortcut that touches nothing, or both nodes end up cached and the answer compares
    the two cached values -/
theorem opEq_spec [DecidableEq H] (F : HashFns H) {fuel : Nat} {h h' : Heap H} {a b : Id} {r : Bool}
    (hI : Inv F h) (he : opEq F fuel h a b = some (h', r)) :
    (h' = h ∧ (a = b ∨ (h a).cls ≠ (h b).cls)) ∨
    (Inv F h' ∧ HashOnly h h' ∧ ∃ x y, (h' a).hash = some x ∧ (h' b).hash = some y ∧ r = decide (x = y)) := by
  rcases opEq_some he with e | ⟨h1, e1, e2, hr⟩
  · exact .inl e
  obtain ⟨i1, o1, s1⟩ := inv_fill F hI e1
  obtain ⟨i2, o2, s2⟩ := inv_fill F i1 e2
  obtain ⟨x, hx⟩ := Option.isSome_iff_exists.mp s1
  obtain ⟨y, hy⟩ := Option.isSome_iff_exists.mp s2
  -- `a`, cached by the first fill, is still cached after the second
  have hx' := fill_keeps F i1 e2 hx
  exact .inr ⟨i2, o1.trans o2, x, y, hx', hy, by rw [hr, hx', hy]; simp⟩

theorem inv_opEq [DecidableEq H] (F : HashFns H) {fuel : Nat} {h h' : Heap H} {a b : Id} {r : Bool}
    (hI : Inv F h) (he : opEq F fuel h a b = some (h', r)) : Inv F h' ∧ HashOnly h h' := by
  rcases opEq_spec F hI he with ⟨rfl, _⟩ | ⟨i, o, _⟩
  · exact ⟨hI, HashOnly.refl _⟩
  · exact ⟨i, o⟩

end SqlglotModel.Tree
