/-
  Proofs/TreeBuilders.lean — the builder layer with copy=True threaded to the receiver copy and to the argument parse:
  whatever the assembly of fresh wrapper nodes, every cell that existed before is unchanged and the result shares no
  node with receiver or argument (C09 `builder_copy_both_pure`).
-/
import SqlglotModel.Proofs.TreeWalk

namespace SqlglotModel.Tree

variable {H : Type}

/-- the assembly works on material of the region `R` only -/
def InRegionB (R : Id → Prop) : BOp → Prop
  | .new id _ _ => R id
  | .set self _ v => R self ∧ ∀ c, Item.node c ∈ itemOfValue v → R c

theorem inRegionB_set_node {R : Id → Prop} {s a : Id} (k : String) (hs : R s) (ha : R a) :
    InRegionB R (.set s k (.node a)) :=
  ⟨hs, fun c hc => by cases List.mem_singleton.mp hc; exact ha⟩

/-- admissibility along the assembly: allocations hit unused cells, inserted nodes are unattached -/
def AdmRunB (fuel : Nat) : Heap H → List BOp → Prop
  | _, [] => True
  | h, .new id cls raw :: r => Fresh h id ∧ AdmRunB fuel (opNew h id cls raw) r
  | h, .set self k v :: r => ValueOk h v ∧ ∀ h', opSet fuel h self k v none true = some h' → AdmRunB fuel h' r

theorem runB_inv (F : HashFns H) {fuel : Nat} {h' : Heap H} (ops : List BOp) : ∀ (h : Heap H), Inv F h →
    AdmRunB fuel h ops → runB fuel h ops = some h' → Inv F h' := by
  induction ops with
  | nil => intro h hI _ he; simp only [runB] at he; cases he; exact hI
  | cons op r ih =>
    intro h hI ha he
    cases op with
    | new id cls raw => exact ih _ (inv_opNew F hI ha.1) ha.2 he
    | set self k v =>
      simp only [runB] at he
      split at he
      · next h1 h1e => exact ih h1 (inv_opSet F hI ha.1 h1e) (ha.2 h1 h1e) he
      · cases he

theorem runB_frame {fuel : Nat} {R : Id → Prop} {h' : Heap H} (ops : List BOp) : ∀ (h : Heap H),
    (∀ op, op ∈ ops → InRegionB R op) → runB fuel h ops = some h' → Confined R h h' := by
  induction ops with
  | nil => intro h _ he; simp only [runB] at he; cases he; exact Confined.refl
  | cons op r ih =>
    intro h hin he
    have hin' : ∀ op, op ∈ r → InRegionB R op := fun op hop => hin op (List.mem_cons_of_mem _ hop)
    have hop := hin op (List.mem_cons_self ..)
    cases op with
    | new id cls raw => exact (confined_opNew hop cls raw).trans (ih _ hin' he)
    | set self k v =>
      simp only [runB] at he
      split at he
      · next h1 h1e => exact (confined_opSet hop.1 hop.2 h1e).trans (ih h1 hin' he)
      · cases he

theorem builderCopyBoth_pure (F : HashFns H) {fuel : Nat} {h h3 : Heap H} {base nx : Nat} {inst arg c : Id}
    {assemble : Nat → Id → Id → List BOp} (hI : Inv F h) (hf : FreshFrom h base) (hi : base > inst) (ha : base > arg)
    (hreg : ∀ nx2 c a, base ≤ c → base ≤ a → base ≤ nx2 → ∀ op, op ∈ assemble nx2 c a → InRegionB (fun m => base ≤ m) op)
    (hadm : ∀ h2 nx2 c a, Inv F h2 → FreshFrom h2 nx2 → AdmRunB fuel h2 (assemble nx2 c a))
    (he : builderCopyBoth fuel h base inst arg assemble = some (h3, nx, c)) :
    (∀ m, m < base → h3 m = h m) ∧ Inv F h3 ∧ (∀ m, Reach h3 c m → ¬ Reach h3 inst m ∧ ¬ Reach h3 arg m) := by
  unfold builderCopyBoth at he
  split at he
  · cases he
  · next h1 nx1 c1 hc1 =>
    obtain ⟨hcb, d1⟩ := deepcopy_spec hI hf hi hc1
    split at he
    · cases he
    · next h2 nx2 a hc2 =>
      obtain ⟨hab, d2⟩ := deepcopy_spec d1.inv d1.fresh (Nat.lt_of_lt_of_le ha d1.le) hc2
      -- the cells of the second copy lie above those of the first
      have hR : Region h2 (fun m => base ≤ m) :=
        d1.region.extend (fun _ => Nat.le_trans d1.le) d2.region d2.same
      split at he
      · cases he
      · next h3' hrun =>
        cases he
        have hcge : base ≤ c := by rw [hcb]; exact Nat.le_refl _
        have hage : base ≤ a := by rw [hab]; exact d1.le
        obtain ⟨f3, hR3, _⟩ := runB_frame _ h2 (hreg nx c a hcge hage (Nat.le_trans d1.le d2.le)) hrun hR d2.keys
        have hold := d1.same.trans ((d2.same.mono fun _ => Nat.le_trans d1.le).trans f3)
        exact ⟨fun m hm => hold m (Nat.not_le_of_lt hm), runB_inv F _ h2 d2.inv (hadm h2 nx c a d2.inv d2.fresh) hrun,
          fun m hm => ⟨reach_disjoint hI hf hold hR3 hcge hi hm, reach_disjoint hI hf hold hR3 hcge ha hm⟩⟩

end SqlglotModel.Tree
