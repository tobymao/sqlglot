/-
  Proofs/TreeCells.lean — the pointer-heap model at rest (C08, C09): the whole-heap invariant `Inv` and what it implies
  (`no_sharing`, `closure`, `cache_eq_recompute`), the cells (`Fields`) and their `args` dicts, hashing as a homomorphism
  of hash algebras (`HashHom`), and the steps that move only `_hash` fields (`HashOnly`, the invalidation loop
  `inval_spec`, which turns `InvX`, the invariant with one cell's cache clause suspended, back into `Inv`).
  The edits are in Proofs/Tree.lean.
-/
import SqlglotModel.Model.Tree
import SqlglotModel.Proofs.List

namespace SqlglotModel.Tree

variable {H : Type}

def ptrs (nd : Node H) : Option Id × Option String × Option Nat := (nd.parent, nd.argKey, nd.index)

def Links (h : Heap H) : Prop := ∀ p k i c, Stored h p k i c → ptrs (h c) = (some p, some k, i)
def Cache (F : HashFns H) (h : Heap H) : Prop :=
  ∀ n x, (h n).hash = some x → hashNode F (h n) (fun c => (h c).hash) = some x
def Keys (h : Heap H) : Prop := ∀ n, KeysUnique (h n).args

/-- The structural invariant of C08 (whole heap, local form).
    * `links`  : a child records exactly the (parent, arg_key, index) under which it is stored
                 (hence no node is stored in two places: `no_sharing`);
    * `cache`  : a cached hash is the hash of the node's own fields and its children's *cached* hashes
                 (hence equals the from-scratch recomputation: `cache_eq_recompute`; and a cached node has only
                 cached children: `closure` — the fact the early exit of the invalidation loop relies on);
    * `keys`   : `args` is a dict. -/
structure Inv (F : HashFns H) (h : Heap H) : Prop where
  links : Links h
  cache : Cache F h
  keys : Keys h

/-- `a` and `b` agree in `_hash`, class and raw flag: all of a cell but its `args` and its back pointers -/
structure Fields (a b : Node H) : Prop where
  hash : a.hash = b.hash
  cls : a.cls = b.cls
  raw : a.raw = b.raw

theorem Fields.trans {a b c : Node H} (x : Fields a b) (y : Fields b c) : Fields a c :=
  ⟨x.hash.trans y.hash, x.cls.trans y.cls, x.raw.trans y.raw⟩

theorem node_eq {a b : Node H} (h1 : a.args = b.args) (h2 : Fields a b) (h3 : ptrs a = ptrs b) : a = b := by
  obtain ⟨_, _, _⟩ := h2
  cases a; cases b; simp_all [ptrs]

theorem upd_proj {α : Type} (g : Node H → α) (h : Heap H) (i m : Id) {f : Node H → Node H}
    (hf : ∀ nd, g (f nd) = g nd) : g (upd h i f m) = g (h m) := by
  unfold upd; split
  · exact hf _
  · rfl

@[simp] theorem upd_same (h : Heap H) (i : Id) (f : Node H → Node H) : upd h i f i = f (h i) := by simp [upd]
theorem upd_other (h : Heap H) {i j : Id} (f : Node H → Node H) (hne : j ≠ i) : upd h i f j = h j := by
  simp [upd, hne]

@[simp] theorem setPtr_args (h : Heap H) (c m p k i) : (setPtr h c p k i m).args = (h m).args :=
  upd_proj (·.args) h c m fun _ => rfl
@[simp] theorem setPtr_hash (h : Heap H) (c m p k i) : (setPtr h c p k i m).hash = (h m).hash :=
  upd_proj (·.hash) h c m fun _ => rfl
@[simp] theorem setPtr_cls (h : Heap H) (c m p k i) : (setPtr h c p k i m).cls = (h m).cls :=
  upd_proj (·.cls) h c m fun _ => rfl
@[simp] theorem setPtr_raw (h : Heap H) (c m p k i) : (setPtr h c p k i m).raw = (h m).raw :=
  upd_proj (·.raw) h c m fun _ => rfl
theorem fields_setPtr (h : Heap H) (c m p k i) : Fields (setPtr h c p k i m) (h m) :=
  ⟨setPtr_hash .., setPtr_cls .., setPtr_raw ..⟩
theorem setPtr_self (h : Heap H) (c p k i) :
    (setPtr h c p k i c).parent = p ∧ (setPtr h c p k i c).argKey = k ∧ (setPtr h c p k i c).index = i := by
  simp [setPtr]
theorem setPtr_other (h : Heap H) {c m : Id} (p k i) (hne : m ≠ c) : setPtr h c p k i m = h m := by
  simp [setPtr, upd, hne]

@[simp] theorem setIndex_args (h : Heap H) (c m i) : (setIndex h c i m).args = (h m).args :=
  upd_proj (·.args) h c m fun _ => rfl
@[simp] theorem setIndex_hash (h : Heap H) (c m i) : (setIndex h c i m).hash = (h m).hash :=
  upd_proj (·.hash) h c m fun _ => rfl
@[simp] theorem setIndex_cls (h : Heap H) (c m i) : (setIndex h c i m).cls = (h m).cls :=
  upd_proj (·.cls) h c m fun _ => rfl
@[simp] theorem setIndex_raw (h : Heap H) (c m i) : (setIndex h c i m).raw = (h m).raw :=
  upd_proj (·.raw) h c m fun _ => rfl
@[simp] theorem setIndex_parent (h : Heap H) (c m i) : (setIndex h c i m).parent = (h m).parent :=
  upd_proj (·.parent) h c m fun _ => rfl
@[simp] theorem setIndex_argKey (h : Heap H) (c m i) : (setIndex h c i m).argKey = (h m).argKey :=
  upd_proj (·.argKey) h c m fun _ => rfl
theorem fields_setIndex (h : Heap H) (c m i) : Fields (setIndex h c i m) (h m) :=
  ⟨setIndex_hash .., setIndex_cls .., setIndex_raw ..⟩
theorem setIndex_other (h : Heap H) {c m : Id} (i) (hne : m ≠ c) : setIndex h c i m = h m := by
  simp [setIndex, upd, hne]

@[simp] theorem setArgs_hash (h : Heap H) (n m a) : (setArgs h n a m).hash = (h m).hash :=
  upd_proj (·.hash) h n m fun _ => rfl
@[simp] theorem setArgs_cls (h : Heap H) (n m a) : (setArgs h n a m).cls = (h m).cls :=
  upd_proj (·.cls) h n m fun _ => rfl
@[simp] theorem setArgs_raw (h : Heap H) (n m a) : (setArgs h n a m).raw = (h m).raw :=
  upd_proj (·.raw) h n m fun _ => rfl
@[simp] theorem setArgs_parent (h : Heap H) (n m a) : (setArgs h n a m).parent = (h m).parent :=
  upd_proj (·.parent) h n m fun _ => rfl
@[simp] theorem setArgs_argKey (h : Heap H) (n m a) : (setArgs h n a m).argKey = (h m).argKey :=
  upd_proj (·.argKey) h n m fun _ => rfl
@[simp] theorem setArgs_index (h : Heap H) (n m a) : (setArgs h n a m).index = (h m).index :=
  upd_proj (·.index) h n m fun _ => rfl
theorem fields_setArgs (h : Heap H) (n m a) : Fields (setArgs h n a m) (h m) :=
  ⟨setArgs_hash .., setArgs_cls .., setArgs_raw ..⟩
@[simp] theorem setArgs_args_self (h : Heap H) (n a) : (setArgs h n a n).args = a := by simp [setArgs]
theorem setArgs_args_other (h : Heap H) {n m : Id} (a) (hne : m ≠ n) : (setArgs h n a m).args = (h m).args := by
  simp [setArgs, upd, hne]

@[simp] theorem setHash_args (h : Heap H) (n m x) : (setHash h n x m).args = (h m).args :=
  upd_proj (·.args) h n m fun _ => rfl
@[simp] theorem setHash_cls (h : Heap H) (n m x) : (setHash h n x m).cls = (h m).cls :=
  upd_proj (·.cls) h n m fun _ => rfl
@[simp] theorem setHash_raw (h : Heap H) (n m x) : (setHash h n x m).raw = (h m).raw :=
  upd_proj (·.raw) h n m fun _ => rfl
@[simp] theorem setHash_parent (h : Heap H) (n m x) : (setHash h n x m).parent = (h m).parent :=
  upd_proj (·.parent) h n m fun _ => rfl
@[simp] theorem setHash_argKey (h : Heap H) (n m x) : (setHash h n x m).argKey = (h m).argKey :=
  upd_proj (·.argKey) h n m fun _ => rfl
@[simp] theorem setHash_index (h : Heap H) (n m x) : (setHash h n x m).index = (h m).index :=
  upd_proj (·.index) h n m fun _ => rfl
@[simp] theorem setHash_hash_self (h : Heap H) (n x) : (setHash h n x n).hash = x := by simp [setHash]
theorem setHash_hash_other (h : Heap H) {n m : Id} (x) (hne : m ≠ n) : (setHash h n x m).hash = (h m).hash := by
  simp [setHash, upd, hne]

theorem opNew_self (h : Heap H) (id : Id) (cls : String) (raw : Bool) :
    opNew h id cls raw id = { (blank : Node H) with cls := cls, raw := raw } := by simp [opNew]

theorem opNew_other (h : Heap H) {id m : Id} (cls : String) (raw : Bool) (hne : m ≠ id) : opNew h id cls raw m = h m := by
  simp [opNew, upd, hne]

theorem getKey_eq_find? (k : String) (args : List (String × Arg)) :
    getKey k args = (args.find? (·.1 == k)).map (·.2) :=
  assoc_eq_find? (fun _ => rfl) (fun _ _ _ _ => rfl) k args

theorem getKey_mem {k : String} {a : Arg} {args : List (String × Arg)} (h : getKey k args = some a) : (k, a) ∈ args :=
  mem_of_find?_fst (getKey_eq_find? k args ▸ h)

theorem hasKey_iff {k : String} {args : List (String × Arg)} : hasKey k args = true ↔ k ∈ args.map Prod.fst := by
  simp only [hasKey, List.any_eq_true, List.mem_map, beq_iff_eq]

theorem getKey_eq_none {k : String} {args : List (String × Arg)} : getKey k args = none ↔ k ∉ args.map Prod.fst := by
  rw [getKey_eq_find?]; exact find?_fst_eq_none

theorem hasKey_cons (k k1 : String) (a1 : Arg) (r : List (String × Arg)) :
    hasKey k ((k1, a1) :: r) = (k1 == k || hasKey k r) := rfl

theorem getKey_append (k : String) (l2 l1 : List (String × Arg)) :
    getKey k (l1 ++ l2) = (getKey k l1).or (getKey k l2) := by
  simp only [getKey_eq_find?, List.find?_append, Option.map_or]

theorem getKey_append_of_none {k k' : String} {a : Arg} {args : List (String × Arg)} (h : getKey k args = none) :
    getKey k' (args ++ [(k, a)]) = if k = k' then some a else getKey k' args := by
  rw [getKey_append]
  simp only [getKey]
  split
  · next e => rw [← e, h]; rfl
  · exact Option.or_none

theorem getKey_map_set {k k' : String} {a : Arg} : ∀ (args : List (String × Arg)),
    getKey k' (args.map (fun e => if e.1 = k then (k, a) else e)) =
      if k = k' then (if hasKey k args then some a else none) else getKey k' args
  | [] => by simp [getKey, hasKey]
  | (k1, a1) :: r => by
    have ih := getKey_map_set (k := k) (k' := k') (a := a) r
    rw [hasKey_cons]
    simp only [List.map_cons]
    by_cases h1 : k1 = k
    · subst h1
      by_cases h2 : k1 = k'
      · subst h2; simp [getKey]
      · simp only [if_true, getKey, h2, if_false]
        rw [ih]; simp [h2]
    · have hb : (k1 == k) = false := by simpa using h1
      simp only [h1, if_false, getKey, hb, Bool.false_or]
      by_cases h2 : k1 = k'
      · subst h2
        have : ¬ k = k1 := fun e => h1 e.symm
        simp [this]
      · simp only [h2, if_false]; exact ih

theorem getKey_setKey (k k' : String) (a : Arg) (args : List (String × Arg)) :
    getKey k' (setKey k a args) = if k = k' then some a else getKey k' args := by
  unfold setKey
  split
  · next hk => rw [getKey_map_set]; simp [hk]
  · next hk => exact getKey_append_of_none (getKey_eq_none.mpr fun hm => hk (hasKey_iff.mpr hm))

theorem getKey_delKey (k k' : String) (args : List (String × Arg)) :
    getKey k' (delKey k args) = if k = k' then none else getKey k' args := by
  rw [getKey_eq_find?, getKey_eq_find?, delKey, List.find?_filter]
  split
  · next e => rw [List.find?_eq_none.mpr (fun x _ => by simp [e])]; rfl
  · next e =>
    -- an entry under `k'` is not under `k`
    have : ∀ x : String × Arg, decide ((x.1 != k) = true ∧ (x.1 == k') = true) = (x.1 == k') := fun x => by
      cases h : x.1 == k'
      · simp
      · simp [show x.1 ≠ k from fun e' => e (e'.symm.trans (beq_iff_eq.mp h))]
    rw [funext this]

theorem mem_setKey {k k' : String} {a a' : Arg} {args : List (String × Arg)} (h : (k', a') ∈ setKey k a args) :
    (k' = k ∧ a' = a) ∨ (k' ≠ k ∧ (k', a') ∈ args) := by
  unfold setKey at h
  split at h
  · rw [List.mem_map] at h
    obtain ⟨e, he, heq⟩ := h
    split at heq
    · cases heq; exact .inl ⟨rfl, rfl⟩
    · next hne => subst heq; exact .inr ⟨hne, he⟩
  · next hk =>
    rw [List.mem_append] at h
    rcases h with h | h
    · refine .inr ⟨?_, h⟩
      intro e; subst e
      apply hk
      simp only [hasKey, List.any_eq_true]
      exact ⟨_, h, by simp⟩
    · simp at h; exact .inl ⟨h.1, h.2⟩

theorem getKey_of_mem {k : String} {a : Arg} {args : List (String × Arg)} (hu : KeysUnique args) (hm : (k, a) ∈ args) :
    getKey k args = some a :=
  (getKey_eq_find? k args).trans (find?_fst_of_mem hu hm)

theorem keysUnique_setKey {k : String} {a : Arg} {args : List (String × Arg)} (hu : KeysUnique args) :
    KeysUnique (setKey k a args) := by
  unfold setKey
  split
  · have : (args.map (fun e => if e.1 = k then (k, a) else e)).map Prod.fst = args.map Prod.fst := by
      rw [List.map_map]
      apply List.map_congr_left
      intro e _
      simp only [Function.comp]
      split
      · next h => exact h.symm
      · rfl
    unfold KeysUnique; rw [this]; exact hu
  · next hk =>
    unfold KeysUnique
    rw [List.map_append, List.nodup_append]
    refine ⟨hu, by simp, ?_⟩
    intro x hx y hy
    simp only [List.map_cons, List.map_nil, List.mem_singleton] at hy
    subst hy
    intro e; subst e
    exact hk (hasKey_iff.mpr hx)

theorem keysUnique_delKey {k : String} {args : List (String × Arg)} (hu : KeysUnique args) :
    KeysUnique (delKey k args) :=
  List.Nodup.sublist (List.Sublist.map Prod.fst List.filter_sublist) hu

theorem keysUnique_nil : KeysUnique [] := by simp [KeysUnique]

theorem setKey_fresh {k : String} {a : Arg} {d : List (String × Arg)} (hk : k ∉ d.map Prod.fst) :
    setKey k a d = d ++ [(k, a)] := by
  unfold setKey
  rw [if_neg fun hh => hk (hasKey_iff.mp hh)]

theorem map_noKey {k : String} {v : Arg} {A : List (String × Arg)} (hk : k ∉ A.map Prod.fst) :
    A.map (fun e => if e.1 = k then (k, v) else e) = A :=
  map_fixed fun x hx => if_neg fun e : x.1 = k => hk (e ▸ List.mem_map_of_mem (f := Prod.fst) hx)

theorem setKey_snoc {k : String} {u v : Arg} {A : List (String × Arg)} (hk : k ∉ A.map Prod.fst) :
    setKey k v (A ++ [(k, u)]) = A ++ [(k, v)] := by
  unfold setKey
  have hh : hasKey k (A ++ [(k, u)]) = true :=
    hasKey_iff.mpr (List.mem_map.mpr ⟨(k, u), List.mem_append_right _ (List.mem_singleton.mpr rfl), rfl⟩)
  simp only [hh, if_true, List.map_append, List.map_cons, List.map_nil]
  rw [map_noKey hk]

theorem key_fresh_of_split {args d r : List (String × Arg)} {k : String} {a : Arg} (hu : KeysUnique args)
    (hs : args = d ++ (k, a) :: r) : k ∉ d.map Prod.fst := by
  have hnd : ((d ++ (k, a) :: r).map Prod.fst).Nodup := by rw [← hs]; exact hu
  rw [List.map_append, List.nodup_append] at hnd
  intro hm
  exact hnd.2.2 k hm k (List.mem_cons_self ..) rfl

/-- `d[k] = a`, or `d.pop(k, None)` -/
def putKey (k : String) (new : Option Arg) (args : List (String × Arg)) : List (String × Arg) :=
  match new with
  | some a => setKey k a args
  | none => delKey k args

theorem getKey_putKey (k k' : String) (new : Option Arg) (args : List (String × Arg)) :
    getKey k' (putKey k new args) = if k = k' then new else getKey k' args := by
  cases new with
  | some a => exact getKey_setKey ..
  | none => exact getKey_delKey ..

theorem keysUnique_putKey {k : String} {new : Option Arg} {args : List (String × Arg)} (hu : KeysUnique args) :
    KeysUnique (putKey k new args) := by
  cases new with
  | some a => exact keysUnique_setKey hu
  | none => exact keysUnique_delKey hu

theorem argHas_many {L : List Item} {j : Option Nat} {c : Id} :
    ArgHas (.many L) j c ↔ ∃ n, j = some n ∧ L[n]? = some (.node c) := by
  cases j <;> simp [ArgHas]

theorem argHas_one {c' : Id} {j : Option Nat} {c : Id} : ArgHas (.one c') j c ↔ j = none ∧ c' = c := by
  cases j <;> simp [ArgHas]

theorem not_argHas_leaf {s : Scalar} {j : Option Nat} {c : Id} : ¬ ArgHas (.leaf s) j c := by
  cases j <;> simp [ArgHas]

/-- `c` occurs in the association list under key `k` at position `i`; in a dict that is `Stored` -/
def Occ (l : List (String × Arg)) (k : String) (i : Option Nat) (c : Id) : Prop := ∃ a, (k, a) ∈ l ∧ ArgHas a i c

def IsChild (args : List (String × Arg)) (c : Id) : Prop := ∃ k i, Occ args k i c

theorem Stored.occ {h : Heap H} {p : Id} {k : String} {i : Option Nat} {c : Id} (hs : Stored h p k i c) :
    Occ (h p).args k i c :=
  let ⟨a, hg, ha⟩ := hs
  ⟨a, getKey_mem hg, ha⟩

theorem Occ.stored {h : Heap H} {p : Id} {k : String} {i : Option Nat} {c : Id} (hu : KeysUnique (h p).args)
    (ho : Occ (h p).args k i c) : Stored h p k i c :=
  let ⟨a, hm, ha⟩ := ho
  ⟨a, getKey_of_mem hu hm, ha⟩

theorem mem_itemIds {c : Id} : ∀ {items : List Item}, c ∈ itemIds items → Item.node c ∈ items
  | [], h => by cases h
  | .node c' :: r, h => by
    simp only [itemIds, List.mem_cons] at h
    rcases h with e | e
    · subst e; simp
    · exact List.mem_cons_of_mem _ (mem_itemIds e)
  | .leaf _ :: r, h => by
    simp only [itemIds] at h
    exact List.mem_cons_of_mem _ (mem_itemIds h)

theorem mem_childIds {c : Id} : ∀ {args : List (String × Arg)}, c ∈ childIds args → IsChild args c
  | [], h => by cases h
  | (k, a) :: r, h => by
    simp only [childIds, List.mem_append] at h
    rcases h with e | e
    · cases a with
      | one c' => simp only [argIds, List.mem_singleton] at e; subst e; exact ⟨k, none, _, List.mem_cons_self .., rfl⟩
      | leaf s => simp [argIds] at e
      | many items =>
        obtain ⟨j, hj⟩ := List.mem_iff_getElem?.mp (mem_itemIds e)
        exact ⟨k, some j, _, List.mem_cons_self .., hj⟩
    · obtain ⟨k', i, a', hm, hx⟩ := mem_childIds e
      exact ⟨k', i, a', List.mem_cons_of_mem _ hm, hx⟩

theorem insertArg_perm (e : String × Arg) : ∀ (l : List (String × Arg)), (insertArg e l).Perm (e :: l)
  | [] => .refl _
  | x :: r => by
    simp only [insertArg]
    split
    · exact .refl _
    · exact ((insertArg_perm e r).cons x).trans (.swap e x r)

theorem perm_sortArgs : ∀ (l : List (String × Arg)), (sortArgs l).Perm l
  | [] => .refl _
  | e :: r => (insertArg_perm e (sortArgs r)).trans ((perm_sortArgs r).cons e)

theorem mem_insertArg {x e : String × Arg} {l : List (String × Arg)} : x ∈ insertArg e l ↔ x = e ∨ x ∈ l :=
  (insertArg_perm e l).mem_iff.trans List.mem_cons

theorem mem_sortArgs {x : String × Arg} {l : List (String × Arg)} : x ∈ sortArgs l ↔ x ∈ l :=
  (perm_sortArgs l).mem_iff

theorem keysUnique_sortArgs {l : List (String × Arg)} (hu : KeysUnique l) : KeysUnique (sortArgs l) :=
  ((perm_sortArgs l).map Prod.fst).nodup_iff.mpr hu

/-- `φ` maps the hash algebra `F'` into `F` -/
structure HashHom {H' : Type} (F' : HashFns H') (F : HashFns H) (φ : H' → H) : Prop where
  mixS : ∀ a k s, F.mixS (φ a) k s = φ (F'.mixS a k s)
  mixH : ∀ a k x, F.mixH (φ a) k (φ x) = φ (F'.mixH a k x)
  mixK : ∀ a k, F.mixK (φ a) k = φ (F'.mixK a k)
  lower : F.lower = F'.lower

section
variable {H' : Type} {F' : HashFns H'} {F : HashFns H} {φ : H' → H}

theorem HashHom.normS (hom : HashHom F' F φ) (s : Scalar) : normS F s = normS F' s := by
  cases s <;> simp only [Tree.normS, hom.lower]

theorem hashItems_hom (hom : HashHom F' F φ) {ch : Id → Option H} {ch' : Id → Option H'} (k : String) :
    ∀ (items : List Item) (acc : H'), (∀ c, Item.node c ∈ items → ch c = (ch' c).map φ) →
      hashItems F ch k (φ acc) items = (hashItems F' ch' k acc items).map φ
  | [], _, _ => rfl
  | .node c :: r, acc, hh => by
    simp only [hashItems]
    rw [hh c (List.mem_cons_self ..)]
    cases ch' c with
    | none => rfl
    | some x =>
      simp only [Option.map_some]
      rw [hom.mixH]
      exact hashItems_hom hom k r _ (fun c' hc' => hh c' (List.mem_cons_of_mem _ hc'))
  | .leaf s :: r, acc, hh => by
    have ih := fun acc' => hashItems_hom hom k r acc' (fun c' hc' => hh c' (List.mem_cons_of_mem _ hc'))
    simp only [hashItems]
    split
    · rw [hom.mixK]; exact ih _
    · rw [hom.normS, hom.mixS]; exact ih _

theorem hashArg_hom (hom : HashHom F' F φ) {ch : Id → Option H} {ch' : Id → Option H'} (raw : Bool) (k : String)
    (acc : H') (a : Arg) (hh : ∀ c i, ArgHas a i c → ch c = (ch' c).map φ) :
    hashArg F ch raw k (φ acc) a = (hashArg F' ch' raw k acc a).map φ := by
  cases a with
  | one c =>
    simp only [hashArg]
    rw [hh c none (argHas_one.mpr ⟨rfl, rfl⟩)]
    cases ch' c with
    | none => rfl
    | some x => simp only [Option.map_some]; rw [hom.mixH]
  | leaf s =>
    cases raw
    · simp only [hashArg, Bool.false_eq_true, if_false]
      cases dropped s
      · simp only [Bool.false_eq_true, if_false, Option.map_some]; rw [hom.normS, hom.mixS]
      · rfl
    · simp only [hashArg, if_true]
      cases truthy s
      · rfl
      · simp only [if_true, Option.map_some]; rw [hom.mixS]
  | many items =>
    cases raw
    · refine hashItems_hom hom k items acc (fun c hc => ?_)
      obtain ⟨j, hj⟩ := List.mem_iff_getElem?.mp hc
      exact hh c (some j) hj
    · cases items <;> rfl

/-- of `ch` only the values at the children are looked at, so `φ = id` gives congruence in `ch` (`hashNode_congr`) -/
theorem hashArgs_hom (hom : HashHom F' F φ) {ch : Id → Option H} {ch' : Id → Option H'} (raw : Bool) :
    ∀ (l : List (String × Arg)) (acc : H'), (∀ k a, (k, a) ∈ l → ∀ c i, ArgHas a i c → ch c = (ch' c).map φ) →
      hashArgs F ch raw (φ acc) l = (hashArgs F' ch' raw acc l).map φ
  | [], _, _ => rfl
  | (k, a) :: r, acc, hh => by
    simp only [hashArgs]
    rw [hashArg_hom hom raw k acc a (hh k a (List.mem_cons_self ..))]
    cases hashArg F' ch' raw k acc a with
    | none => rfl
    | some acc' => exact hashArgs_hom hom raw r acc' (fun k' a' hm => hh k' a' (List.mem_cons_of_mem _ hm))

end

theorem hashNode_congr (F : HashFns H) (nd : Node H) {ch ch' : Id → Option H}
    (hh : ∀ c, IsChild nd.args c → ch c = ch' c) : hashNode F nd ch = hashNode F nd ch' :=
  (hashArgs_hom (φ := id) ⟨fun _ _ _ => rfl, fun _ _ _ => rfl, fun _ _ => rfl, rfl⟩ nd.raw _ _
    (fun k a hm c i ha => (hh c ⟨k, i, a, mem_sortArgs.mp hm, ha⟩).trans (congrFun Option.map_id _).symm)).trans
    (congrFun Option.map_id _)

theorem hashNode_fields (F : HashFns H) (nd nd' : Node H) (ch : Id → Option H)
    (h1 : nd'.cls = nd.cls) (h2 : nd'.raw = nd.raw) (h3 : nd'.args = nd.args) :
    hashNode F nd' ch = hashNode F nd ch := by
  unfold hashNode; rw [h1, h2, h3]

theorem hashNode_transfer (F : HashFns H) {h h2 : Heap H} {m m2 : Id} (hc : (h2 m2).cls = (h m).cls)
    (hr : (h2 m2).raw = (h m).raw) (ha : (h2 m2).args = (h m).args)
    (hch : ∀ c, IsChild (h m).args c → (h2 c).hash = (h c).hash) :
    hashNode F (h2 m2) (fun c => (h2 c).hash) = hashNode F (h m) (fun c => (h c).hash) := by
  rw [hashNode_fields F (h m) (h2 m2) _ hc hr ha]
  exact hashNode_congr F (h m) hch

theorem hashItems_some (F : HashFns H) {ch : Id → Option H} (k : String) :
    ∀ (items : List Item) (acc : H) (x : H), hashItems F ch k acc items = some x →
      ∀ c, Item.node c ∈ items → (ch c).isSome
  | [], _, _, _, c, hc => by cases hc
  | .node c0 :: r, acc, x, hx, c, hc => by
    simp only [hashItems] at hx
    split at hx
    · next y hy =>
      rcases List.mem_cons.mp hc with h | h
      · cases h; simp [hy]
      · exact hashItems_some F k r _ x hx c h
    · cases hx
  | .leaf s :: r, acc, x, hx, c, hc => by
    simp only [hashItems] at hx
    have hc' : Item.node c ∈ r := by
      rcases List.mem_cons.mp hc with h | h
      · cases h
      · exact h
    split at hx <;> exact hashItems_some F k r _ x hx c hc'

theorem hashArg_some (F : HashFns H) {ch : Id → Option H} (raw : Bool) (k : String) (acc : H) (a : Arg) (x : H)
    (hx : hashArg F ch raw k acc a = some x) : ∀ c i, ArgHas a i c → (ch c).isSome := by
  intro c i ha
  cases a with
  | one c' =>
    obtain ⟨_, rfl⟩ := argHas_one.mp ha
    simp only [hashArg] at hx
    split at hx
    · next y hy => simp [hy]
    · cases hx
  | leaf s => exact (not_argHas_leaf ha).elim
  | many items =>
    obtain ⟨j, _, hj⟩ := argHas_many.mp ha
    have hm : Item.node c ∈ items := List.mem_iff_getElem?.mpr ⟨j, hj⟩
    cases raw
    · exact hashItems_some F k items acc x hx c hm
    · cases items with
      | nil => cases hm
      | cons _ _ => cases hx

theorem hashArgs_some (F : HashFns H) {ch : Id → Option H} (raw : Bool) :
    ∀ (l : List (String × Arg)) (acc : H) (x : H), hashArgs F ch raw acc l = some x →
      ∀ k a, (k, a) ∈ l → ∀ c i, ArgHas a i c → (ch c).isSome
  | [], _, _, _, _, _, hm, _, _, _ => by cases hm
  | (_, _) :: r, acc, x, hx, k, a, hm, c, i, ha => by
    simp only [hashArgs] at hx
    split at hx
    · next acc' hacc =>
      rcases List.mem_cons.mp hm with h | h
      · cases h; exact hashArg_some F raw _ acc _ acc' hacc c i ha
      · exact hashArgs_some F raw r acc' x hx k a h c i ha
    · cases hx

theorem hashNode_some (F : HashFns H) (nd : Node H) {ch : Id → Option H} {x : H}
    (hx : hashNode F nd ch = some x) {c : Id} (hc : IsChild nd.args c) : (ch c).isSome := by
  obtain ⟨k, i, a, hm, ha⟩ := hc
  exact hashArgs_some F nd.raw _ _ x hx k a (mem_sortArgs.mpr hm) c i ha

/-- a cached node has only cached children — what the early exit of the invalidation loop relies on -/
theorem closure (F : HashFns H) {h : Heap H} (hI : Inv F h) {p : Id} {k : String} {i : Option Nat} {c : Id}
    (hs : Stored h p k i c) (hn : (h c).hash = none) : (h p).hash = none := by
  cases hp : (h p).hash with
  | none => rfl
  | some x =>
    have := hashNode_some F (h p) (hI.cache p x hp) ⟨k, i, hs.occ⟩
    simp [hn] at this

theorem no_sharing {h : Heap H} (hl : Links h) {p p' : Id} {k k' : String} {i i' : Option Nat} {c : Id}
    (h1 : Stored h p k i c) (h2 : Stored h p' k' i' c) : p = p' ∧ k = k' ∧ i = i' := by
  have e1 := hl p k i c h1
  have e2 := hl p' k' i' c h2
  rw [e1] at e2
  simp only [Prod.mk.injEq, Option.some.injEq] at e2
  exact e2

theorem unstored_of_links {h : Heap H} (hl : Links h) {m : Id} (hp : (h m).parent = none) : Unstored h m := by
  intro p k i hs
  have := congrArg Prod.fst (hl p k i m hs)
  rw [show (ptrs (h m)).1 = (h m).parent from rfl, hp] at this
  cases this

theorem cache_eq_recompute (F : HashFns H) {h : Heap H} (hI : Inv F h) :
    ∀ (fuel : Nat) (n : Id) (x y : H), (h n).hash = some x → recompute F fuel h n = some y → x = y
  | 0, _, _, _, _, hr => by simp [recompute] at hr
  | f + 1, n, x, y, hx, hr => by
    simp only [recompute] at hr
    have hc := hI.cache n x hx
    have : hashNode F (h n) (fun c => (h c).hash) = hashNode F (h n) (fun c => recompute F f h c) := by
      apply hashNode_congr
      intro c hcc
      have s1 := hashNode_some F (h n) hc hcc
      have s2 := hashNode_some F (h n) hr hcc
      cases h1 : (h c).hash with
      | none => rw [h1] at s1; cases s1
      | some xc =>
        cases h2 : recompute F f h c with
        | none => rw [h2] at s2; cases s2
        | some yc => rw [cache_eq_recompute F hI f c xc yc h1 h2]
    rw [this, hr] at hc
    simp only [Option.some.injEq] at hc
    exact hc.symm

def HashOnly (h h' : Heap H) : Prop :=
  ∀ m, (h' m).cls = (h m).cls ∧ (h' m).raw = (h m).raw ∧ (h' m).args = (h m).args ∧ ptrs (h' m) = ptrs (h m)

theorem HashOnly.refl (h : Heap H) : HashOnly h h := fun _ => ⟨rfl, rfl, rfl, rfl⟩

theorem HashOnly.trans {h1 h2 h3 : Heap H} (a : HashOnly h1 h2) (b : HashOnly h2 h3) : HashOnly h1 h3 := by
  intro m
  obtain ⟨a1, a2, a3, a4⟩ := a m
  obtain ⟨b1, b2, b3, b4⟩ := b m
  exact ⟨b1.trans a1, b2.trans a2, b3.trans a3, b4.trans a4⟩

theorem HashOnly.cls {h h' : Heap H} (ho : HashOnly h h') (m : Id) : (h' m).cls = (h m).cls := (ho m).1
theorem HashOnly.raw {h h' : Heap H} (ho : HashOnly h h') (m : Id) : (h' m).raw = (h m).raw := (ho m).2.1
theorem HashOnly.args {h h' : Heap H} (ho : HashOnly h h') (m : Id) : (h' m).args = (h m).args := (ho m).2.2.1
theorem HashOnly.ptrs {h h' : Heap H} (ho : HashOnly h h') (m : Id) : ptrs (h' m) = ptrs (h m) := (ho m).2.2.2

theorem HashOnly.parent {h h' : Heap H} (ho : HashOnly h h') {m : Id} : (h' m).parent = (h m).parent :=
  congrArg Prod.fst (ho.ptrs m)

/-- a cell whose `_hash` the step leaves is left altogether -/
theorem HashOnly.same {h h' : Heap H} (ho : HashOnly h h') {m : Id} (e : (h' m).hash = (h m).hash) : h' m = h m :=
  node_eq (ho.args m) ⟨e, ho.cls m, ho.raw m⟩ (ho.ptrs m)

theorem hashOnly_setHash (h : Heap H) (n : Id) (x : Option H) : HashOnly h (setHash h n x) := by
  intro m; simp [ptrs]

theorem stored_args_eq {h h' : Heap H} {p : Id} (e : (h' p).args = (h p).args) {k : String} {i : Option Nat} {c : Id} :
    Stored h' p k i c ↔ Stored h p k i c := by unfold Stored; rw [e]

theorem stored_hashOnly {h h' : Heap H} (ho : HashOnly h h') {p k i c} : Stored h' p k i c ↔ Stored h p k i c :=
  stored_args_eq (ho.args p)

theorem unstored_hashOnly {h h' : Heap H} (ho : HashOnly h h') {c} : Unstored h' c ↔ Unstored h c := by
  unfold Unstored
  constructor
  · intro hu p k i hs; exact hu p k i ((stored_hashOnly ho).mpr hs)
  · intro hu p k i hs; exact hu p k i ((stored_hashOnly ho).mp hs)

theorem links_hashOnly {h h' : Heap H} (ho : HashOnly h h') (hl : Links h) : Links h' := by
  intro p k i c hs
  rw [ho.ptrs c]
  exact hl p k i c ((stored_hashOnly ho).mp hs)

theorem keys_hashOnly {h h' : Heap H} (ho : HashOnly h h') (hk : Keys h) : Keys h' := by
  intro n; rw [ho.args n]; exact hk n

theorem recompute_hashOnly (F : HashFns H) {h h' : Heap H} (ho : HashOnly h h') :
    ∀ (fuel : Nat) (n : Id), recompute F fuel h' n = recompute F fuel h n
  | 0, _ => rfl
  | f + 1, n => by
    simp only [recompute]
    have : (fun c => recompute F f h' c) = (fun c => recompute F f h c) :=
      funext fun c => recompute_hashOnly F ho f c
    rw [this]
    exact hashNode_fields F (h n) (h' n) _ (ho.cls n) (ho.raw n) (ho.args n)

theorem hashNode_setHash (F : HashFns H) (h : Heap H) (n : Id) (x : Option H) (m : Id)
    (hc : ∀ c, IsChild (h m).args c → (setHash h n x c).hash = (h c).hash) :
    hashNode F (setHash h n x m) (fun c => (setHash h n x c).hash) = hashNode F (h m) (fun c => (h c).hash) :=
  hashNode_transfer F (setHash_cls ..) (setHash_raw ..) (setHash_args ..) hc

/-- `m` lies on the parent chain that starts at `cur` -/
inductive OnChain (h : Heap H) : Option Id → Id → Prop where
  | here (n : Id) : OnChain h (some n) n
  | up (n m : Id) : OnChain h (h n).parent m → OnChain h (some n) m

theorem onChain_hashOnly {h h' : Heap H} (ho : HashOnly h h') {cur : Option Id} {m : Id}
    (hc : OnChain h' cur m) : OnChain h cur m := by
  induction hc with
  | here n => exact .here n
  | up n m _ ih =>
    rw [ho.parent] at ih
    exact .up n m ih

/-- what the invalidation loop from `cur` does: it clears `_hash` on an initial segment of the parent chain of `cur` and
    changes nothing else (`hashOnly`, `cleared`); `cur` itself ends up uncached (`start`), and the segment runs upwards until
    it meets an uncached node (`parent`) -/
structure Inval (h : Heap H) (cur : Option Id) (h' : Heap H) : Prop where
  hashOnly : HashOnly h h'
  cleared : ∀ m, (h' m).hash = (h m).hash ∨ ((h' m).hash = none ∧ OnChain h cur m)
  start : ∀ n, cur = some n → (h' n).hash = none
  parent : ∀ c p, (h' c).hash ≠ (h c).hash → (h c).parent = some p → (h' p).hash = none

theorem inval_spec : ∀ (fuel : Nat) (h : Heap H) (cur : Option Id) (h' : Heap H), inval fuel h cur = some h' →
    Inval h cur h'
  | _, h, none, h', he => by
    simp only [inval, Option.some.injEq] at he; subst he
    exact ⟨.refl _, fun _ => .inl rfl, (fun _ hn => nomatch hn), fun _ _ hne => absurd rfl hne⟩
  | 0, h, some n, h', he => by simp [inval] at he
  | f + 1, h, some n, h', he => by
    simp only [inval] at he
    split at he
    · next hn =>
      simp only [Option.some.injEq] at he; subst he
      exact ⟨.refl _, fun _ => .inl rfl, fun n' hn' => by cases hn'; exact hn, fun _ _ hne => absurd rfl hne⟩
    · have ho := hashOnly_setHash h n (none : Option H)
      obtain ⟨ho1, a1, b1, c1⟩ := inval_spec f _ _ h' he
      have hn' : (h' n).hash = none := by
        rcases a1 n with e | e
        · rw [e, setHash_hash_self]
        · exact e.1
      refine ⟨ho.trans ho1, fun m => ?_, fun n' hn'' => by cases hn''; exact hn', fun c p hne hp => ?_⟩
      · by_cases hmn : m = n
        · subst hmn; exact .inr ⟨hn', .here m⟩
        · rw [← setHash_hash_other h none hmn]
          exact (a1 m).imp_right (fun e => ⟨e.1, .up n m (onChain_hashOnly ho e.2)⟩)
      · by_cases hcn : c = n
        · subst hcn; exact b1 p hp
        · exact c1 c p (by rw [setHash_hash_other h none hcn]; exact hne) (by rw [setHash_parent]; exact hp)

theorem inval_hashOnly {fuel : Nat} {h h' : Heap H} {cur : Option Id} (he : inval fuel h cur = some h') : HashOnly h h' :=
  (inval_spec fuel h cur h' he).hashOnly

theorem inval_untouched {fuel : Nat} {h h' : Heap H} {cur : Option Id} (he : inval fuel h cur = some h') {m : Id}
    (hm : (h m).hash = none) : h' m = h m :=
  let s := inval_spec fuel h cur h' he
  s.hashOnly.same ((s.cleared m).elim id (fun e => e.1.trans hm.symm))

theorem inval_frame {fuel : Nat} {h h' : Heap H} {cur : Option Id} (he : inval fuel h cur = some h') {m : Id}
    (hm : ¬ OnChain h cur m) : h' m = h m :=
  let s := inval_spec fuel h cur h' he
  s.hashOnly.same ((s.cleared m).elim id (fun e => absurd e.2 hm))

/-- the cache clause with (at most) one exempted cell: the copy whose `_hash` was just carried over -/
def CacheX (F : HashFns H) (h : Heap H) (x : Option Id) : Prop :=
  ∀ m y, (h m).hash = some y → some m ≠ x → hashNode F (h m) (fun c => (h c).hash) = some y

/-- a node that stays cached keeps cached children: a cleared child would have its parent — by `Links` the node itself —
    cleared or uncached -/
theorem inval_cache (F : HashFns H) {fuel : Nat} {h h' : Heap H} {cur : Option Id} (he : inval fuel h cur = some h')
    (hl : Links h) (hk : Keys h) (hc : CacheX F h cur) : Cache F h' := by
  have s := inval_spec fuel h cur h' he
  intro m x hx
  have keep : ∀ {c y}, (h' c).hash = some y → (h' c).hash = (h c).hash :=
    fun {c y} hy => (s.cleared c).elim id (fun e => by rw [e.1] at hy; cases hy)
  have hx0 : (h m).hash = some x := (keep hx).symm.trans hx
  rw [hashNode_transfer F (s.hashOnly.cls m) (s.hashOnly.raw m) (s.hashOnly.args m) (fun c hcc => ?_)]
  · refine hc m x hx0 (fun e => ?_)
    rw [s.start m e.symm] at hx; cases hx
  · cases hcs : (h' c).hash with
    | some y => exact hcs.symm.trans (keep hcs)
    | none =>
      cases hc0 : (h c).hash with
      | none => rfl
      | some y =>
        obtain ⟨k, i, ho⟩ := hcc
        rw [s.parent c m (by rw [hcs, hc0]; exact fun e => nomatch e)
          (congrArg Prod.fst (hl m k i c (ho.stored (hk m))))] at hx
        cases hx

/-- `Inv` with the cache clause suspended at (at most) one cell `x`; `x = none` is `Inv` itself. It is what every
    primitive write keeps, and what holds in `__deepcopy__` between `copy._hash = node._hash` and the first `set` /
    `append` on the copy -/
structure InvX (F : HashFns H) (x : Option Id) (h : Heap H) : Prop where
  links : Links h
  cache : CacheX F h x
  keys : Keys h

theorem Inv.suspend {F : HashFns H} {h : Heap H} (hI : Inv F h) (x : Option Id) : InvX F x h :=
  ⟨hI.links, fun m y hy _ => hI.cache m y hy, hI.keys⟩

theorem InvX.inv {F : HashFns H} {h : Heap H} (hX : InvX F none h) : Inv F h :=
  ⟨hX.links, fun n y hy => hX.cache n y hy (fun e => nomatch e), hX.keys⟩

/-- `set` / `append` may start with the cache clause suspended at the node they are called on: the loop clears that node
    first -/
theorem inval_restores (F : HashFns H) {fuel : Nat} {h h' : Heap H} {n : Id} (hX : InvX F (some n) h)
    (he : inval fuel h (some n) = some h') : Inv F h' ∧ HashOnly h h' ∧ (h' n).hash = none :=
  let s := inval_spec fuel h (some n) h' he
  ⟨⟨links_hashOnly s.hashOnly hX.links, inval_cache F he hX.links hX.keys hX.cache, keys_hashOnly s.hashOnly hX.keys⟩,
    s.hashOnly, s.start n rfl⟩

/-- entering the suspended state: a hash written into an uncached cell `c` disturbs no other cell's cache clause, since
    `c`, being uncached, is no child of a cached node -/
theorem InvX.carry {F : HashFns H} {h : Heap H} {c : Id} (hX : InvX F none h) (hh : (h c).hash = none) (y : H) :
    InvX F (some c) (setHash h c (some y)) := by
  have ho := hashOnly_setHash h c (some y)
  refine ⟨links_hashOnly ho hX.links, fun m z hz hne => ?_, keys_hashOnly ho hX.keys⟩
  have hmc : m ≠ c := fun e => hne (by rw [e])
  rw [setHash_hash_other _ _ hmc] at hz
  have hc := hX.cache m z hz (fun e => nomatch e)
  rw [hashNode_setHash F h c (some y) m (fun c' hcc => setHash_hash_other _ _ (fun e => ?_))]
  · exact hc
  · have := hashNode_some F (h m) hc hcc
    rw [e, hh] at this; cases this

/-- leaving it without an invalidation: the hash of the suspended cell is the hash of its own fields -/
theorem InvX.resume {F : HashFns H} {h : Heap H} {c : Id} (hX : InvX F (some c) h)
    (hc : ∀ y, (h c).hash = some y → hashNode F (h c) (fun m => (h m).hash) = some y) : InvX F none h := by
  refine ⟨hX.links, fun m y hy _ => ?_, hX.keys⟩
  by_cases e : m = c
  · subst e; exact hc y hy
  · exact hX.cache m y hy (fun e' => e (Option.some.inj e'))

/-- writing into `n` the hash computed from the current caches keeps the invariant and every cached value: a cached `n`
    holds that value already; an uncached `n` enters the suspended state and leaves it at once -/
theorem setHash_computed (F : HashFns H) {h : Heap H} (hI : Inv F h) {n : Id} {x : H}
    (hx : hashNode F (h n) (fun c => (h c).hash) = some x) :
    Inv F (setHash h n (some x)) ∧ ∀ c y, (h c).hash = some y → (setHash h n (some x) c).hash = some y := by
  cases hn : (h n).hash with
  | some y =>
    have e : setHash h n (some x) = h := funext fun m => (hashOnly_setHash h n _).same (by
      by_cases hm : m = n
      · subst hm; rw [setHash_hash_self, hn, ← hx, hI.cache m y hn]
      · exact setHash_hash_other _ _ hm)
    rw [e]; exact ⟨hI, fun _ _ hy => hy⟩
  | none =>
    have other : ∀ {c y}, (h c).hash = some y → (setHash h n (some x) c).hash = (h c).hash :=
      fun hy => setHash_hash_other _ _ (fun e => by rw [e, hn] at hy; cases hy)
    refine ⟨(((hI.suspend none).carry hn x).resume fun y hy => ?_).inv, fun c y hy => (other hy).trans hy⟩
    rw [setHash_hash_self] at hy; cases hy
    rw [hashNode_setHash F h n (some x) n (fun c hc => ?_)]
    · exact hx
    · obtain ⟨y, hy⟩ := Option.isSome_iff_exists.mp (hashNode_some F (h n) hx hc)
      exact other hy

theorem inval_inv (F : HashFns H) {fuel : Nat} {h h' : Heap H} {n : Id} (hI : Inv F h)
    (he : inval fuel h (some n) = some h') : Inv F h' ∧ HashOnly h h' ∧ (h' n).hash = none :=
  inval_restores F (hI.suspend (some n)) he

end SqlglotModel.Tree
