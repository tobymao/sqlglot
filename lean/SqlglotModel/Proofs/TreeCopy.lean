/-
  Proofs/TreeCopy.lean — the iterative `__deepcopy__` (C08 `inv_copy`, C09 `copy_equal_disjoint`).

  One induction over the loop (the four `dc*_spec`) carries two things: the state invariant (`DC` for the heap, `V` inside
  a visit, `LI` between visits) and a simulation between the original nodes and their copies (`SimInv`: the args of a
  visited copy are those of its original up to `rho`, the pairs (original, copy) visited or on the stack), from which
  Proofs/TreeCopyShape reads off that both have the same abstraction. Each step of the loop is an allocation (`dc_opNew`,
  `V.alloc`: the new cell is pushed as a pending copy), a plain dict assignment (`dc_assign`) or a `set` / `append` on the
  copy (`dc_edit`).
-/
import SqlglotModel.Proofs.TreeFrame

namespace SqlglotModel.Tree

variable {H : Type}

theorem assignArg_eq (h : Heap H) (c : Id) (k : String) (a : Arg) :
    assignArg h c k a = setArgs h c (setKey k a (h c).args) := by
  funext j
  simp only [assignArg, setArgs, upd]
  split <;> simp_all

theorem assign_cell (h : Heap H) (c : Id) (k : String) (a : Arg) :
    assignArg h c k a c = { (h c) with args := setKey k a (h c).args } ∧
    ∀ m, m ≠ c → assignArg h c k a m = h m := by
  rw [assignArg_eq]
  exact ⟨by simp [setArgs], fun m hm => by simp [setArgs, upd, hm]⟩

/-- every cell from `nx` on is unused -/
def FreshFrom (h : Heap H) (nx : Nat) : Prop := ∀ m, nx ≤ m → h m = blank ∧ Unstored h m

theorem child_below {F : HashFns H} {h0 : Heap H} {base : Nat} (hI0 : Inv F h0) (hf0 : FreshFrom h0 base) {n : Id}
    {k : String} {a : Arg} (hm : (k, a) ∈ (h0 n).args) {j : Option Nat} {w : Id} (ha : ArgHas a j w) : base > w := by
  cases hlt : decide (w < base) with
  | true => simpa using hlt
  | false =>
    have hge : base ≤ w := by simpa using hlt
    exact absurd ⟨a, getKey_of_mem (hI0.keys n) hm, ha⟩ ((hf0 w hge).2 n k j)

/-- state of the heap while `h0` is copied into the cells from `base` on: the invariant with the cache clause suspended
    at `x`, the cells from `nx` on unused, those below `base` as in `h0`, those from `base` on a region -/
structure DC (F : HashFns H) (h0 : Heap H) (base : Nat) (x : Option Id) (h : Heap H) (nx : Nat) : Prop where
  links : Links h
  keys : Keys h
  cache : CacheX F h x
  fresh : FreshFrom h nx
  le : base ≤ nx
  frame : ∀ m, m < base → h m = h0 m
  region : Region h (fun m => base ≤ m)

theorem DC.invX {F : HashFns H} {h0 h : Heap H} {base nx : Nat} {x : Option Id} (d : DC F h0 base x h nx) :
    InvX F x h := ⟨d.links, d.cache, d.keys⟩

theorem DC.inv {F : HashFns H} {h0 h : Heap H} {base nx : Nat} (d : DC F h0 base none h nx) : Inv F h := d.invX.inv

theorem DC.same {F : HashFns H} {h0 h : Heap H} {base nx : Nat} {x : Option Id} (d : DC F h0 base x h nx) :
    Same (fun m => base ≤ m) h0 h := fun m hm => d.frame m (Nat.lt_of_not_le hm)

/-- `DC` is `InvX` and clauses that do not mention the suspended cell: on one heap that cell may change with the `InvX` -/
theorem DC.ofInvX {F : HashFns H} {h0 h : Heap H} {base nx : Nat} {x x' : Option Id} (d : DC F h0 base x h nx)
    (hX : InvX F x' h) : DC F h0 base x' h nx :=
  { d with cache := hX.cache }

theorem DC.weaken {F : HashFns H} {h0 h : Heap H} {base nx : Nat} (d : DC F h0 base none h nx) (x : Option Id) :
    DC F h0 base x h nx :=
  d.ofInvX (d.inv.suspend x)

theorem outside_ne {base nx m c : Nat} (hm : m < base ∨ nx ≤ m) (h1 : base ≤ c) (h2 : nx > c) : m ≠ c := by omega

theorem DC.step {F : HashFns H} {h0 h h2 : Heap H} {base nx nx' : Nat} {x x' : Option Id} (d : DC F h0 base x h nx)
    (hle : nx ≤ nx') (hX : InvX F x' h2) (same : ∀ m : Nat, m < base ∨ nx' ≤ m → h2 m = h m)
    (hR : Region h2 (fun m => base ≤ m)) : DC F h0 base x' h2 nx' := by
  refine ⟨hX.links, hX.keys, hX.cache, fun m hm => ?_, Nat.le_trans d.le hle,
    fun m hm => (same m (.inl hm)).trans (d.frame m hm), hR⟩
  have e : h2 m = blank := (same m (.inr hm)).trans (d.fresh m (Nat.le_trans hle hm)).1
  exact ⟨e, unstored_of_links hX.links (by rw [e]; rfl)⟩

/-- `v.__class__()` on the first unused cell -/
theorem dc_opNew {F : HashFns H} {h0 h : Heap H} {base nx : Nat} {x : Option Id} (d : DC F h0 base x h nx)
    (cls : String) (raw : Bool) : DC F h0 base x (opNew h nx cls raw) (nx + 1) := by
  obtain ⟨hb, hu⟩ := d.fresh nx (Nat.le_refl _)
  refine d.step (Nat.le_succ _) (invX_opNew F d.invX ⟨hu, by rw [hb]; rfl, by rw [hb]; rfl⟩)
    (fun m hm => opNew_other _ _ _ (outside_ne hm d.le (Nat.lt_succ_self nx)))
    (region_opNew d.region d.keys nx cls raw).1

/-- cell `m` keeps what the loop relies on: its structure, and an empty hash cache stays empty -/
structure Kept (h h2 : Heap H) (m : Id) : Prop where
  args : (h2 m).args = (h m).args
  cls : (h2 m).cls = (h m).cls
  raw : (h2 m).raw = (h m).raw
  hash : (h m).hash = none → (h2 m).hash = none

theorem Kept.of_eq {h h2 : Heap H} {m : Id} (e : h2 m = h m) : Kept h h2 m := by
  refine ⟨?_, ?_, ?_, ?_⟩ <;> rw [e]
  exact id

/-- what `copy.set(k, child)` / `copy.append(k, item)` leave behind: the copy `c` has the new args `A` and no cached
    hash, every other cell is kept -/
structure Edited (F : HashFns H) (h0 : Heap H) (base nx : Nat) (h h2 : Heap H) (c : Id) (A : List (String × Arg)) :
    Prop where
  dc : DC F h0 base none h2 nx
  hash : (h2 c).hash = none
  cls : (h2 c).cls = (h c).cls
  raw : (h2 c).raw = (h c).raw
  args : (h2 c).args = A
  kept : ∀ m, m ≠ c → Kept h h2 m

/-- the common part of `copy.set(k, child)` and `copy.append(k, item)`: the invalidation loop from `c`, then a write of the
    slot `(c, k)`. `sw` gives frame, region and the kept cells; that the write keeps `Inv` is asked for as `hI2`, because
    `set` and `append` show it from different facts about the inserted node -/
theorem dc_edit {F : HashFns H} {h0 h hi h2 : Heap H} {base nx : Nat} {c : Id} {k : String}
    {fuel : Nat} (d : DC F h0 base (some c) h nx) (hc1 : base ≤ c) (hc2 : nx > c)
    (hinv : inval fuel h (some c) = some hi) {a : Arg} {W : Id → Prop} (sw : SlotWrite hi h2 c k (some a) W)
    (hW : ∀ w, W w → base ≤ w ∧ nx > w) (hA : ∀ j m, ArgHas a j m → W m ∨ Stored hi c k j m)
    (hI2 : Inv F hi → (hi c).hash = none → Inv F h2) : Edited F h0 base nx h h2 c (setKey k a (hi c).args) := by
  obtain ⟨hIi, ho, hcn⟩ := inval_restores F d.invX hinv
  have hRi := region_hashOnly ho d.region
  refine ⟨d.step (Nat.le_refl _) ((hI2 hIi hcn).suspend none) ?_ ?_, ?_, ?_, ?_, ?_, ?_⟩
  · intro m hm
    rw [sw.same (outside_ne hm hc1 hc2) (fun hw => outside_ne hm (hW m hw).1 (hW m hw).2 rfl)]
    rcases hm with hm | hm
    · exact inval_frame hinv (fun hch => Nat.not_le_of_lt hm (chain_in_region d.region hc1 hch))
    · exact inval_untouched hinv (by rw [(d.fresh m hm).1]; rfl)
  · refine sw.region hRi hc1 (fun a' j m ha' hj => ?_)
    cases ha'
    exact (hA j m hj).elim (fun hw => (hW m hw).1) (hRi.down c k j m hc1)
  · rw [(sw.fields c).hash]; exact hcn
  · rw [(sw.fields c).cls]; exact ho.cls c
  · rw [(sw.fields c).raw]; exact ho.raw c
  · exact sw.argsSelf
  · intro m hm
    obtain ⟨f2, f3, f4⟩ := sw.fields m
    exact ⟨(sw.argsOther hm).trans (ho.args m), f3.trans (ho.cls m), f4.trans (ho.raw m),
      fun hh => by rw [f2, inval_untouched hinv hh]; exact hh⟩

theorem dc_set {F : HashFns H} {h0 h h2 : Heap H} {base nx : Nat} {c w : Id} {k : String}
    {fuel : Nat} (d : DC F h0 base (some c) h nx) (hc1 : base ≤ c) (hc2 : nx > c)
    (hw : base ≤ w ∧ nx > w) (hwp : (h w).parent = none)
    (he : opSet fuel h c k (.node w) none true = some h2) :
    Edited F h0 base nx h h2 c (setKey k (.one w) (h c).args) := by
  obtain ⟨hi, hinv, hcore⟩ := opSet_some he
  have ho := inval_hashOnly hinv
  rw [← ho.args c]
  refine dc_edit d hc1 hc2 hinv (W := (· = w)) ?_ (fun w' e => e ▸ hw)
    (fun j m ha => .inl (argHas_one.mp ha).2.symm) ?_
  · simp only [setCore, Option.some.injEq] at hcore
    exact hcore ▸ slotWrite_setPtr hi c k (some (.one w)) w (some k) none
  · intro hIi hcn
    have hu : Unstored hi w := unstored_of_links hIi.links (ho.parent.trans hwp)
    exact inv_setCore F hIi hcn (v := .node w) (List.pairwise_singleton ..)
      (fun _ hc => .inl ((Item.node.inj (List.mem_singleton.mp hc)) ▸ hu)) hcore

theorem dc_append {F : HashFns H} {h0 h h2 : Heap H} {base nx : Nat} {c : Id} {k : String}
    {it : Item} {fuel : Nat} (d : DC F h0 base (some c) h nx) (hc1 : base ≤ c) (hc2 : nx > c)
    (hit : ∀ w, it = .node w → (base ≤ w ∧ nx > w) ∧ (h w).parent = none)
    (he : opAppend fuel h c k it = some h2) :
    Edited F h0 base nx h h2 c (setKey k (.many (listOf k (h c).args ++ [it])) (h c).args) := by
  obtain ⟨hi, hinv, rfl⟩ := opAppend_some he
  have ho := inval_hashOnly hinv
  rw [← ho.args c]
  refine dc_edit d hc1 hc2 hinv (slotWrite_append hi c k it) (fun w e => (hit w e).1) ?_ ?_
  · intro j m ha
    obtain ⟨n, rfl, hn⟩ := argHas_many.mp ha
    rcases getElem?_appended hn with ⟨hg, hn⟩ | ⟨_, e⟩
    · exact .inr ⟨_, hg, hn⟩
    · exact .inl e.symm
  · intro hIi hcn
    refine inv_appendCore F hIi hcn ?_
    cases it with
    | leaf s => trivial
    | node w => exact unstored_of_links hIi.links (ho.parent.trans (hit w rfl).2)

/-- `copy.args[k] = a` for a childless value (a scalar or the empty list) -/
theorem dc_assign {F : HashFns H} {h0 h : Heap H} {base nx : Nat} {x : Option Id} {c : Id} {k : String} {a : Arg}
    (d : DC F h0 base x h nx) (hx : (h c).hash = none ∨ x = some c) (hc1 : base ≤ c) (hc2 : nx > c)
    (ha : ∀ j m, ¬ ArgHas a j m) : DC F h0 base x (assignArg h c k a) nx := by
  rw [assignArg_eq]
  have sw := slotWrite_setArgs h c k (some a)
  have hno : ∀ a' j m, some a = some a' → ArgHas a' j m → False := fun _ j m e ha' => by cases e; exact ha j m ha'
  exact d.step (Nat.le_refl _) (sw.invX F d.invX hx (fun _ hf => hf.elim) (fun a' j m e ha' => (hno a' j m e ha').elim))
    (fun m hm => sw.same (outside_ne hm hc1 hc2) id)
    (sw.region d.region hc1 (fun a' j m e ha' => (hno a' j m e ha').elim))

/-- `copy._hash = node._hash` on a still empty copy: only the cache clause of that one cell is suspended -/
theorem dc_carry {F : HashFns H} {h0 h : Heap H} {base nx : Nat} {c : Id} (d : DC F h0 base none h nx)
    (hc1 : base ≤ c) (hc2 : nx > c) (hh : (h c).hash = none) (y : H) :
    DC F h0 base (some c) (setHash h c (some y)) nx :=
  d.step (Nat.le_refl _) (d.invX.carry hh y) (fun _ hm => upd_other _ _ (outside_ne hm hc1 hc2))
    (region_hashOnly (hashOnly_setHash h c (some y)) d.region)

/-- a pending stack entry `(n, c)`: `c` is the still empty copy of the original node `n` -/
def Pending (h0 : Heap H) (base : Nat) (h : Heap H) (nx : Nat) (p : Id × Id) : Prop :=
  base > p.1 ∧ base ≤ p.2 ∧ nx > p.2 ∧ (h p.2).args = [] ∧ (h p.2).hash = none ∧
  (h p.2).cls = (h0 p.1).cls ∧ (h p.2).raw = (h0 p.1).raw

theorem pending_opNew (h0 h : Heap H) {base nx : Nat} {w : Id} (hw : base > w) (hle : base ≤ nx) :
    Pending h0 base (opNew h nx (h0 w).cls (h0 w).raw) (nx + 1) (w, nx) := by
  refine ⟨hw, hle, Nat.lt_succ_self _, ?_, ?_, ?_, ?_⟩ <;> simp only [opNew_self] <;> rfl

theorem Pending.lt {h0 h : Heap H} {base nx : Nat} {p : Id × Id} (hp : Pending h0 base h nx p) : nx > p.2 := hp.2.2.1

theorem Pending.mono {h0 h h' : Heap H} {base nx nx' : Nat} {p : Id × Id} (hp : Pending h0 base h nx p)
    (hle : nx ≤ nx') (e : Kept h h' p.2) : Pending h0 base h' nx' p := by
  obtain ⟨a, b, c, d, e', f, g⟩ := hp
  exact ⟨a, b, Nat.lt_of_lt_of_le c hle, e.args.trans d, e.hash e', e.cls.trans f, e.raw.trans g⟩

/-- state of the visit of `(n, c)` after the arguments `d` of `n` have been processed -/
structure V (F : HashFns H) (h0 : Heap H) (base : Nat) (n c : Id) (d : List (String × Arg)) (x : Option Id)
    (h : Heap H) (nx : Nat) (st : List (Id × Id)) : Prop where
  dc : DC F h0 base x h nx
  cge : base ≤ c
  clt : nx > c
  cls : (h c).cls = (h0 n).cls
  raw : (h c).raw = (h0 n).raw
  /-- either a `set` / `append` has cleared the hash of `c`, or the hash carried over from `n` still stands: then `c` holds
      exactly the processed args `d`, none of them a child -/
  mode : (x = none ∧ (h c).hash = none) ∨
         (x = some c ∧ (h c).hash = (h0 n).hash ∧ (h c).args = d ∧ keepsHash d = true)
  pend : ∀ p, p ∈ st → Pending h0 base h nx p
  nodup : (c :: st.map Prod.snd).Nodup

/-- for a `set` / `append` on the copy the two modes are one: the cache clause of `c` may be taken as suspended -/
theorem V.dcAt {F : HashFns H} {h0 h : Heap H} {base nx : Nat} {n c : Id} {d : List (String × Arg)} {x : Option Id}
    {st : List (Id × Id)} (v : V F h0 base n c d x h nx st) : DC F h0 base (some c) h nx := by
  rcases v.mode with ⟨rfl, _⟩ | ⟨rfl, _⟩
  · exact v.dc.weaken (some c)
  · exact v.dc

theorem V.pend_ne {F : HashFns H} {h0 h : Heap H} {base nx : Nat} {n c : Id} {d : List (String × Arg)}
    {x : Option Id} {st : List (Id × Id)} (v : V F h0 base n c d x h nx st) {p : Id × Id} (hp : p ∈ st) : p.2 ≠ c :=
  fun e => (List.nodup_cons.mp v.nodup).1 (List.mem_map.mpr ⟨p, hp, e⟩)

theorem V.step {F : HashFns H} {h0 h h2 : Heap H} {base nx nx' : Nat} {n c : Id} {d d' : List (String × Arg)}
    {x x' : Option Id} {st : List (Id × Id)} (v : V F h0 base n c d x h nx st) (dc2 : DC F h0 base x' h2 nx')
    (hle : nx ≤ nx') (hcls : (h2 c).cls = (h c).cls) (hraw : (h2 c).raw = (h c).raw)
    (mode : (x' = none ∧ (h2 c).hash = none) ∨
      (x' = some c ∧ (h2 c).hash = (h0 n).hash ∧ (h2 c).args = d' ∧ keepsHash d' = true))
    (hk : ∀ m, m ≠ c → nx > m → Kept h h2 m) : V F h0 base n c d' x' h2 nx' st :=
  ⟨dc2, v.cge, Nat.lt_of_lt_of_le v.clt hle, hcls.trans v.cls, hraw.trans v.raw, mode,
    fun p hp => (v.pend p hp).mono hle (hk p.2 (v.pend_ne hp) (v.pend p hp).lt), v.nodup⟩

theorem V.edited {F : HashFns H} {h0 h h2 : Heap H} {base nx : Nat} {n c : Id} {d d' A : List (String × Arg)}
    {x : Option Id} {st : List (Id × Id)} (v : V F h0 base n c d x h nx st) (e : Edited F h0 base nx h h2 c A) :
    V F h0 base n c d' none h2 nx st :=
  v.step e.dc (Nat.le_refl _) e.cls e.raw (.inl ⟨rfl, e.hash⟩) (fun m hm _ => e.kept m hm)

/-- `stack.append((w, w.__class__()))`: the first unused cell becomes the pending copy of the original node `w` -/
theorem V.alloc {F : HashFns H} {h0 h : Heap H} {base nx : Nat} {n c w : Id} {d : List (String × Arg)}
    {x : Option Id} {st : List (Id × Id)} (v : V F h0 base n c d x h nx st) (hw : base > w) :
    V F h0 base n c d x (opNew h nx (h w).cls (h w).raw) (nx + 1) ((w, nx) :: st) := by
  have hc : opNew h nx (h w).cls (h w).raw c = h c := opNew_other _ _ _ (Nat.ne_of_lt v.clt)
  have v1 : V F h0 base n c d x (opNew h nx (h w).cls (h w).raw) (nx + 1) st :=
    v.step (dc_opNew v.dc _ _) (Nat.le_succ _) (by rw [hc]) (by rw [hc]) (by rw [hc]; exact v.mode)
      (fun m _ hm => Kept.of_eq (opNew_other _ _ _ (Nat.ne_of_lt hm)))
  refine { v1 with pend := fun p hp => ?_, nodup := ?_ }
  · rcases List.mem_cons.mp hp with e | e
    · subst e
      rw [v.dc.frame w hw]
      exact pending_opNew h0 h hw v.dc.le
    · exact v1.pend p e
  · have hnd := List.nodup_cons.mp v.nodup
    refine List.nodup_cons.mpr ⟨fun hm => ?_, List.nodup_cons.mpr ⟨fun hm => ?_, hnd.2⟩⟩
    · rcases List.mem_cons.mp hm with e | e
      · exact Nat.ne_of_lt v.clt e
      · exact hnd.1 e
    · obtain ⟨p, hp, e⟩ := List.mem_map.mp hm
      have := (v.pend p hp).lt
      rw [e] at this
      exact Nat.lt_irrefl _ this

theorem keepsHash_append (d : List (String × Arg)) (k : String) (a : Arg) (ha : a = .many [] ∨ ∃ s, a = .leaf s) :
    keepsHash (d ++ [(k, a)]) = keepsHash d := by
  induction d with
  | nil => rcases ha with e | ⟨s, e⟩ <;> subst e <;> rfl
  | cons e r ih =>
    obtain ⟨k', a'⟩ := e
    cases a' with
    | one c => rfl
    | leaf s => simp only [List.cons_append, keepsHash]; exact ih
    | many items =>
      cases items with
      | nil => simp only [List.cons_append, keepsHash]; exact ih
      | cons i is => rfl

theorem keepsHash_noChild : ∀ {args : List (String × Arg)}, keepsHash args = true → ∀ c, ¬ IsChild args c
  | [], _, c, ⟨_, _, _, hm, _⟩ => by cases hm
  | (k, a) :: r, hk, c, ⟨k', i, a', hm, ha⟩ => by
    cases a with
    | one c' => simp [keepsHash] at hk
    | leaf s =>
      simp only [keepsHash] at hk
      rcases List.mem_cons.mp hm with e | e
      · cases e; cases i <;> simp [ArgHas] at ha
      · exact keepsHash_noChild hk c ⟨k', i, a', e, ha⟩
    | many items =>
      cases items with
      | cons x xs => simp [keepsHash] at hk
      | nil =>
        simp only [keepsHash] at hk
        rcases List.mem_cons.mp hm with e | e
        · cases e; cases i <;> simp [ArgHas] at ha
        · exact keepsHash_noChild hk c ⟨k', i, a', e, ha⟩

theorem V.assign {F : HashFns H} {h0 h : Heap H} {base nx : Nat} {n c : Id} {d : List (String × Arg)}
    {x : Option Id} {st : List (Id × Id)} {k : String} {a : Arg} (v : V F h0 base n c d x h nx st)
    (hk : k ∉ d.map Prod.fst) (ha : a = .many [] ∨ ∃ s, a = .leaf s) :
    V F h0 base n c (d ++ [(k, a)]) x (assignArg h c k a) nx st := by
  have hnc : ∀ j m, ¬ ArgHas a j m := by
    intro j m
    rcases ha with e | ⟨s, e⟩ <;> subst e <;> cases j <;> simp [ArgHas]
  obtain ⟨ec, eo⟩ := assign_cell h c k a
  -- in either mode `c` may be written: it is uncached, or suspended
  refine v.step (dc_assign v.dc (v.mode.imp And.right And.left) v.cge v.clt hnc) (Nat.le_refl _) (by rw [ec]) (by rw [ec]) ?_
    (fun m hm _ => Kept.of_eq (eo m hm))
  rw [ec]
  rcases v.mode with ⟨e1, e2⟩ | ⟨e1, e2, e3, e4⟩
  · exact .inl ⟨e1, e2⟩
  · exact .inr ⟨e1, e2, by rw [e3]; exact setKey_fresh hk, by rw [keepsHash_append d k a ha]; exact e4⟩

def ItemRel (ρ : Id → Id → Prop) : Item → Item → Prop
  | .leaf s, .leaf t => s = t
  | .node a, .node b => ρ a b
  | _, _ => False

abbrev ItemsRel (ρ : Id → Id → Prop) : List Item → List Item → Prop := ListRel (ItemRel ρ)

def ArgRel (ρ : Id → Id → Prop) : Arg → Arg → Prop
  | .leaf s, .leaf t => s = t
  | .one a, .one b => ρ a b
  | .many xs, .many ys => ItemsRel ρ xs ys
  | _, _ => False

abbrev ArgsRel (ρ : Id → Id → Prop) : List (String × Arg) → List (String × Arg) → Prop :=
  ListRel (fun x y => x.1 = y.1 ∧ ArgRel ρ x.2 y.2)

theorem ItemRel.mono {ρ ρ' : Id → Id → Prop} (hm : ∀ a b, ρ a b → ρ' a b) :
    ∀ {x y : Item}, ItemRel ρ x y → ItemRel ρ' x y
  | .leaf _, .leaf _, h => h
  | .node _, .node _, h => hm _ _ h
  | .leaf _, .node _, h => h.elim
  | .node _, .leaf _, h => h.elim

theorem ItemsRel.mono {ρ ρ' : Id → Id → Prop} (hm : ∀ a b, ρ a b → ρ' a b) {xs ys : List Item}
    (h : ItemsRel ρ xs ys) : ItemsRel ρ' xs ys := ListRel.mono (fun _ _ => ItemRel.mono hm) h

theorem ArgRel.mono {ρ ρ' : Id → Id → Prop} (hm : ∀ a b, ρ a b → ρ' a b) {x y : Arg} (h : ArgRel ρ x y) :
    ArgRel ρ' x y := by
  cases x <;> cases y <;> simp_all [ArgRel]
  exact ItemsRel.mono hm h

theorem ArgsRel.mono {ρ ρ' : Id → Id → Prop} (hm : ∀ a b, ρ a b → ρ' a b) {xs ys : List (String × Arg)}
    (h : ArgsRel ρ xs ys) : ArgsRel ρ' xs ys := ListRel.mono (fun _ _ h => ⟨h.1, ArgRel.mono hm h.2⟩) h

theorem ArgsRel.snoc {ρ : Id → Id → Prop} {xs ys : List (String × Arg)} {k : String} {x y : Arg}
    (hr : ArgsRel ρ xs ys) (h : ArgRel ρ x y) : ArgsRel ρ (xs ++ [(k, x)]) (ys ++ [(k, y)]) :=
  ListRel.snoc hr ⟨rfl, h⟩

theorem ArgsRel.keys {ρ : Id → Id → Prop} {xs ys : List (String × Arg)} (h : ArgsRel ρ xs ys) :
    xs.map Prod.fst = ys.map Prod.fst := ListRel.map_eq (fun _ _ h => h.1) h

theorem ArgsRel.setKey {ρ : Id → Id → Prop} {d ys : List (String × Arg)} {k : String} {a b : Arg}
    (hr : ArgsRel ρ d ys) (hk : k ∉ d.map Prod.fst) (hab : ArgRel ρ a b) :
    ArgsRel ρ (d ++ [(k, a)]) (setKey k b ys) := by
  rw [setKey_fresh (by rw [← ArgsRel.keys hr]; exact hk)]
  exact ArgsRel.snoc hr hab

/-- pairs (original, copy) known so far: already visited, or still on the stack -/
def rho (vis st : List (Id × Id)) : Id → Id → Prop := fun a b => (a, b) ∈ vis ∨ (a, b) ∈ st

theorem rho_mono_push {vis st : List (Id × Id)} {q p : Id × Id} (a b : Id) (hr : rho vis (q :: st) a b) :
    rho vis (q :: p :: st) a b := by
  rcases hr with h | h
  · exact .inl h
  · rcases List.mem_cons.mp h with e | e
    · exact .inr (by rw [e]; simp)
    · exact .inr (by simp [e])

theorem rho_move {vis st : List (Id × Id)} {q : Id × Id} (a b : Id) (hr : rho vis (q :: st) a b) :
    rho (q :: vis) st a b := by
  rcases hr with h | h
  · exact .inl (List.mem_cons_of_mem _ h)
  · rcases List.mem_cons.mp h with e | e
    · exact .inl (by rw [e]; simp)
    · exact .inr e

/-- the simulation invariant: every visited copy has the class of its original and args related to the original's,
    visited copies are not on the stack, and the root pair is known -/
structure SimInv (h0 : Heap H) (n0 : Id) (base : Nat) (vis : List (Id × Id)) (h : Heap H) (nx : Nat)
    (st : List (Id × Id)) : Prop where
  visOK : ∀ p, p ∈ vis → nx > p.2 ∧ (h p.2).cls = (h0 p.1).cls ∧ (h p.2).raw = (h0 p.1).raw ∧
    ArgsRel (rho vis st) (h0 p.1).args (h p.2).args
  disj : ∀ p, p ∈ vis → ∀ q, q ∈ st → p.2 ≠ q.2
  root : rho vis st n0 base

theorem SimInv.keep {h0 h h2 : Heap H} {n0 n c : Id} {base nx nx' : Nat} {vis st : List (Id × Id)}
    (s : SimInv h0 n0 base vis h nx ((n, c) :: st)) (hle : nx ≤ nx') (hk : ∀ m, m ≠ c → nx > m → Kept h h2 m) :
    SimInv h0 n0 base vis h2 nx' ((n, c) :: st) := by
  refine ⟨fun p hp => ?_, s.disj, s.root⟩
  obtain ⟨a1, a2, a3, a4⟩ := s.visOK p hp
  have b := hk p.2 (s.disj p hp (n, c) (List.mem_cons_self ..)) a1
  exact ⟨Nat.lt_of_lt_of_le a1 hle, b.cls.trans a2, b.raw.trans a3, by rw [b.args]; exact a4⟩

theorem SimInv.edited {F : HashFns H} {h0 h h2 : Heap H} {n0 n c : Id} {base nx : Nat} {vis st : List (Id × Id)}
    {A : List (String × Arg)} (s : SimInv h0 n0 base vis h nx ((n, c) :: st)) (e : Edited F h0 base nx h h2 c A) :
    SimInv h0 n0 base vis h2 nx ((n, c) :: st) :=
  s.keep (Nat.le_refl _) (fun m hm _ => e.kept m hm)

theorem SimInv.alloc {h0 h : Heap H} {n0 n c : Id} {base nx : Nat} {vis st : List (Id × Id)}
    (s : SimInv h0 n0 base vis h nx ((n, c) :: st)) (w : Id) (cls : String) (raw : Bool) :
    SimInv h0 n0 base vis (opNew h nx cls raw) (nx + 1) ((n, c) :: (w, nx) :: st) := by
  refine ⟨fun p hp => ?_, fun p hp q hq => ?_, rho_mono_push _ _ s.root⟩
  · obtain ⟨a1, a2, a3, a4⟩ := s.visOK p hp
    rw [opNew_other _ _ _ (Nat.ne_of_lt a1)]
    exact ⟨Nat.lt_succ_of_lt a1, a2, a3, ArgsRel.mono rho_mono_push a4⟩
  · rcases List.mem_cons.mp hq with e | e
    · exact s.disj p hp q (e ▸ List.mem_cons_self ..)
    · rcases List.mem_cons.mp e with e | e
      · subst e; exact Nat.ne_of_lt (s.visOK p hp).1
      · exact s.disj p hp q (List.mem_cons_of_mem _ e)

theorem SimInv.visit {h0 h : Heap H} {n0 n c : Id} {base nx : Nat} {vis st : List (Id × Id)}
    (s : SimInv h0 n0 base vis h nx ((n, c) :: st)) (hc : nx > c) (hcls : (h c).cls = (h0 n).cls)
    (hraw : (h c).raw = (h0 n).raw) (cur : ArgsRel (rho vis ((n, c) :: st)) (h0 n).args (h c).args)
    (hnd : c ∉ st.map Prod.snd) : SimInv h0 n0 base ((n, c) :: vis) h nx st := by
  refine ⟨fun p hp => ?_, fun p hp q hq => ?_, rho_move _ _ s.root⟩
  · rcases List.mem_cons.mp hp with e | e
    · subst e; exact ⟨hc, hcls, hraw, ArgsRel.mono rho_move cur⟩
    · obtain ⟨a1, a2, a3, a4⟩ := s.visOK p e
      exact ⟨a1, a2, a3, ArgsRel.mono rho_move a4⟩
  · rcases List.mem_cons.mp hp with e | e
    · subst e; exact fun e' => hnd (List.mem_map.mpr ⟨q, hq, e'.symm⟩)
    · exact s.disj p e q (List.mem_cons_of_mem _ hq)

/-- the items of one list argument `k` of `n`, `d` being the arguments processed before it. `A ++ [(k, .many zs)]` are the
    copy's args, `zs` the copies of the items `is1` appended so far. Last clause: the stack only grows while the items are
    copied, so the pairs known before stay known -/
theorem dcItems_spec {F : HashFns H} {h0 : Heap H} {base : Nat} {n0 n c : Id} {fuel : Nat} {k : String}
    {vis : List (Id × Id)} {A d : List (String × Arg)}
    (hkA : k ∉ A.map Prod.fst) {h' : Heap H} {nx' : Nat} {st' : List (Id × Id)} (items : List Item) :
    ∀ (is1 zs : List Item) (h : Heap H) (nx : Nat) (st : List (Id × Id)) (x : Option Id),
      (∀ w, Item.node w ∈ items → base > w) → V F h0 base n c (d ++ [(k, .many is1)]) x h nx st →
      SimInv h0 n0 base vis h nx ((n, c) :: st) → (h c).args = A ++ [(k, .many zs)] →
      ItemsRel (rho vis ((n, c) :: st)) is1 zs →
      dcItems fuel c k h nx st items = some (h', nx', st') →
      ∃ x' zs', V F h0 base n c (d ++ [(k, .many (is1 ++ items))]) x' h' nx' st' ∧ SimInv h0 n0 base vis h' nx' ((n, c) :: st') ∧
        (h' c).args = A ++ [(k, .many zs')] ∧ ItemsRel (rho vis ((n, c) :: st')) (is1 ++ items) zs' ∧
        ∀ a b, rho vis ((n, c) :: st) a b → rho vis ((n, c) :: st') a b := by
  induction items with
  | nil =>
    intro is1 zs h nx st x _ v s hA rI he
    simp only [dcItems] at he
    cases he
    rw [List.append_nil]
    exact ⟨x, zs, v, s, hA, rI, fun _ _ hr => hr⟩
  | cons it r ih =>
    intro is1 zs h nx st x hw v s hA rI he
    have hw' : ∀ w, Item.node w ∈ r → base > w := fun w hm => hw w (List.mem_cons_of_mem _ hm)
    cases it with
    | leaf sc =>
      simp only [dcItems] at he
      split at he
      · next h1 h1e =>
        have e := dc_append v.dcAt v.cge v.clt (fun _ hw => Item.noConfusion hw) h1e
        rw [hA, listOf_snoc hkA, setKey_snoc hkA] at e
        obtain ⟨x', zs', v2, s2, hA2, rI2, mono⟩ := ih (is1 ++ [.leaf sc]) (zs ++ [.leaf sc]) h1 nx st none hw'
          (v.edited e) (s.edited e) e.args
          (ListRel.snoc rI (show ItemRel _ (.leaf sc) (.leaf sc) from rfl)) he
        rw [List.append_assoc] at v2 rI2
        exact ⟨x', zs', v2, s2, hA2, rI2, mono⟩
      · cases he
    | node w =>
      simp only [dcItems] at he
      split at he
      · next h1 h1e =>
        have v0 := v.alloc (hw w (List.mem_cons_self ..))
        have e := dc_append v0.dcAt v0.cge v0.clt
          (fun w' hw' => by cases hw'; exact ⟨⟨v.dc.le, Nat.lt_succ_self _⟩, by rw [opNew_self]; rfl⟩) h1e
        rw [opNew_other _ _ _ (Nat.ne_of_lt v.clt), hA, listOf_snoc hkA, setKey_snoc hkA] at e
        obtain ⟨x', zs', v2, s2, hA2, rI2, mono⟩ := ih (is1 ++ [.node w]) (zs ++ [.node nx]) h1 (nx + 1)
          ((w, nx) :: st) none hw'
          (v0.edited e) ((s.alloc w _ _).edited e) e.args
          (ListRel.snoc (ItemsRel.mono rho_mono_push rI)
            (show ItemRel _ (.node w) (.node nx) from .inr (List.mem_cons_of_mem _ (List.mem_cons_self ..)))) he
        rw [List.append_assoc] at v2 rI2
        exact ⟨x', zs', v2, s2, hA2, rI2, fun a b hr => mono a b (rho_mono_push a b hr)⟩
      · cases he

/-- the arguments `r` of `n` that are still to be copied, `d` being those already processed -/
theorem dcArgs_spec {F : HashFns H} {h0 : Heap H} {base : Nat} {n0 n c : Id} {fuel : Nat} {vis : List (Id × Id)}
    (hI0 : Inv F h0) (hf0 : FreshFrom h0 base) {h' : Heap H} {nx' : Nat} {st' : List (Id × Id)}
    (r : List (String × Arg)) :
    ∀ (d : List (String × Arg)) (h : Heap H) (nx : Nat) (st : List (Id × Id)) (x : Option Id),
      (h0 n).args = d ++ r → V F h0 base n c d x h nx st → SimInv h0 n0 base vis h nx ((n, c) :: st) →
      ArgsRel (rho vis ((n, c) :: st)) d (h c).args →
      dcArgs fuel c h nx st r = some (h', nx', st') →
      ∃ x', V F h0 base n c (h0 n).args x' h' nx' st' ∧ SimInv h0 n0 base vis h' nx' ((n, c) :: st') ∧
        ArgsRel (rho vis ((n, c) :: st')) (h0 n).args (h' c).args := by
  induction r with
  | nil =>
    intro d h nx st x hs v s cur he
    simp only [dcArgs] at he
    cases he
    rw [List.append_nil] at hs
    exact ⟨x, hs ▸ v, s, hs ▸ cur⟩
  | cons e r ih =>
    intro d h nx st x hs v s cur he
    obtain ⟨k, a⟩ := e
    have hk := key_fresh_of_split (hI0.keys n) hs
    have hmem : (k, a) ∈ (h0 n).args := hs ▸ List.mem_append_right d (List.mem_cons_self ..)
    have hs' : (h0 n).args = d ++ [(k, a)] ++ r := hs.trans (List.append_cons ..)
    cases a with
    | leaf sc =>
      simp only [dcArgs] at he
      obtain ⟨ec, eo⟩ := assign_cell h c k (.leaf sc)
      exact ih (d ++ [(k, .leaf sc)]) (assignArg h c k (.leaf sc)) nx st x hs'
        (v.assign (a := .leaf sc) hk (.inr ⟨sc, rfl⟩))
        (s.keep (Nat.le_refl _) (fun m hm _ => Kept.of_eq (eo m hm)))
        (by rw [ec]; exact cur.setKey hk (show ArgRel _ (.leaf sc) (.leaf sc) from rfl)) he
    | one w =>
      simp only [dcArgs] at he
      split at he
      · next h1 h1e =>
        have v0 := v.alloc (child_below hI0 hf0 hmem (j := none) rfl)
        have e := dc_set v0.dcAt v0.cge v0.clt ⟨v.dc.le, Nat.lt_succ_self _⟩ (by rw [opNew_self]; rfl) h1e
        rw [opNew_other _ _ _ (Nat.ne_of_lt v.clt)] at e
        refine ih (d ++ [(k, .one w)]) h1 (nx + 1) ((w, nx) :: st) none hs'
          (v0.edited e) ((s.alloc w _ _).edited e) ?_ he
        rw [e.args]
        exact (ArgsRel.mono rho_mono_push cur).setKey hk
          (show ArgRel _ (.one w) (.one nx) from .inr (List.mem_cons_of_mem _ (List.mem_cons_self ..)))
      · cases he
    | many items =>
      simp only [dcArgs] at he
      split at he
      · next h1 nx1 st1 h1e =>
        have hkA : k ∉ (h c).args.map Prod.fst := by rw [← ArgsRel.keys cur]; exact hk
        have hw : ∀ w, Item.node w ∈ items → base > w := fun w hm =>
          let ⟨j, hj⟩ := List.mem_iff_getElem?.mp hm
          child_below hI0 hf0 hmem (j := some j) hj
        obtain ⟨ec, eo⟩ := assign_cell h c k (.many [])
        obtain ⟨x1, zs, v1, s1, hA1, rI, mono⟩ := dcItems_spec (d := d) hkA items [] []
          (assignArg h c k (.many [])) nx st x hw (v.assign (a := .many []) hk (.inl rfl))
          (s.keep (Nat.le_refl _) (fun m hm _ => Kept.of_eq (eo m hm))) (by rw [ec]; exact setKey_fresh hkA)
          trivial h1e
        refine ih (d ++ [(k, .many items)]) h1 nx1 st1 x1 hs' v1 s1 ?_ he
        rw [hA1]
        exact ArgsRel.snoc (ArgsRel.mono mono cur) rI
      · cases he

/-- state of the loop between two visits: nothing is suspended, every stack entry is pending -/
structure LI (F : HashFns H) (h0 : Heap H) (base : Nat) (h : Heap H) (nx : Nat) (st : List (Id × Id)) : Prop where
  dc : DC F h0 base none h nx
  pend : ∀ p, p ∈ st → Pending h0 base h nx p
  nodup : (st.map Prod.snd).Nodup

theorem V.finish {F : HashFns H} {h0 h : Heap H} {base nx : Nat} {n c : Id} {x : Option Id} {st : List (Id × Id)}
    (hI0 : Inv F h0) (v : V F h0 base n c (h0 n).args x h nx st) : LI F h0 base h nx st := by
  have hnd := v.nodup
  rw [List.nodup_cons] at hnd
  refine ⟨?_, v.pend, hnd.2⟩
  rcases v.mode with ⟨e, _⟩ | ⟨e, e2, e3, e4⟩
  · subst e; exact v.dc
  · subst e
    refine v.dc.ofInvX (v.dc.invX.resume fun y hy => ?_)
    -- the copy has the original's scalar args and no child, so the original's hash is its own
    rw [e2] at hy
    rw [hashNode_transfer F v.cls v.raw e3 (fun c' hcc => absurd hcc (keepsHash_noChild e4 c'))]
    exact hI0.cache n y hy

theorem dcVisit_spec {F : HashFns H} {h0 : Heap H} {base : Nat} {fuel : Nat} {n0 : Id} (hI0 : Inv F h0)
    (hf0 : FreshFrom h0 base) {h : Heap H} {nx : Nat} {st vis : List (Id × Id)} {n c : Id} {h1 : Heap H} {nx1 : Nat}
    {st1 : List (Id × Id)} (li : LI F h0 base h nx ((n, c) :: st)) (ls : SimInv h0 n0 base vis h nx ((n, c) :: st))
    (he : dcVisit fuel h nx st n c = some (h1, nx1, st1)) :
    LI F h0 base h1 nx1 st1 ∧ SimInv h0 n0 base ((n, c) :: vis) h1 nx1 st1 := by
  obtain ⟨pn, pc1, pc2, pargs, phash, pcls, praw⟩ := li.pend (n, c) (List.mem_cons_self ..)
  have hnd : (c :: st.map Prod.snd).Nodup := li.nodup
  have pend' : ∀ p, p ∈ st → Pending h0 base h nx p := fun p hp => li.pend p (List.mem_cons_of_mem _ hp)
  unfold dcVisit at he
  simp only [li.dc.frame n pn] at he
  -- after `copy._hash = node._hash` only the cell `c` may differ, in its hash
  suffices main : ∀ hs x, V F h0 base n c [] x hs nx st → (∀ m, m ≠ c → hs m = h m) → (hs c).args = [] →
      dcArgs fuel c hs nx st (h0 n).args = some (h1, nx1, st1) →
      LI F h0 base h1 nx1 st1 ∧ SimInv h0 n0 base ((n, c) :: vis) h1 nx1 st1 by
    cases hy : (h0 n).hash with
    | none =>
      rw [hy] at he
      exact main h none ⟨li.dc, pc1, pc2, pcls, praw, .inl ⟨rfl, phash⟩, pend', hnd⟩ (fun _ _ => rfl) pargs he
    | some y =>
      rw [hy] at he
      have hoth : ∀ m, m ≠ c → setHash h c (some y) m = h m := fun m hm => upd_other _ _ hm
      refine main _ (some c) ⟨dc_carry li.dc pc1 pc2 phash y, pc1, pc2, by simpa using pcls, by simpa using praw,
        .inr ⟨rfl, by simp [hy], by simpa using pargs, rfl⟩, fun p hp => ?_, hnd⟩ hoth (by simpa using pargs) he
      exact (pend' p hp).mono (Nat.le_refl _)
        (Kept.of_eq (hoth p.2 (fun e => (List.nodup_cons.mp hnd).1 (List.mem_map.mpr ⟨p, hp, e⟩))))
  intro hs x v0 hoth ea he
  obtain ⟨x', v1, s1, cur1⟩ := dcArgs_spec hI0 hf0 (h0 n).args [] hs nx st x rfl v0
    (ls.keep (Nat.le_refl _) (fun m hm _ => Kept.of_eq (hoth m hm))) (by rw [ea]; trivial) he
  exact ⟨v1.finish hI0, s1.visit v1.clt v1.cls v1.raw cur1 (List.nodup_cons.mp v1.nodup).1⟩

theorem dcLoop_spec {F : HashFns H} {h0 : Heap H} {base : Nat} {fuel : Nat} {n0 : Id} (hI0 : Inv F h0)
    (hf0 : FreshFrom h0 base) {h' : Heap H} {nx' : Nat} (f : Nat) :
    ∀ (h : Heap H) (nx : Nat) (st vis : List (Id × Id)),
      LI F h0 base h nx st → SimInv h0 n0 base vis h nx st → dcLoop fuel f h nx st = some (h', nx') →
      DC F h0 base none h' nx' ∧ ∃ vis', SimInv h0 n0 base vis' h' nx' [] := by
  induction f with
  | zero => intro h nx st vis _ _ he; simp [dcLoop] at he
  | succ f ih =>
    intro h nx st vis li ls he
    cases st with
    | nil =>
      simp only [dcLoop] at he
      cases he; exact ⟨li.dc, vis, ls⟩
    | cons p st =>
      obtain ⟨n, c⟩ := p
      simp only [dcLoop] at he
      split at he
      · next h1 nx1 st1 hv =>
        obtain ⟨li1, ls1⟩ := dcVisit_spec hI0 hf0 li ls hv
        exact ih h1 nx1 st1 _ li1 ls1 he
      · cases he

theorem dc_initial {F : HashFns H} {h0 : Heap H} {base : Nat} (hI0 : Inv F h0) (hf0 : FreshFrom h0 base) :
    DC F h0 base none h0 base := by
  refine ⟨hI0.links, hI0.keys, (hI0.suspend none).cache, hf0, Nat.le_refl _, fun _ _ => rfl, ⟨?_, ?_⟩⟩
  · intro n' p hn hp
    rw [(hf0 n' hn).1] at hp; simp [blank] at hp
  · intro p k j m hp hs
    obtain ⟨a, hg, _⟩ := hs
    rw [(hf0 p hp).1] at hg; simp [blank, getKey] at hg

theorem deepcopy_run {F : HashFns H} {h0 h' : Heap H} {base nx : Nat} {n c : Id} {fuel : Nat} (hI0 : Inv F h0)
    (hf0 : FreshFrom h0 base) (hn : base > n) (he : opDeepcopy fuel h0 n base = some (h', nx, c)) :
    c = base ∧ DC F h0 base none h' nx ∧ ∃ vis, SimInv h0 n base vis h' nx [] := by
  unfold opDeepcopy at he
  split at he
  · next h1 nx1 hl =>
    cases he
    have li : LI F h0 base (opNew h0 base (h0 n).cls (h0 n).raw) (base + 1) [(n, base)] := by
      refine ⟨dc_opNew (dc_initial hI0 hf0) _ _, fun p hp => ?_, by simp⟩
      simp only [List.mem_singleton] at hp; subst hp
      exact pending_opNew h0 h0 hn (Nat.le_refl _)
    exact ⟨rfl, dcLoop_spec hI0 hf0 fuel _ _ _ [] li
      ⟨(fun p hp => nomatch hp), (fun p hp => nomatch hp), .inr (List.mem_singleton.mpr rfl)⟩ hl⟩
  · cases he

/-- `copy()`: the iterative `__deepcopy__` keeps the invariant (including the soundness of the `_hash` values it
    carries over: `DC.inv`), writes no existing cell (`frame`), allocates only from `base` upwards (`fresh`, `le`), and
    leaves the new cells closed under parent pointers and children (`region`). -/
theorem deepcopy_spec {F : HashFns H} {h0 h' : Heap H} {base nx : Nat} {n c : Id} {fuel : Nat} (hI0 : Inv F h0)
    (hf0 : FreshFrom h0 base) (hn : base > n) (he : opDeepcopy fuel h0 n base = some (h', nx, c)) :
    c = base ∧ DC F h0 base none h' nx :=
  let ⟨hc, d, _⟩ := deepcopy_run hI0 hf0 hn he
  ⟨hc, d⟩

theorem reach_below {F : HashFns H} {h0 h' : Heap H} {base : Nat} (hI0 : Inv F h0) (hf0 : FreshFrom h0 base)
    (hold : Same (fun m => base ≤ m) h0 h') {r m : Id} (hr : base > r) (hm : Reach h' r m) : base > m := by
  induction hm with
  | refl => exact hr
  | step _ hs ih =>
    obtain ⟨a, hg, ha⟩ := hs
    rw [hold _ (Nat.not_le_of_lt ih)] at hg
    exact child_below hI0 hf0 (getKey_mem hg) ha

theorem reach_disjoint {F : HashFns H} {h0 h' : Heap H} {base : Nat} (hI0 : Inv F h0) (hf0 : FreshFrom h0 base)
    (hold : Same (fun m => base ≤ m) h0 h') (hR : Region h' (fun m => base ≤ m)) {c r m : Id} (hc : base ≤ c)
    (hr : base > r) (hm : Reach h' c m) : ¬ Reach h' r m :=
  fun hm' => Nat.not_le_of_lt (reach_below hI0 hf0 hold hr hm') (reach_in_region hR hc hm)

end SqlglotModel.Tree
