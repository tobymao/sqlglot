/-
  Proofs/TreeCopyShape.lean — the copy made by `__deepcopy__` has the same abstraction as the original
  (C09 `copy_equal_disjoint`).
-/
import SqlglotModel.Proofs.TreeCopy

namespace SqlglotModel.Tree

variable {H : Type}

/-- exact structure: classes, arg keys in dict order, scalars verbatim, lists in order — no ids, no back pointers,
    no hash caches -/
inductive Shape where
  | leaf (s : Scalar)
  | list (items : List Shape)
  | node (cls : String) (raw : Bool) (args : List (String × Shape))

def shapeItems (rec : Id → Option Shape) : List Item → Option (List Shape)
  | [] => some []
  | .leaf s :: r =>
    match shapeItems rec r with
    | some r' => some (.leaf s :: r')
    | none => none
  | .node c :: r =>
    match rec c, shapeItems rec r with
    | some x, some r' => some (x :: r')
    | _, _ => none

def shapeArg (rec : Id → Option Shape) : Arg → Option Shape
  | .leaf s => some (.leaf s)
  | .one c => rec c
  | .many items => (shapeItems rec items).map .list

def shapeArgs (rec : Id → Option Shape) : List (String × Arg) → Option (List (String × Shape))
  | [] => some []
  | (k, a) :: r =>
    match shapeArg rec a, shapeArgs rec r with
    | some x, some r' => some ((k, x) :: r')
    | _, _ => none

/-- `abs`: the abstraction of the tree below `n` (`none`: fuel exhausted) -/
def shape : Nat → Heap H → Id → Option Shape
  | 0, _, _ => none
  | f + 1, h, n => (shapeArgs (shape f h) (h n).args).map (.node (h n).cls (h n).raw)

def Sim (h h' : Heap H) (ρ : Id → Id → Prop) : Prop :=
  ∀ a b, ρ a b → (h' b).cls = (h a).cls ∧ (h' b).raw = (h a).raw ∧ ArgsRel ρ (h a).args (h' b).args

theorem shapeItems_sim {ρ : Id → Id → Prop} {r r' : Id → Option Shape} (hr : ∀ a b, ρ a b → r a = r' b)
    {xs ys : List Item} (h : ItemsRel ρ xs ys) : shapeItems r xs = shapeItems r' ys := by
  refine ListRel.ind (motive := fun xs ys => shapeItems r xs = shapeItems r' ys) rfl ?_ h
  intro x y xs ys h1 _ ih
  cases x <;> cases y <;> simp only [ItemRel] at h1
  · simp only [shapeItems]; rw [hr _ _ h1, ih]
  · subst h1; simp only [shapeItems]; rw [ih]

theorem shapeArgs_sim {ρ : Id → Id → Prop} {r r' : Id → Option Shape} (hr : ∀ a b, ρ a b → r a = r' b)
    {xs ys : List (String × Arg)} (h : ArgsRel ρ xs ys) : shapeArgs r xs = shapeArgs r' ys := by
  refine ListRel.ind (motive := fun xs ys => shapeArgs r xs = shapeArgs r' ys) rfl ?_ h
  intro e e' xs ys h1 _ ih
  obtain ⟨k, x⟩ := e
  obtain ⟨k', y⟩ := e'
  obtain ⟨hk, h2⟩ := h1
  have hk : k = k' := hk
  subst hk
  have ha : shapeArg r x = shapeArg r' y := by
    cases x <;> cases y <;> simp only [ArgRel] at h2
    · simp only [shapeArg]; exact hr _ _ h2
    · subst h2; rfl
    · simp only [shapeArg]; rw [shapeItems_sim hr h2]
  simp only [shapeArgs]; rw [ha, ih]

theorem shape_sim {h h' : Heap H} {ρ : Id → Id → Prop} (hs : Sim h h' ρ) :
    ∀ (fuel : Nat) (a b : Id), ρ a b → shape fuel h a = shape fuel h' b
  | 0, _, _, _ => rfl
  | f + 1, a, b, hab => by
    obtain ⟨e1, e2, e3⟩ := hs a b hab
    simp only [shape]
    rw [e1, e2, shapeArgs_sim (fun a' b' h' => shape_sim hs f a' b' h') e3]

theorem argsRel_refl {ρ : Id → Id → Prop} (args : List (String × Arg))
    (hc : ∀ k a, (k, a) ∈ args → ∀ j w, ArgHas a j w → ρ w w) : ArgsRel ρ args args := by
  refine ListRel.refl (fun e hm => ⟨rfl, ?_⟩)
  obtain ⟨k, a⟩ := e
  cases a with
  | leaf s => exact (rfl : s = s)
  | one w => exact hc k (.one w) hm none w rfl
  | many items =>
    refine ListRel.refl (fun it hit => ?_)
    cases it with
    | leaf s => exact (rfl : s = s)
    | node w =>
      obtain ⟨j, hj⟩ := List.mem_iff_getElem?.mp hit
      exact hc k (.many items) hm (some j) w hj

theorem deepcopy_shape {F : HashFns H} {h0 h' : Heap H} {base nx : Nat} {n c : Id} {fuel : Nat} (hI0 : Inv F h0)
    (hf0 : FreshFrom h0 base) (hn : base > n) (he : opDeepcopy fuel h0 n base = some (h', nx, c)) (fuel' : Nat) :
    shape fuel' h' c = shape fuel' h0 n ∧ shape fuel' h' n = shape fuel' h0 n := by
  obtain ⟨hc, d, vis, lf⟩ := deepcopy_run hI0 hf0 hn he
  subst hc
  have hroot : (n, c) ∈ vis := lf.root.elim id (fun hr => nomatch hr)
  have hsim : Sim h0 h' (fun a b => (a, b) ∈ vis) := by
    intro a b hab
    obtain ⟨_, a2, a3, a4⟩ := lf.visOK (a, b) hab
    exact ⟨a2, a3, ArgsRel.mono (fun a' b' hr => hr.elim id (fun hr => nomatch hr)) a4⟩
  -- the original: identical cells, children below `c`
  have hsim2 : Sim h0 h' (fun a b => a = b ∧ c > a) := by
    intro a b ⟨e, ha⟩
    subst e
    rw [d.frame a ha]
    exact ⟨rfl, rfl, argsRel_refl _ (fun k x hm j w hw => ⟨rfl, child_below hI0 hf0 hm hw⟩)⟩
  exact ⟨(shape_sim hsim fuel' n c hroot).symm, (shape_sim hsim2 fuel' n n ⟨rfl, hn⟩).symm⟩

end SqlglotModel.Tree
