/-
  Proofs/TreeFrame.lean — footprints (C09): which heap cells an operation may write.
  `Same S h h'`: the heaps agree outside `S`.  The invalidation loop writes on the parent chain only (`OnChain`,
  `inval_frame` in Proofs/TreeCells); `set` / `append` / `replace` add the slot's footprint `SetFoot`.  A `Region` is closed
  under parent pointers and stored children, so it contains both footprints; `Confined R` composes steps that stay inside
  one.
-/
import SqlglotModel.Proofs.Tree

namespace SqlglotModel.Tree

variable {H : Type}

def Same (S : Id → Prop) (h h' : Heap H) : Prop := ∀ m, ¬ S m → h' m = h m

theorem Same.refl (S : Id → Prop) (h : Heap H) : Same S h h := fun _ _ => rfl

theorem Same.trans {S : Id → Prop} {h1 h2 h3 : Heap H} (a : Same S h1 h2) (b : Same S h2 h3) : Same S h1 h3 :=
  fun m hm => (b m hm).trans (a m hm)

theorem Same.mono {S T : Id → Prop} {h h' : Heap H} (a : Same S h h') (hst : ∀ m, S m → T m) : Same T h h' :=
  fun m hm => a m (fun hs => hm (hst m hs))

theorem same_setPtr {S : Id → Prop} (h : Heap H) {c : Id} (p k i) (hc : S c) : Same S h (setPtr h c p k i) :=
  fun _ hm => setPtr_other h p k i (fun e => hm (e ▸ hc))

/-- the cells `setCore` may write: `self`, the nodes of the value, the old occupants of the slot -/
def SetFoot (h : Heap H) (self : Id) (k : String) (v : Value) (m : Id) : Prop :=
  m = self ∨ Item.node m ∈ itemOfValue v ∨ ∃ j, Stored h self k j m

theorem setCore_frame {h h2 : Heap H} {self : Id} {k : String} {v : Value} {idx : Option Nat} {ow : Bool}
    (he : setCore h self k v idx ow = some h2) : Same (SetFoot h self k v) h h2 := by
  rcases setCore_spec he with ⟨e, _⟩ | ⟨new, W, s⟩
  · rw [e]; exact Same.refl _ _
  · exact fun m hm => s.sw.same (fun e => hm (.inl e)) (fun hw => hm (.inr (s.written m hw)))

theorem setFoot_hashOnly {h h1 : Heap H} (ho : HashOnly h h1) {self : Id} {k : String} {v : Value} {m : Id}
    (hf : SetFoot h1 self k v m) : SetFoot h self k v m := by
  rcases hf with e | e | ⟨j, hs⟩
  · exact .inl e
  · exact .inr (.inl e)
  · exact .inr (.inr ⟨j, (stored_hashOnly ho).mp hs⟩)

/-- `self.set(…)` writes only: the `_hash` of `self` and of nodes on its parent chain, `self.args`, and the pointer
    fields of the inserted nodes and of the old occupants of the slot -/
theorem opSet_frame {fuel : Nat} {h h2 : Heap H} {self : Id} {k : String} {v : Value} {idx : Option Nat}
    {ow : Bool} (he : opSet fuel h self k v idx ow = some h2) :
    Same (fun m => OnChain h (some self) m ∨ SetFoot h self k v m) h h2 := by
  obtain ⟨h1, hinv, hcore⟩ := opSet_some he
  have ho := inval_hashOnly hinv
  exact (Same.mono (fun _ => inval_frame hinv) (fun m hm => .inl hm)).trans
    ((setCore_frame hcore).mono (fun m hm => .inr (setFoot_hashOnly ho hm)))

theorem opAppend_frame {fuel : Nat} {h h2 : Heap H} {self : Id} {k : String} {it : Item}
    (he : opAppend fuel h self k it = some h2) :
    Same (fun m => OnChain h (some self) m ∨ it = .node m) h h2 := by
  obtain ⟨h1, hinv, rfl⟩ := opAppend_some he
  refine (Same.mono (fun _ => inval_frame hinv) (fun m hm => .inl hm)).trans (fun m hm => ?_)
  exact (slotWrite_append h1 self k it).same (fun e => hm (.inl (e ▸ .here m))) (fun e => hm (.inr e))

/-- `replace` / `pop` write only: what `parent.set(…)` writes, and the pointer fields of `self` -/
theorem opReplace_frame {fuel : Nat} {h h2 : Heap H} {self : Id} {v : Value}
    (he : opReplace fuel h self v = some h2) :
    Same (fun m => OnChain h (some self) m ∨
      ∃ p k, (h self).parent = some p ∧ (h self).argKey = some k ∧ SetFoot h p k v m) h h2 := by
  rcases opReplace_some he with rfl | ⟨p, h', hp, rfl, hcase⟩
  · exact Same.refl _ _
  have f' : Same (fun m => OnChain h (some self) m ∨
      ∃ p k, (h self).parent = some p ∧ (h self).argKey = some k ∧ SetFoot h p k v m) h h' := by
    rcases hcase with ⟨_, rfl⟩ | ⟨k, hk, hset⟩
    · exact Same.refl _ _
    · refine (opSet_frame hset).mono (fun m hm => ?_)
      rcases hm with hm | hm
      · exact .inl (.up self m (by rw [hp]; exact hm))
      · exact .inr ⟨p, k, hp, hk, hm⟩
  split
  · exact f'
  · exact f'.trans (same_setPtr _ _ _ _ (Or.inl (OnChain.here self)))

/-- `R` contains the parent chain of each of its nodes -/
def UpClosed (h : Heap H) (R : Id → Prop) : Prop := ∀ n p, R n → (h n).parent = some p → R p

theorem onChain_in_region {h : Heap H} {R : Id → Prop} (hu : UpClosed h R) {cur : Option Id} {m : Id}
    (hc : OnChain h cur m) : (∀ n, cur = some n → R n) → R m := by
  induction hc with
  | here n => intro hn; exact hn n rfl
  | up n m _ ih =>
    intro hn
    apply ih
    intro p hp
    exact hu n p (hn n rfl) hp

/-- a region: closed under parent pointers and under stored children -/
structure Region (h : Heap H) (R : Id → Prop) : Prop where
  up : UpClosed h R
  down : ∀ p k j c, R p → Stored h p k j c → R c

theorem chain_in_region {h : Heap H} {R : Id → Prop} (hR : Region h R) {self m : Id} (hs : R self)
    (hc : OnChain h (some self) m) : R m :=
  onChain_in_region hR.up hc (fun n hn => by cases hn; exact hs)

theorem setFoot_in_region {h : Heap H} {R : Id → Prop} (hR : Region h R) {self m : Id} {k : String} {v : Value}
    (hs : R self) (hv : ∀ c, Item.node c ∈ itemOfValue v → R c) (hf : SetFoot h self k v m) : R m := by
  rcases hf with e | e | ⟨j, hst⟩
  · exact e ▸ hs
  · exact hv m e
  · exact hR.down _ _ _ _ hs hst

theorem children_in_region {h : Heap H} {R : Id → Prop} (hR : Region h R) (hk : Keys h) {node n : Id} (hn : R node)
    (hc : n ∈ childIds (h node).args) : R n :=
  let ⟨k, i, ho⟩ := mem_childIds hc
  hR.down node k i n hn (ho.stored (hk node))

/-- the nodes of the tree below `r` -/
inductive Reach (h : Heap H) (r : Id) : Id → Prop where
  | refl : Reach h r r
  | step {p c : Id} {k : String} {i : Option Nat} : Reach h r p → Stored h p k i c → Reach h r c

theorem reach_in_region {h : Heap H} {R : Id → Prop} (hR : Region h R) {r m : Id} (hr : R r) (hm : Reach h r m) :
    R m := by
  induction hm with
  | refl => exact hr
  | step _ hs ih => exact hR.down _ _ _ _ ih hs

/-- a region `R'` that has come up inside `R`, on a heap that agrees outside `R'` with one on which `R` is a region -/
theorem Region.extend {h1 h2 : Heap H} {R R' : Id → Prop} (hR1 : Region h1 R) (hsub : ∀ m, R' m → R m)
    (hR2 : Region h2 R') (hfr : Same R' h1 h2) : Region h2 R := by
  refine ⟨fun n p hn hp => ?_, fun p k j c hp hs => ?_⟩
  · by_cases e : R' n
    · exact hsub p (hR2.up n p e hp)
    · rw [hfr n e] at hp; exact hR1.up n p hn hp
  · by_cases e : R' p
    · exact hsub c (hR2.down p k j c e hs)
    · exact hR1.down p k j c hp ((stored_args_eq (congrArg (·.args) (hfr p e))).mp hs)

theorem region_hashOnly {h h' : Heap H} {R : Id → Prop} (ho : HashOnly h h') (hR : Region h R) : Region h' R :=
  ⟨fun n p hn hp => hR.up n p hn (ho.parent ▸ hp),
    fun p k j c hp hs => hR.down p k j c hp ((stored_hashOnly ho).mp hs)⟩

theorem SlotWrite.region {h h2 : Heap H} {p : Id} {k : String} {new : Option Arg} {W : Id → Prop}
    (sw : SlotWrite h h2 p k new W) {R : Id → Prop} (hR : Region h R) (hp : R p)
    (hnew : ∀ a j c, new = some a → ArgHas a j c → R c) : Region h2 R := by
  refine ⟨fun n q hn hq => ?_, fun q k' j c hq hs => ?_⟩
  · rcases sw.parent n with e | e
    · exact hR.up n q hn (e ▸ hq)
    · rw [e] at hq; cases hq; exact hp
  · rcases sw.stored hs with ⟨_, _, a, hn, ha⟩ | ⟨_, hs0⟩
    · exact hnew a j c hn ha
    · exact hR.down q k' j c hq hs0

theorem region_opNew {h : Heap H} {R : Id → Prop} (hR : Region h R) (hk : Keys h) (id : Id) (cls : String) (raw : Bool) :
    Region (opNew h id cls raw) R ∧ Keys (opNew h id cls raw) := by
  refine ⟨⟨?_, ?_⟩, ?_⟩
  · intro n p hn hp
    by_cases e : n = id
    · subst e; rw [opNew_self] at hp; simp [blank] at hp
    · rw [opNew_other _ _ _ e] at hp; exact hR.up n p hn hp
  · intro p k j c hp hs
    by_cases e : p = id
    · subst e
      obtain ⟨a, hg, _⟩ := hs
      rw [opNew_self] at hg; simp [blank, getKey] at hg
    · exact hR.down p k j c hp ((stored_args_eq (by rw [opNew_other _ _ _ e])).mp hs)
  · intro n
    by_cases e : n = id
    · subst e; rw [opNew_self]; exact keysUnique_nil
    · rw [opNew_other _ _ _ e]; exact hk n

theorem opSet_region_frame {fuel : Nat} {h h' : Heap H} {R : Id → Prop} (hR : Region h R) {self : Id} {k : String}
    {v : Value} {idx : Option Nat} {ow : Bool} (hs : R self) (hv : ∀ c, Item.node c ∈ itemOfValue v → R c)
    (he : opSet fuel h self k v idx ow = some h') : Same R h h' :=
  (opSet_frame he).mono (fun _ hm => hm.elim (chain_in_region hR hs) (setFoot_in_region hR hs hv))

theorem opAppend_region_frame {fuel : Nat} {h h' : Heap H} {R : Id → Prop} (hR : Region h R) {self : Id} {k : String}
    {it : Item} (hs : R self) (hv : ∀ c, it = .node c → R c) (he : opAppend fuel h self k it = some h') :
    Same R h h' :=
  (opAppend_frame he).mono (fun m hm => hm.elim (chain_in_region hR hs) (hv m))

theorem opReplace_region_frame {fuel : Nat} {h h' : Heap H} {R : Id → Prop} (hR : Region h R) {self : Id} {v : Value}
    (hs : R self) (hv : ∀ c, Item.node c ∈ itemOfValue v → R c) (he : opReplace fuel h self v = some h') :
    Same R h h' :=
  (opReplace_frame he).mono (fun _ hm => hm.elim (chain_in_region hR hs)
    (fun ⟨p, _, hp, _, hf⟩ => setFoot_in_region hR (hR.up self p hs hp) hv hf))

/-- a step that writes inside `R` only and leaves it a region; the premises are part of the notion so that steps compose -/
def Confined (R : Id → Prop) (h h' : Heap H) : Prop :=
  Region h R → Keys h → Same R h h' ∧ Region h' R ∧ Keys h'

theorem Confined.refl {R : Id → Prop} {h : Heap H} : Confined R h h := fun hR hk => ⟨Same.refl R h, hR, hk⟩

theorem Confined.trans {R : Id → Prop} {h1 h2 h3 : Heap H} (a : Confined R h1 h2) (b : Confined R h2 h3) :
    Confined R h1 h3 := fun hR hk =>
  let ⟨f1, r1, k1⟩ := a hR hk
  let ⟨f2, r2, k2⟩ := b r1 k1
  ⟨f1.trans f2, r2, k2⟩

theorem confined_opSet {R : Id → Prop} {fuel : Nat} {h h' : Heap H} {self : Id} {k : String} {v : Value}
    {idx : Option Nat} {ow : Bool} (hs : R self) (hv : ∀ c, Item.node c ∈ itemOfValue v → R c)
    (he : opSet fuel h self k v idx ow = some h') : Confined R h h' := by
  intro hR hk
  refine ⟨opSet_region_frame hR hs hv he, ?_⟩
  obtain ⟨h1, hinv, hcore⟩ := opSet_some he
  have ho := inval_hashOnly hinv
  have hR1 := region_hashOnly ho hR
  rcases setCore_spec hcore with ⟨rfl, _⟩ | ⟨new, W, s⟩
  · exact ⟨hR1, keys_hashOnly ho hk⟩
  · refine ⟨s.sw.region hR1 hs (fun a j m hn ha => ?_), s.sw.keys (keys_hashOnly ho hk)⟩
    rcases s.origin a j m hn ha with hin | ⟨_, _, _, _, hsj⟩
    · exact hv m hin
    · exact hR1.down _ _ _ _ hs hsj

theorem confined_opNew {R : Id → Prop} {h : Heap H} {id : Id} (hid : R id) (cls : String) (raw : Bool) :
    Confined R h (opNew h id cls raw) :=
  fun hR hk => ⟨fun m hm => opNew_other _ _ _ (fun e => hm (by rw [e]; exact hid)), region_opNew hR hk id cls raw⟩

end SqlglotModel.Tree
