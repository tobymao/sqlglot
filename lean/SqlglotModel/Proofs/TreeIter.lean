/-
  Proofs/TreeIter.lean — iterators and finders (C08): what `root`, `depth`, `find_ancestor`, `dfs`/`bfs` compute.
-/
import SqlglotModel.Proofs.TreeCells

namespace SqlglotModel.Tree

variable {H : Type}

theorem ancestors_succ {f : Nat} {h : Heap H} {n : Id} {anc : List Id} (he : ancestors (f + 1) h n = some anc) :
    ((h n).parent = none ∧ anc = []) ∨
    ∃ p a, (h n).parent = some p ∧ ancestors f h p = some a ∧ anc = p :: a := by
  simp only [ancestors] at he
  split at he
  · next hp => exact .inl ⟨hp, (Option.some.inj he).symm⟩
  · next p hp =>
    obtain ⟨a, ha, e⟩ := Option.map_eq_some_iff.mp he
    exact .inr ⟨p, a, hp, ha, e.symm⟩

theorem depth_eq_length : ∀ (f : Nat) (h : Heap H) (n : Id) (anc : List Id), ancestors f h n = some anc →
    depthOf f h n = some anc.length
  | 0, _, _, _, he => by simp [ancestors] at he
  | f + 1, h, n, anc, he => by
    rcases ancestors_succ he with ⟨hp, rfl⟩ | ⟨p, a, hp, ha, rfl⟩
    · simp [depthOf, hp]
    · simp [depthOf, hp, depth_eq_length f h p a ha]

theorem root_spec : ∀ (f : Nat) (h : Heap H) (n : Id) (anc : List Id), ancestors f h n = some anc →
    ∃ r, rootOf f h n = some r ∧ (h r).parent = none ∧ r = (n :: anc).getLast (by simp)
  | 0, _, _, _, he => by simp [ancestors] at he
  | f + 1, h, n, anc, he => by
    rcases ancestors_succ he with ⟨hp, rfl⟩ | ⟨p, a, hp, ha, rfl⟩
    · exact ⟨n, by simp [rootOf, hp], hp, rfl⟩
    · obtain ⟨r, h1, h2, h3⟩ := root_spec f h p a ha
      exact ⟨r, by simp [rootOf, hp, h1], h2, by rw [h3]; simp [List.getLast_cons]⟩

theorem findAncestor_nearest (P : String → Bool) : ∀ (f : Nat) (h : Heap H) (n : Id) (anc : List Id),
    ancestors f h n = some anc → opFindAncestor P f h n = some (anc.find? (fun a => P (h a).cls))
  | 0, _, _, _, he => by simp [ancestors] at he
  | f + 1, h, n, anc, he => by
    unfold opFindAncestor
    rcases ancestors_succ he with ⟨hp, rfl⟩ | ⟨p, a, hp, ha, rfl⟩
    · simp [hp, findAncestorLoop]
    · rw [hp]
      simp only [findAncestorLoop, List.find?_cons]
      cases hP : P (h p).cls with
      | true => simp
      | false =>
        simp only [Bool.false_eq_true, if_false]
        exact findAncestor_nearest P f h p a ha

/-- reachable from `r` through nodes that are not pruned -/
inductive ReachP (h : Heap H) (prune : Id → Bool) (r : Id) : Id → Prop where
  | refl : ReachP h prune r r
  | step {p c : Id} : ReachP h prune r p → prune p = false → c ∈ childIds (h p).args → ReachP h prune r c

theorem mem_sched {bfs : Bool} {st kids : List Id} {x : Id} :
    x ∈ (if bfs then st ++ kids else kids ++ st) ↔ x ∈ st ∨ x ∈ kids := by
  cases bfs <;> simp [List.mem_append, or_comm]

theorem walkLoop_nil (bfs : Bool) (prune : Id → Bool) (f : Nat) (h : Heap H) (acc : List Id) :
    walkLoop bfs prune f h [] acc = some acc.reverse := by cases f <;> rfl

/-- the schedule after a step is given by membership only, so the one rule serves the stack of `dfs` and the queue of `bfs` -/
theorem walkLoop_induct {bfs : Bool} {prune : Id → Bool} {h : Heap H} (P : List Id → List Id → Prop)
    (step : ∀ n st acc st', (∀ x, x ∈ st' ↔ x ∈ st ∨ (prune n = false ∧ x ∈ childIds (h n).args)) →
      P (n :: st) acc → P st' (n :: acc)) :
    ∀ (f : Nat) (st acc res : List Id), walkLoop bfs prune f h st acc = some res → P st acc →
      ∃ acc', res = acc'.reverse ∧ P [] acc'
  | f, [], acc, res, he, hp => by
    rw [walkLoop_nil] at he
    exact ⟨acc, (Option.some.inj he).symm, hp⟩
  | 0, _ :: _, _, _, he, _ => by simp [walkLoop] at he
  | f + 1, n :: st, acc, res, he, hp => by
    simp only [walkLoop] at he
    refine walkLoop_induct P step f _ (n :: acc) res he (step n st acc _ (fun x => ?_) hp)
    rw [mem_sched]
    cases prune n <;> simp

/-- soundness: every scheduled or yielded node is reachable; completeness: the root is scheduled or yielded, and so is
    every child of a yielded node that is not pruned -/
theorem walk_exact {bfs : Bool} {prune : Id → Bool} {h : Heap H} {fuel : Nat} {root : Id} {res : List Id}
    (he : opWalk bfs prune fuel h root = some res) : ∀ x, x ∈ res ↔ ReachP h prune root x := by
  obtain ⟨acc, rfl, hsound, hroot, hclosed⟩ := walkLoop_induct
    (fun st acc => (∀ x, x ∈ st ∨ x ∈ acc → ReachP h prune root x) ∧ (root ∈ acc ∨ root ∈ st) ∧
      ∀ p, p ∈ acc → prune p = false → ∀ c, c ∈ childIds (h p).args → c ∈ acc ∨ c ∈ st)
    (by
      intro n st acc st' hst ⟨hs, hr, hc⟩
      have move : ∀ y, y ∈ acc ∨ y ∈ n :: st → y ∈ n :: acc ∨ y ∈ st' := by
        rintro y (hy | hy)
        · exact .inl (List.mem_cons_of_mem _ hy)
        · rcases List.mem_cons.mp hy with rfl | hy
          · exact .inl (List.mem_cons_self ..)
          · exact .inr ((hst y).mpr (.inl hy))
      refine ⟨fun x hx => ?_, move root hr, fun p hp hpr c hcp => ?_⟩
      · rcases hx with hx | hx
        · rcases (hst x).mp hx with h1 | ⟨hpr, hcx⟩
          · exact hs x (.inl (List.mem_cons_of_mem _ h1))
          · exact .step (hs n (.inl (List.mem_cons_self ..))) hpr hcx
        · rcases List.mem_cons.mp hx with rfl | h1
          · exact hs x (.inl (List.mem_cons_self ..))
          · exact hs x (.inr h1)
      · rcases List.mem_cons.mp hp with rfl | hp
        · exact .inr ((hst c).mpr (.inr ⟨hpr, hcp⟩))
        · exact move c (hc p hp hpr c hcp))
    fuel [root] [] res he
    ⟨fun x hx => hx.elim (fun hx => List.mem_singleton.mp hx ▸ .refl) (fun hx => nomatch hx),
      .inr (List.mem_singleton.mpr rfl), fun p hp => nomatch hp⟩
  intro x
  rw [List.mem_reverse]
  refine ⟨fun hx => hsound x (.inr hx), fun hr => ?_⟩
  induction hr with
  | refl => exact hroot.resolve_right (fun e => nomatch e)
  | step _ hpr hc ih => exact (hclosed _ ih hpr _ hc).resolve_right (fun e => nomatch e)

theorem findAll_exact {bfs : Bool} {P : String → Bool} {h : Heap H} {fuel : Nat} {root : Id} {res : List Id}
    (he : opFindAll bfs P fuel h root = some res) :
    ∀ x, x ∈ res ↔ ReachP h (fun _ => false) root x ∧ P (h x).cls = true := by
  unfold opFindAll at he
  cases hw : opWalk bfs (fun _ => false) fuel h root with
  | none => rw [hw] at he; cases he
  | some w =>
    rw [hw] at he; simp only [Option.map_some, Option.some.injEq] at he; subst he
    intro x
    rw [List.mem_filter, walk_exact hw x]

theorem unnest_not_paren : ∀ (f : Nat) (h : Heap H) (n r : Id), unnestOf f h n = some (some r) → (h r).cls ≠ "paren"
  | 0, _, _, _, he => by simp [unnestOf] at he
  | f + 1, h, n, r, he => by
    simp only [unnestOf] at he
    split at he
    · split at he
      · exact unnest_not_paren f h _ r he
      · cases he
    · next hc => simp only [Option.some.injEq] at he; subst he; exact hc

end SqlglotModel.Tree
