/-
  Proofs/TreeNorm.lean — `hash` factors through the explicit normal form `absNorm` (C08 `eq_iff_structure`).
-/
import SqlglotModel.Proofs.TreeCells

namespace SqlglotModel.Tree

variable {H : Type}

def forget (h : Heap H) : Heap Norm := fun i => { (h i) with hash := none }

theorem absNorm_eq (lower : String → String) (fuel : Nat) (h : Heap H) (n : Id) :
    absNorm lower fuel h n = recompute (normFns lower) fuel (forget h) n := rfl

theorem recompute_eval (F : HashFns H) (h : Heap H) : ∀ (fuel : Nat) (n : Id),
    recompute F fuel h n = (absNorm F.lower fuel h n).map (HT.eval F)
  | 0, _ => rfl
  | f + 1, n => by
    rw [absNorm_eq]
    simp only [recompute, hashNode]
    have : (fun c => recompute F f h c) = (fun c => (recompute (normFns F.lower) f (forget h) c).map (HT.eval F)) :=
      funext fun c => by rw [recompute_eval F h f c, absNorm_eq]
    rw [this]
    exact hashArgs_hom (F' := normFns F.lower) (φ := HT.eval F)
      ⟨fun _ _ _ => rfl, fun _ _ _ => rfl, fun _ _ => rfl, rfl⟩ (h n).raw _ (.init (h n).cls)
      (fun _ _ _ _ _ _ => rfl)

/-- the normal form does not look at caches or back pointers -/
theorem absNorm_hashOnly (lower : String → String) {h h' : Heap H} (ho : HashOnly h h') (fuel : Nat) (n : Id) :
    absNorm lower fuel h' n = absNorm lower fuel h n :=
  -- `forget` resets `hash` only, so `ho` is `HashOnly (forget h) (forget h')` up to unfolding
  recompute_hashOnly (normFns lower) (h := forget h) (h' := forget h') (fun m => ho m) fuel n

end SqlglotModel.Tree
