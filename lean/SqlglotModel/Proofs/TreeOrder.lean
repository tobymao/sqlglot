/-
  Proofs/TreeOrder.lean — `__hash__` / `==` do not depend on the insertion order of `args` (C08).
-/
import SqlglotModel.Proofs.TreeCells

namespace SqlglotModel.Tree

variable {H : Type}

def SortedArgs (l : List (String × Arg)) : Prop := l.Pairwise (fun a b => ¬ b.1 < a.1)

theorem insertArg_sorted (e : String × Arg) : ∀ {l : List (String × Arg)}, SortedArgs l → SortedArgs (insertArg e l)
  | [], _ => by simp [insertArg, SortedArgs]
  | x :: r, hs => by
    simp only [SortedArgs, List.pairwise_cons] at hs
    simp only [insertArg]
    split
    · next hlt =>
      simp only [SortedArgs, List.pairwise_cons]
      refine ⟨?_, hs⟩
      intro y hy
      rcases List.mem_cons.mp hy with e' | e'
      · subst e'; exact String.lt_asymm hlt
      · intro hyl
        exact hs.1 y e' (String.lt_trans hyl hlt)
    · next hge =>
      simp only [SortedArgs, List.pairwise_cons]
      refine ⟨?_, insertArg_sorted e hs.2⟩
      intro y hy
      rcases mem_insertArg.mp hy with e' | e'
      · subst e'; exact hge
      · exact hs.1 y e'

theorem sortArgs_sorted : ∀ (l : List (String × Arg)), SortedArgs (sortArgs l)
  | [] => by simp [sortArgs, SortedArgs]
  | e :: r => insertArg_sorted e (sortArgs_sorted r)

/-- sorted dicts with the same entries are equal: entries with equivalent keys are the same entry -/
theorem sorted_perm_eq {l l' : List (String × Arg)} (hs : SortedArgs l) (hs' : SortedArgs l') (hu : KeysUnique l)
    (hp : l.Perm l') : l = l' :=
  hp.eq_of_pairwise (fun _ _ ha hb h1 h2 => inj_of_nodup_map hu ha (hp.mem_iff.mpr hb)
    (String.le_antisymm (String.not_lt.mp h1) (String.not_lt.mp h2))) hs hs'

/-- `sorted(node.args)` makes the traversal independent of the dict's insertion order -/
theorem sortArgs_perm {l l' : List (String × Arg)} (hp : l.Perm l') (hu : KeysUnique l) : sortArgs l = sortArgs l' :=
  sorted_perm_eq (sortArgs_sorted l) (sortArgs_sorted l') (keysUnique_sortArgs hu)
    ((perm_sortArgs l).trans (hp.trans (perm_sortArgs l').symm))

/-- the variant that iterates the dict in insertion order (what `__hash__` would be without `sorted`) -/
def hashNodeUnsorted (F : HashFns H) (nd : Node H) (ch : Id → Option H) : Option H :=
  hashArgs F ch nd.raw (F.init nd.cls) nd.args

end SqlglotModel.Tree
