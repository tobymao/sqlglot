/-
  Proofs/TreeRepair.lean — the simplifier's manual pointer repair loop restores the invariant (C08 `inv_simplify_repair`).
  The loop is described in closed form: `repairLoop_ptrs` (every child of `self` points at its position, given `UniqOcc`),
  `repairLoop_fields` (nothing else moves) and `repairLoop_args` (the `None` arguments of `self` are gone), and dropping
  `None` arguments does not change a hash (`hashNode_filter_none`).
-/
import SqlglotModel.Proofs.Tree
import SqlglotModel.Proofs.TreeOrder

namespace SqlglotModel.Tree

variable {H : Type}

/-- sorting commutes with filtering: both sides are sorted dicts with the same entries -/
theorem sortArgs_filter (p : String × Arg → Bool) {l : List (String × Arg)} (hu : KeysUnique l) :
    sortArgs (l.filter p) = (sortArgs l).filter p :=
  sorted_perm_eq (sortArgs_sorted _) ((sortArgs_sorted l).sublist List.filter_sublist)
    (keysUnique_sortArgs (hu.sublist (List.filter_sublist.map _)))
    ((perm_sortArgs _).trans ((perm_sortArgs l).symm.filter p))

theorem hashArgs_filter (F : HashFns H) (ch : Id → Option H) (raw : Bool) (p : String × Arg → Bool) :
    ∀ (l : List (String × Arg)) (acc : H), (∀ e, e ∈ l → p e = false → e.2 = .leaf .none) →
      hashArgs F ch raw acc (l.filter p) = hashArgs F ch raw acc l
  | [], _, _ => rfl
  | (k, a) :: r, acc, hn => by
    simp only [List.filter_cons]
    cases hp : p (k, a) with
    | true =>
      simp only [if_true, hashArgs]
      split
      · exact hashArgs_filter F ch raw p r _ (fun e he => hn e (List.mem_cons_of_mem _ he))
      · rfl
    | false =>
      simp only [Bool.false_eq_true, if_false]
      have : a = .leaf .none := hn (k, a) (by simp) hp
      subst this
      have h1 : hashArg F ch raw k acc (.leaf .none) = some acc := by
        cases raw <;> simp [hashArg, truthy, dropped]
      simp only [hashArgs, h1]
      exact hashArgs_filter F ch raw p r acc (fun e he => hn e (List.mem_cons_of_mem _ he))

theorem hashNode_filter_none (F : HashFns H) (nd nd' : Node H) (ch : Id → Option H)
    (hc : nd'.cls = nd.cls) (hr : nd'.raw = nd.raw)
    (ha : nd'.args = nd.args.filter (fun e => decide (e.2 ≠ .leaf .none))) (hu : KeysUnique nd.args) :
    hashNode F nd' ch = hashNode F nd ch := by
  unfold hashNode
  rw [hc, hr, ha, sortArgs_filter _ hu]
  exact hashArgs_filter F ch _ _ _ _ (fun e _ hp => by simpa using hp)

/-- no node occurs at two positions of the dict -/
def UniqOcc (l : List (String × Arg)) : Prop :=
  ∀ k i k' i' c, Occ l k i c → Occ l k' i' c → k = k' ∧ i = i'

theorem UniqOcc.tail {e : String × Arg} {t : List (String × Arg)} (hu : UniqOcc (e :: t)) : UniqOcc t := by
  intro k i k' i' c ⟨a, hm, ha⟩ ⟨a', hm', ha'⟩
  exact hu k i k' i' c ⟨a, List.mem_cons_of_mem _ hm, ha⟩ ⟨a', List.mem_cons_of_mem _ hm', ha'⟩

theorem repairStep_fields (self : Id) (h : Heap H) (k : String) (a : Arg) (m : Id) :
    Fields (repairStep self h (k, a) m) (h m) ∧
    (repairStep self h (k, a) m).args =
      if m = self ∧ a = .leaf .none then delKey k (h self).args else (h m).args := by
  cases a with
  | one c => exact ⟨fields_setPtr .., by simp [repairStep]⟩
  | many items =>
    obtain ⟨a1, a2⟩ := spi_fields self k items 0 h m
    exact ⟨a2, by simpa [repairStep] using a1⟩
  | leaf s =>
    cases s with
    | none =>
      refine ⟨fields_setArgs .., ?_⟩
      by_cases hm : m = self
      · subst hm; simp [repairStep]
      · simp [repairStep, hm, setArgs_args_other _ _ hm]
    | bool b => exact ⟨⟨rfl, rfl, rfl⟩, by simp [repairStep]⟩
    | int i => exact ⟨⟨rfl, rfl, rfl⟩, by simp [repairStep]⟩
    | str t => exact ⟨⟨rfl, rfl, rfl⟩, by simp [repairStep]⟩

theorem repairStep_ptrs (self : Id) (h : Heap H) (k : String) (a : Arg) (hd : ∀ items, a = .many items → ItemsDistinct items) :
    (∀ i c, ArgHas a i c → ptrs (repairStep self h (k, a) c) = (some self, some k, i)) ∧
    (∀ m, (∀ i, ¬ ArgHas a i m) → ptrs (repairStep self h (k, a) m) = ptrs (h m)) := by
  cases a with
  | one c0 =>
    refine ⟨fun i c ha => ?_, fun m hm => ?_⟩
    · obtain ⟨rfl, rfl⟩ := argHas_one.mp ha
      simp [repairStep, ptrs, setPtr]
    · simp [repairStep, setPtr_other _ _ _ _ (fun e : m = c0 => hm none (argHas_one.mpr ⟨rfl, e.symm⟩))]
  | many items =>
    refine ⟨fun i c ha => ?_, fun m hm => ?_⟩
    · obtain ⟨j, rfl, hj⟩ := argHas_many.mp ha
      exact spi_at_zero self k items h (hd items rfl) hj
    · have : Item.node m ∉ items := fun hmem => by
        obtain ⟨j, hj⟩ := List.mem_iff_getElem?.mp hmem
        exact hm (some j) hj
      simp [repairStep, spi_other self k items 0 h m this]
  | leaf s =>
    exact ⟨fun i c ha => (not_argHas_leaf ha).elim, fun m _ => by cases s <;> simp [repairStep, ptrs]⟩

theorem repairLoop_ptrs (self : Id) : ∀ (suf : List (String × Arg)) (h : Heap H), UniqOcc suf →
    (∀ k i c, Occ suf k i c → ptrs (repairLoop self h suf c) = (some self, some k, i)) ∧
    (∀ m, (∀ k i, ¬ Occ suf k i m) → ptrs (repairLoop self h suf m) = ptrs (h m))
  | [], h, _ => ⟨(fun k i c ⟨_, hm, _⟩ => nomatch hm), (fun _ _ => rfl)⟩
  | (k0, a0) :: t, h, hu => by
    have hd : ∀ items, a0 = .many items → ItemsDistinct items := by
      intro items e; subst e
      exact itemsDistinct_of_inj (fun i j _ hi hj => Option.some.inj
        (hu k0 (some i) k0 (some j) _ ⟨_, List.mem_cons_self .., hi⟩ ⟨_, List.mem_cons_self .., hj⟩).2)
    obtain ⟨s1, s2⟩ := repairStep_ptrs self h k0 a0 hd
    obtain ⟨ih1, ih2⟩ := repairLoop_ptrs self t (repairStep self h (k0, a0)) hu.tail
    refine ⟨?_, ?_⟩
    · intro k i c ho
      simp only [repairLoop]
      by_cases hex : ∃ k' i', Occ t k' i' c
      · obtain ⟨k', i', ho'⟩ := hex
        obtain ⟨a', hm', ha'⟩ := ho'
        obtain ⟨e1, e2⟩ := hu k i k' i' c ho ⟨a', List.mem_cons_of_mem _ hm', ha'⟩
        subst e1; subst e2
        exact ih1 k i c ⟨a', hm', ha'⟩
      · have hno : ∀ k' i', ¬ Occ t k' i' c := fun k' i' ho' => hex ⟨k', i', ho'⟩
        rw [ih2 c hno]
        obtain ⟨a, hm, ha⟩ := ho
        rcases List.mem_cons.mp hm with e | e
        · cases e; exact s1 i c ha
        · exact absurd ⟨a, e, ha⟩ (hno k i)
    · intro m hm
      simp only [repairLoop]
      rw [ih2 m (fun k i ⟨a, hma, ha⟩ => hm k i ⟨a, List.mem_cons_of_mem _ hma, ha⟩)]
      exact s2 m (fun i ha => hm k0 i ⟨a0, by simp, ha⟩)

theorem repairLoop_fields (self : Id) : ∀ (suf : List (String × Arg)) (h : Heap H) (m : Id),
    Fields (repairLoop self h suf m) (h m) ∧ (m ≠ self → (repairLoop self h suf m).args = (h m).args)
  | [], _, _ => ⟨⟨rfl, rfl, rfl⟩, fun _ => rfl⟩
  | (k, a) :: t, h, m => by
    obtain ⟨a1, a2⟩ := repairLoop_fields self t (repairStep self h (k, a)) m
    obtain ⟨b1, b2⟩ := repairStep_fields self h k a m
    exact ⟨a1.trans b1, fun hm => (a2 hm).trans (by rw [b2, if_neg (fun e => hm e.1)])⟩

/-- the `args` of `self` after the loop, in closed form: the keys that the snapshot maps to `None` are gone -/
theorem repairLoop_args (self : Id) : ∀ (suf : List (String × Arg)) (h : Heap H),
    (repairLoop self h suf self).args = (h self).args.filter (fun e => decide ((e.1, Arg.leaf .none) ∉ suf))
  | [], h => (List.filter_eq_self.mpr (fun _ _ => by simp)).symm
  | (k0, a0) :: t, h => by
    have hself : (repairStep self h (k0, a0) self).args =
        (if a0 = .leaf .none then delKey k0 (h self).args else (h self).args) := by
      simpa using (repairStep_fields self h k0 a0 self).2
    rw [repairLoop, repairLoop_args self t, hself]
    split
    · next ha =>
      subst ha
      rw [delKey, List.filter_filter]
      exact List.filter_congr (fun e _ => by rw [Bool.eq_iff_iff]; simp [and_comm])
    · next ha => exact List.filter_congr (fun e _ => by simp [Ne.symm ha])

/-- the hypotheses describe the state the in-place rewrites of the simplifier leave: stale `parent / arg_key / index` in
    the children of `self` only, each of them stored there once and nowhere else. No hash is invalidated, soundly,
    because only `None` arguments are dropped. -/
theorem inv_simplifyRepair (F : HashFns H) {h : Heap H} {self : Id}
    (hl : ∀ p k i c, p ≠ self → Stored h p k i c → ptrs (h c) = (some p, some k, i))
    (hown : ∀ k i c, Stored h self k i c → ∀ p k' i', Stored h p k' i' c → p = self ∧ k' = k ∧ i' = i)
    (hc : Cache F h) (hk : Keys h) : Inv F (simplifyRepair h self) := by
  unfold simplifyRepair
  have hu : UniqOcc (h self).args := by
    intro k i k' i' c o1 o2
    obtain ⟨_, e1, e2⟩ := hown k i c (o1.stored (hk self)) self k' i' (o2.stored (hk self))
    exact ⟨e1.symm, e2.symm⟩
  obtain ⟨p1, p2⟩ := repairLoop_ptrs self (h self).args h hu
  have hf := repairLoop_fields self (h self).args h
  -- in a dict, the keys mapped to `None` are the entries whose value is `None`
  have hargs : (repairLoop self h (h self).args self).args =
      (h self).args.filter (fun e => decide (e.2 ≠ .leaf .none)) := by
    rw [repairLoop_args]
    refine List.filter_congr (fun e he => ?_)
    have : (e.1, Arg.leaf .none) ∈ (h self).args ↔ e.2 = .leaf .none :=
      ⟨fun hm => (congrArg Prod.snd (inj_of_nodup_map (hk self) he hm rfl)), fun e2 => by rw [← e2]; exact he⟩
    simp [this]
  have hstored : ∀ {p k i c}, Stored (repairLoop self h (h self).args) p k i c → Stored h p k i c := by
    intro p k i c hs
    by_cases hp : p = self
    · subst hp
      obtain ⟨a, hm, ha⟩ := hs.occ
      rw [hargs] at hm
      exact Occ.stored (hk p) ⟨a, (List.mem_filter.mp hm).1, ha⟩
    · exact (stored_args_eq ((hf p).2 hp)).mp hs
  refine ⟨fun p k i c hs => ?_, fun n x hx => ?_, fun n => ?_⟩
  · have hs0 := hstored hs
    by_cases hp : p = self
    · subst hp
      exact p1 k i c hs0.occ
    · rw [p2 c (fun k' i' ho => hp (hown k' i' c (ho.stored (hk self)) p k i hs0).1)]
      exact hl p k i c hp hs0
  · rw [(hf n).1.hash] at hx
    rw [funext (fun c => (hf c).1.hash)]
    by_cases hn : n = self
    · subst hn
      rw [hashNode_filter_none F (h n) _ _ (hf n).1.cls (hf n).1.raw hargs (hk n)]
      exact hc n x hx
    · rw [hashNode_fields F (h n) _ _ (hf n).1.cls (hf n).1.raw ((hf n).2 hn)]
      exact hc n x hx
  · by_cases hn : n = self
    · subst hn; rw [hargs]; exact (hk n).sublist (List.filter_sublist.map _)
    · rw [(hf n).2 hn]; exact hk n

end SqlglotModel.Tree
