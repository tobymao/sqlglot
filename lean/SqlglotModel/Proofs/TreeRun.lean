/-
  Proofs/TreeRun.lean — admissible histories keep the invariant (C08 `inv_reachable`).
-/
import SqlglotModel.Proofs.TreeCopy

namespace SqlglotModel.Tree

variable {H : Type}

/-- the API precondition of each operation: an inserted value is not attached anywhere -/
def Adm (h : Heap H) : Op → Prop
  | .new id _ _ => Fresh h id
  | .set _ _ v _ _ => ValueOk h v
  | .append _ _ it => ItemOk h it
  | .replace self v => ValueOk h v ∧ Attached h self
  | .pop self => Attached h self
  | .hash _ => True
  | .eq _ _ => True
  | .copy n base => FreshFrom h base ∧ base > n   -- the copy goes into unused cells `base, base+1, …`

/-- every operation of an admissible history is admissible in the state it is applied to -/
def AdmRun [DecidableEq H] (F : HashFns H) (fuel : Nat) : Heap H → List Op → Prop
  | _, [] => True
  | h, op :: ops => Adm h op ∧ ∀ h', step F fuel h op = some h' → AdmRun F fuel h' ops

theorem inv_step [DecidableEq H] (F : HashFns H) {fuel : Nat} {h h' : Heap H} {op : Op} (hI : Inv F h)
    (ha : Adm h op) (he : step F fuel h op = some h') : Inv F h' := by
  cases op with
  | new id cls raw => simp only [step, Option.some.injEq] at he; subst he; exact inv_opNew F hI ha
  | set self k v idx ow => exact inv_opSet F hI ha he
  | append self k it => exact inv_opAppend F hI ha he
  | replace self v => exact inv_opReplace F hI ha.1 ha.2 he
  | pop self => exact inv_opPop F hI ha he
  | hash n => exact (inv_fill F hI he).1
  | eq a b =>
    simp only [step, Option.map_eq_some_iff] at he
    obtain ⟨⟨h1, r⟩, he1, he2⟩ := he
    simp only at he2; subst he2
    exact (inv_opEq F hI he1).1
  | copy n base =>
    simp only [step, Option.map_eq_some_iff] at he
    obtain ⟨⟨h1, nx, c⟩, he1, he2⟩ := he
    simp only at he2; subst he2
    exact (deepcopy_spec hI ha.1 ha.2 he1).2.inv

theorem inv_run [DecidableEq H] (F : HashFns H) {fuel : Nat} : ∀ (ops : List Op) {h h' : Heap H}, Inv F h →
    AdmRun F fuel h ops → run F fuel h ops = some h' → Inv F h'
  | [], h, h', hI, _, he => by simp only [run, Option.some.injEq] at he; subst he; exact hI
  | op :: ops, h, h', hI, ha, he => by
    simp only [run] at he
    split at he
    · next h1 h1e => exact inv_run F ops (inv_step F hI ha.1 h1e) (ha.2 h1 h1e) he
    · cases he

end SqlglotModel.Tree
