/-
  Proofs/TreeWalk.lean — `transform` and `replace_children` keep the invariant (C08), parametric in the user function.
  What is asked of the user function is stated along the run: `TrAdm` / `TransformAdm` (each call keeps `Inv` and hands
  back the node itself or an unattached value), `GatherAdm` / `RcAdm` for `replace_children`.  The footprint counterpart
  `TrFr` / `TransformFr` (each call stays inside a `Region`) gives, for C09, `opTransformCopy_pure`: `transform(copy=True)`
  leaves the argument untouched and shares no node with it.  `idFun` (`lambda node: node`) meets both.
-/
import SqlglotModel.Proofs.TreeCopy

namespace SqlglotModel.Tree

variable {H : Type}

/-- what may be written over a WHOLE argument `(self, k)`: unattached nodes, or nodes that already live in that slot
    (`replace_children` re-installs the children the user function hands back) -/
def ValueOkAt (h : Heap H) (self : Id) (k : String) : Value → Prop
  | .node c => Unstored h c ∨ ∃ j, Stored h self k j c
  | .list items => ItemsDistinct items ∧ ∀ c, Item.node c ∈ items → Unstored h c ∨ ∃ j, Stored h self k j c
  | _ => True

theorem inv_opSet_whole (F : HashFns H) {fuel : Nat} {h h2 : Heap H} {self : Id} {k : String} {v : Value} {ow : Bool}
    (hI : Inv F h) (hv : ValueOkAt h self k v) (he : opSet fuel h self k v none ow = some h2) : Inv F h2 :=
  let ⟨hd, hu⟩ := value_items hv
  inv_opSet_items F hI hd (fun c hc => (hu c hc).imp_right (fun hs => ⟨rfl, hs⟩)) he

/-- admissibility of a `transform` run, stated along the run: every call of the user function keeps the invariant, and a
    result other than the node itself is unattached (fresh, copied or popped) when it is installed -/
def TrAdm (F : HashFns H) (fuel : Nat) (fn : UserFun H) : Nat → Heap H → Nat → List Id → Prop
  | 0, _, _, _ => True
  | _ + 1, _, _, [] => True
  | f + 1, h, nx, node :: st =>
    ∀ h1 nx1 v, fn h nx node = some (h1, nx1, v) →
      (Inv F h → Inv F h1) ∧ (v ≠ .node node → ValueOk h1 v) ∧
      ∀ h2 nx2 d, transformStep fuel fn h nx node = some (h2, nx2, d) →
        TrAdm F fuel fn f h2 nx2 (if d then childIds (h2 node).args ++ st else st)

/-- a step keeps the heap the user function hands back, or installs a result other than the node itself in the node's
    place by `parent.set(…)`; it descends (`d`) exactly when the node itself came back -/
theorem transformStep_some {fuel : Nat} {fn : UserFun H} {h h2 : Heap H} {nx nx2 : Nat} {node : Id} {d : Bool}
    (he : transformStep fuel fn h nx node = some (h2, nx2, d)) :
    ∃ h1 v, fn h nx node = some (h1, nx2, v) ∧ d = decide (v = .node node) ∧
      (h2 = h1 ∨
        (v ≠ .node node ∧ ∃ p k, (h node).parent = some p ∧ opSet fuel h1 p k v (h node).index true = some h2)) := by
  unfold transformStep at he
  simp only at he
  split at he
  · cases he
  · next h1 nx1 v hfn =>
    split at he
    · next hv =>
      cases he
      exact ⟨_, v, hfn, (decide_eq_true hv).symm, .inl rfl⟩
    · next hne =>
      have hd : false = decide (v = .node node) := (decide_eq_false hne).symm
      split at he
      · next p k hp _ =>
        split at he
        · next h2' hset =>
          cases he
          exact ⟨h1, v, hfn, hd, .inr ⟨hne, p, k, hp, hset⟩⟩
        · cases he
      · cases he
        exact ⟨_, v, hfn, hd, .inl rfl⟩

theorem inv_transformLoop (F : HashFns H) {fuel : Nat} {fn : UserFun H} {h' : Heap H} {nx' : Nat} (f : Nat) :
    ∀ (h : Heap H) (nx : Nat) (st : List Id), Inv F h → TrAdm F fuel fn f h nx st →
      transformLoop fuel fn f h nx st = some (h', nx') → Inv F h' := by
  induction f with
  | zero => intro h nx st _ _ he; simp [transformLoop] at he
  | succ f ih =>
    intro h nx st hI ha he
    cases st with
    | nil =>
      simp only [transformLoop] at he
      cases he; exact hI
    | cons node st =>
      simp only [transformLoop] at he
      split at he
      · cases he
      · next h2 nx2 d hstep =>
        obtain ⟨h1, v, hfn, _, hcase⟩ := transformStep_some hstep
        obtain ⟨hi, hv, hnext⟩ := ha h1 nx2 v hfn
        refine ih h2 nx2 _ ?_ (hnext h2 nx2 d hstep) he
        rcases hcase with rfl | ⟨hne, p, k, _, hset⟩
        · exact hi hI
        · exact inv_opSet F (hi hI) (hv hne) hset

/-- admissibility of a whole `root.transform(fun, copy=False)` call -/
def TransformAdm (F : HashFns H) (fuel : Nat) (fn : UserFun H) (h : Heap H) (nx : Nat) (root : Id) : Prop :=
  ∀ h1 nx1 v, fn h nx root = some (h1, nx1, v) →
    (Inv F h → Inv F h1) ∧ (v = .node root → TrAdm F fuel fn fuel h1 nx1 (childIds (h1 root).args))

theorem opTransform_some {fuel : Nat} {fn : UserFun H} {h h' : Heap H} {nx nx' : Nat} {root : Id} {r : Value}
    (he : opTransform fuel fn h nx root = some (h', nx', r)) :
    ∃ h1 nx1, fn h nx root = some (h1, nx1, r) ∧
      ((r = .node root ∧ transformLoop fuel fn fuel h1 nx1 (childIds (h1 root).args) = some (h', nx')) ∨
       (r ≠ .node root ∧ h' = h1 ∧ nx' = nx1)) := by
  unfold opTransform at he
  split at he
  · cases he
  · next h1 nx1 v hfn =>
    split at he
    · next hv =>
      split at he
      · next h2 nx2 hl =>
        cases he
        exact ⟨h1, nx1, hfn, .inl ⟨hv, hl⟩⟩
      · cases he
    · next hv =>
      -- the walk is pruned at once; a falsy result fails `assert root`
      suffices hx : some (h1, nx1, v) = some (h', nx', r) by
        cases hx
        exact ⟨_, _, hfn, .inr ⟨hv, rfl, rfl⟩⟩
      split at he
      · cases he
      · cases he
      · split at he
        · exact he
        · cases he
      · exact he

theorem inv_opTransform (F : HashFns H) {fuel : Nat} {fn : UserFun H} {h h' : Heap H} {nx nx' : Nat} {root : Id}
    {r : Value} (hI : Inv F h) (ha : TransformAdm F fuel fn h nx root)
    (he : opTransform fuel fn h nx root = some (h', nx', r)) : Inv F h' := by
  obtain ⟨h1, nx1, hfn, hcase⟩ := opTransform_some he
  obtain ⟨hi, hrest⟩ := ha h1 nx1 r hfn
  rcases hcase with ⟨hv, hl⟩ | ⟨_, e, _⟩
  · exact inv_transformLoop F fuel h1 nx1 _ (hi hI) (hrest hv) hl
  · rw [e]; exact hi hI

/-- every user-function call inside the gathering loop keeps the invariant -/
def GatherAdm (F : HashFns H) (fn : UserFun H) : Heap H → Nat → List Item → Prop
  | _, _, [] => True
  | h, nx, .leaf _ :: r => GatherAdm F fn h nx r
  | h, nx, .node c :: r =>
    ∀ h1 nx1 v, fn h nx c = some (h1, nx1, v) → (Inv F h → Inv F h1) ∧ GatherAdm F fn h1 nx1 r

theorem inv_gatherItems (F : HashFns H) {fn : UserFun H} {h' : Heap H} {nx' : Nat} (items : List Item) :
    ∀ (h : Heap H) (nx : Nat) (new : List Item), Inv F h → GatherAdm F fn h nx items →
      gatherItems fn h nx items = some (h', nx', new) → Inv F h' := by
  induction items with
  | nil =>
    intro h nx new hI _ he
    simp only [gatherItems] at he
    cases he; exact hI
  | cons it r ih =>
    intro h nx new hI ha he
    cases it with
    | leaf s =>
      simp only [gatherItems] at he
      split at he
      · next h1 n1 r1 hr =>
        cases he
        exact ih h nx r1 hI ha hr
      · cases he
    | node c =>
      simp only [gatherItems] at he
      split at he
      · cases he
      · next h1 nx1 v hfn =>
        obtain ⟨hi, hrest⟩ := ha h1 nx1 v hfn
        split at he
        · next h2 n2 r2 hr =>
          cases he
          exact ih h1 nx1 r2 (hi hI) hrest hr
        · cases he

/-- admissibility of a `replace_children` run: the user function keeps the invariant, and what is written back over each
    argument consists of unattached nodes or nodes already living in that argument, without repetition -/
def RcAdm (F : HashFns H) (fuel : Nat) (fn : UserFun H) (self : Id) : Heap H → Nat → List (String × Arg) → Prop
  | _, _, [] => True
  | h, nx, (k, a) :: r =>
    GatherAdm F fn h nx (argItems a) ∧
    ∀ h1 nx1 new, gatherItems fn h nx (argItems a) = some (h1, nx1, new) →
      ValueOkAt h1 self k (argValue a new) ∧
      ∀ h2, opSet fuel h1 self k (argValue a new) none true = some h2 → RcAdm F fuel fn self h2 nx1 r

theorem inv_replaceChildrenLoop (F : HashFns H) {fuel : Nat} {fn : UserFun H} {self : Id} {h' : Heap H} {nx' : Nat}
    (args : List (String × Arg)) : ∀ (h : Heap H) (nx : Nat), Inv F h →
      RcAdm F fuel fn self h nx args → replaceChildrenLoop fuel fn self h nx args = some (h', nx') → Inv F h' := by
  induction args with
  | nil =>
    intro h nx hI _ he
    simp only [replaceChildrenLoop] at he
    cases he; exact hI
  | cons e r ih =>
    intro h nx hI ha he
    obtain ⟨k, a⟩ := e
    simp only [replaceChildrenLoop] at he
    split at he
    · cases he
    · next h1 nx1 new hg =>
      obtain ⟨hv, hnext⟩ := ha.2 h1 nx1 new hg
      split at he
      · next h2 hset =>
        exact ih h2 nx1 (inv_opSet_whole F (inv_gatherItems F _ h nx new hI ha.1 hg) hv hset) (hnext h2 hset) he
      · cases he

/-- along a `transform` run inside the region `R`: the user function writes no cell outside `R`, keeps `R` a region and
    the args dicts, and hands back nodes of `R` -/
def TrFr (R : Id → Prop) (fuel : Nat) (fn : UserFun H) : Nat → Heap H → Nat → List Id → Prop
  | 0, _, _, _ => True
  | _ + 1, _, _, [] => True
  | f + 1, h, nx, node :: st =>
    ∀ h1 nx1 v, fn h nx node = some (h1, nx1, v) →
      (∀ m, ¬ R m → h1 m = h m) ∧ (Region h R → Keys h → Region h1 R ∧ Keys h1) ∧
      (v ≠ .node node → ∀ c, Item.node c ∈ itemOfValue v → R c) ∧
      ∀ h2 nx2 d, transformStep fuel fn h nx node = some (h2, nx2, d) →
        TrFr R fuel fn f h2 nx2 (if d then childIds (h2 node).args ++ st else st)

theorem transformLoop_frame {R : Id → Prop} {fuel : Nat} {fn : UserFun H} {h' : Heap H} {nx' : Nat} (f : Nat) :
    ∀ (h : Heap H) (nx : Nat) (st : List Id), (∀ n, n ∈ st → R n) → TrFr R fuel fn f h nx st →
      transformLoop fuel fn f h nx st = some (h', nx') → Confined R h h' := by
  induction f with
  | zero => intro h nx st _ _ he; simp [transformLoop] at he
  | succ f ih =>
    intro h nx st hst ha he
    cases st with
    | nil =>
      simp only [transformLoop] at he
      cases he; exact Confined.refl
    | cons node st =>
      simp only [transformLoop] at he
      split at he
      · cases he
      · next h2 nx2 d hstep =>
        intro hR hk
        have hnode : R node := hst node (List.mem_cons_self ..)
        obtain ⟨h1, v, hfn, _, hcase⟩ := transformStep_some hstep
        obtain ⟨hfr, hreg, hval, hrest⟩ := ha h1 nx2 v hfn
        have c1 : Confined R h h1 := fun hR hk => ⟨hfr, hreg hR hk⟩
        have step : Confined R h h2 := by
          rcases hcase with rfl | ⟨hne, p, k, hp, hset⟩
          · exact c1
          · exact c1.trans (confined_opSet (hR.up node p hnode hp) (hval hne) hset)
        obtain ⟨_, hR2, hk2⟩ := step hR hk
        have hst2 : ∀ n, n ∈ (if d then childIds (h2 node).args ++ st else st) → R n := by
          intro n hn
          split at hn
          · rcases List.mem_append.mp hn with e | e
            · exact children_in_region hR2 hk2 hnode e
            · exact hst n (List.mem_cons_of_mem _ e)
          · exact hst n (List.mem_cons_of_mem _ hn)
        exact step.trans (ih h2 nx2 _ hst2 (hrest h2 nx2 d hstep) he) hR hk

/-- admissibility of `root.transform(fun, copy=True)` w.r.t. the region of the fresh copy -/
def TransformFr (R : Id → Prop) (fuel : Nat) (fn : UserFun H) (h : Heap H) (nx : Nat) (root : Id) : Prop :=
  ∀ h1 nx1 v, fn h nx root = some (h1, nx1, v) →
    (∀ m, ¬ R m → h1 m = h m) ∧ (Region h R → Keys h → Region h1 R ∧ Keys h1) ∧
    (v ≠ .node root → ∀ c, Item.node c ∈ itemOfValue v → R c) ∧
    (v = .node root → TrFr R fuel fn fuel h1 nx1 (childIds (h1 root).args))

theorem opTransform_frame {R : Id → Prop} {fuel : Nat} {fn : UserFun H} {h h' : Heap H} {nx nx' : Nat} {root : Id}
    {r : Value} (hR : Region h R) (hk : Keys h) (hroot : R root) (ha : TransformFr R fuel fn h nx root)
    (he : opTransform fuel fn h nx root = some (h', nx', r)) :
    Same R h h' ∧ Region h' R ∧ (∀ c, Item.node c ∈ itemOfValue r → R c) := by
  obtain ⟨h1, nx1, hfn, hcase⟩ := opTransform_some he
  obtain ⟨hfr, hreg, hvalR, hrest⟩ := ha h1 nx1 r hfn
  obtain ⟨hR1, hk1⟩ := hreg hR hk
  rcases hcase with ⟨hv, hl⟩ | ⟨hv, e, _⟩
  · obtain ⟨a, b, _⟩ := transformLoop_frame fuel h1 nx1 _ (fun n => children_in_region hR1 hk1 hroot) (hrest hv) hl
      hR1 hk1
    refine ⟨Same.trans hfr a, b, fun c hc => ?_⟩
    rw [hv] at hc
    simp only [itemOfValue, List.mem_singleton, Item.node.injEq] at hc
    rw [hc]; exact hroot
  · rw [e]; exact ⟨hfr, hR1, hvalR hv⟩

/-- `transform(fun, copy=True)` leaves its argument untouched: every cell that existed before the
    call — args, back pointers and hash caches of the argument tree and of every other tree — is unchanged, the
    invariant is kept, and the RESULT SHARES NO NODE WITH THE ARGUMENT; for a user function that works inside the copy. -/
theorem opTransformCopy_pure (F : HashFns H) {fuel : Nat} {fn : UserFun H} {h0 h' : Heap H} {base nx' : Nat} {root : Id}
    {r : Value} (hI0 : Inv F h0) (hf0 : FreshFrom h0 base) (hn : base > root)
    (hfr : ∀ h1 nx1 c, opDeepcopy fuel h0 root base = some (h1, nx1, c) →
      TransformFr (fun m => base ≤ m) fuel fn h1 nx1 c ∧ TransformAdm F fuel fn h1 nx1 c)
    (he : opTransformCopy fuel fn h0 base root = some (h', nx', r)) :
    (∀ m, m < base → h' m = h0 m) ∧ Inv F h' ∧
    (∀ c m, Item.node c ∈ itemOfValue r → Reach h' c m → ¬ Reach h' root m) := by
  unfold opTransformCopy at he
  split at he
  · next h1 nx1 c hc =>
    obtain ⟨hcb, d⟩ := deepcopy_spec hI0 hf0 hn hc
    obtain ⟨a1, a2⟩ := hfr h1 nx1 c hc
    obtain ⟨f1, f2, f3⟩ := opTransform_frame d.region d.keys (by rw [hcb]; exact Nat.le_refl _) a1 he
    have hold := d.same.trans f1
    exact ⟨fun m hm => hold m (Nat.not_le_of_lt hm), inv_opTransform F d.inv a2 he,
      fun c' m hc' => reach_disjoint hI0 hf0 hold f2 (f3 c' hc') hn⟩
  · cases he

/-- `lambda node: node` — what `expand`'s `_expand` is when no table names a source (empty or unreferenced sources) -/
def idFun : UserFun H := fun h nx n => some (h, nx, .node n)

theorem idFun_call {h h1 : Heap H} {nx nx1 : Nat} {n : Id} {v : Value}
    (hfn : idFun h nx n = some (h1, nx1, v)) : h1 = h ∧ nx1 = nx ∧ v = .node n := by
  cases hfn; exact ⟨rfl, rfl, rfl⟩

theorem transformStep_id {fuel : Nat} {h : Heap H} {nx : Nat} {node : Id} :
    transformStep fuel (idFun (H := H)) h nx node = some (h, nx, true) := by
  simp [transformStep, idFun]

theorem trFr_id (R : Id → Prop) (fuel : Nat) : ∀ (f : Nat) (h : Heap H) (nx : Nat) (st : List Id),
    TrFr R fuel (idFun (H := H)) f h nx st
  | 0, _, _, _ => trivial
  | _ + 1, _, _, [] => trivial
  | f + 1, h, nx, node :: st => by
    intro h1 nx1 v hfn
    obtain ⟨rfl, rfl, rfl⟩ := idFun_call hfn
    refine ⟨fun _ _ => rfl, fun a b => ⟨a, b⟩, fun hne => absurd rfl hne, ?_⟩
    intro h2 nx2 d _
    exact trFr_id R fuel f h2 nx2 _

theorem trAdm_id (F : HashFns H) (fuel : Nat) : ∀ (f : Nat) (h : Heap H) (nx : Nat) (st : List Id),
    TrAdm F fuel (idFun (H := H)) f h nx st
  | 0, _, _, _ => trivial
  | _ + 1, _, _, [] => trivial
  | f + 1, h, nx, node :: st => by
    intro h1 nx1 v hfn
    obtain ⟨rfl, rfl, rfl⟩ := idFun_call hfn
    refine ⟨fun a => a, fun hne => absurd rfl hne, ?_⟩
    intro h2 nx2 d _
    exact trAdm_id F fuel f h2 nx2 _

theorem transformFr_id (R : Id → Prop) (fuel : Nat) (h : Heap H) (nx : Nat) (root : Id) :
    TransformFr R fuel (idFun (H := H)) h nx root := by
  intro h1 nx1 v hfn
  obtain ⟨rfl, rfl, rfl⟩ := idFun_call hfn
  exact ⟨fun _ _ => rfl, fun a b => ⟨a, b⟩, fun hne => absurd rfl hne, fun _ => trFr_id R fuel fuel _ _ _⟩

theorem transformAdm_id (F : HashFns H) (fuel : Nat) (h : Heap H) (nx : Nat) (root : Id) :
    TransformAdm F fuel (idFun (H := H)) h nx root := by
  intro h1 nx1 v hfn
  obtain ⟨rfl, rfl, rfl⟩ := idFun_call hfn
  exact ⟨fun a => a, fun _ => trAdm_id F fuel fuel _ _ _⟩

/-- even when the user function has nothing to do, `transform(copy=True)` returns the fresh copy: a different root, no
    shared node, the argument untouched -/
theorem opTransformCopy_id (F : HashFns H) {fuel : Nat} {h0 h' : Heap H} {base nx' : Nat} {root : Id} {r : Value}
    (hI0 : Inv F h0) (hf0 : FreshFrom h0 base) (hn : base > root)
    (he : opTransformCopy fuel (idFun (H := H)) h0 base root = some (h', nx', r)) :
    r = .node base ∧ (∀ m, m < base → h' m = h0 m) ∧ (∀ m, Reach h' base m → ¬ Reach h' root m) := by
  have hr : r = .node base := by
    unfold opTransformCopy at he
    split at he
    · next h1 nx1 c hc =>
      obtain ⟨_, _, hfn, _⟩ := opTransform_some he
      rw [(idFun_call hfn).2.2, (deepcopy_spec hI0 hf0 hn hc).1]
    · cases he
  obtain ⟨a, _, c⟩ := opTransformCopy_pure F hI0 hf0 hn
    (fun h1 nx1 c _ => ⟨transformFr_id _ fuel h1 nx1 c, transformAdm_id F fuel h1 nx1 c⟩) he
  refine ⟨hr, a, ?_⟩
  intro m hm
  exact c base m (by rw [hr]; simp [itemOfValue]) hm

end SqlglotModel.Tree
