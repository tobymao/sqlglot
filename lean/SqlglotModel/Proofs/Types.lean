/-
  C16 — the structural induction that lifts the finite per-operator obligations (`TablesOk`, decided completely over the
  generated tables in Properties/C16.lean) to expressions of any depth (`rel_of_obligations`) and to n-ary nodes with any number
  of branches (`nary_sound`): each case of the induction reads one accepted entry of a table check back as a statement about one
  operator.  Beside it, the per-call cache of `TypeAnnotator._scope_source_selects`: with the scope in the key a shared cache
  answers as no cache would (`runScopes_transparent`).
-/
import SqlglotModel.Model.Types

namespace SqlglotModel.Types

/-! ### the lists the table checks range over are complete (those of a part of a type: under the condition that says which) -/

theorem Ty.mem_all (t : Ty) : t ∈ Ty.all := by cases t <;> decide +kernel

theorem Ty.forall_of_all {p : Ty → Bool} (h : Ty.all.all p = true) (t : Ty) : p t = true :=
  List.all_eq_true.mp h t (Ty.mem_all t)

theorem ETy.mem_all (e : ETy) : e ∈ ETy.all := by cases e <;> decide +kernel

theorem Sm.mem_all (s : Sm) : s ∈ Sm.all := by
  cases s with
  | of t => exact List.mem_append_left _ (List.mem_map_of_mem (Ty.mem_all t))
  | strLit i => cases i <;> exact List.mem_append_right _ (by decide)
  | iv d => cases d <;> exact List.mem_append_right _ (by decide)
  | _ => exact List.mem_append_right _ (by decide)

theorem Sm.mem_typed {s : Sm} (h : (s != .of .unknown) = true) : s ∈ Sm.typed :=
  List.mem_filter.mpr ⟨Sm.mem_all s, h⟩

theorem BinK.mem_all (k : BinK) : k ∈ BinK.all := by cases k <;> decide +kernel

theorem TernK.mem_all (k : TernK) : k ∈ TernK.all := by cases k <;> decide +kernel

theorem NaryK.mem_all (k : NaryK) : k ∈ NaryK.all := by cases k <;> decide +kernel

theorem UnK.mem_all_of {k : UnK} (h : unKnown k = true) : k ∈ UnK.all := by
  cases k with
  | cast to =>
    exact List.mem_append_left _ (List.mem_append_right _ (List.mem_map_of_mem (List.contains_iff_mem.mp h)))
  | tryCast to => exact List.mem_append_right _ (List.mem_map_of_mem (List.contains_iff_mem.mp h))
  | _ => decide +kernel

theorem Acc.mem_all_of {acc : Acc} (h : litOk acc = true) : acc ∈ Acc.all := by
  obtain ⟨l, n⟩ := acc
  simp only [Acc.all, List.mem_flatMap, List.mem_map]
  refine ⟨l, List.contains_iff_mem.mp h, n, ?_, rfl⟩
  cases n with
  | none => exact List.mem_cons_self
  | some t => exact List.mem_cons_of_mem _ (List.mem_map_of_mem (Ty.mem_all t))

theorem mem_compat {s : Sm} {e : ETy} (h : Rel s e = true) : e ∈ compat s :=
  List.mem_filter.mpr ⟨ETy.mem_all e, h⟩

/-- the step from `Rel` at the root of an expression to the statement of C16 (`class_agrees`) -/
theorem rel_class {s : Sm} {e : ETy} (h : Rel s e = true) : eclassOf e = some (classOf s.ty) := by
  cases s with
  | strLit i => simp only [Rel, beq_iff_eq] at h; subst h; rfl
  | _ => simp only [Rel, Bool.and_eq_true, beq_iff_eq] at h; exact h.2

section
variable (T : Tables)

/-- a class whose entry is `_annotate_binary` of a Connector / Predicate, or `{"returns": BOOLEAN}`, is BOOLEAN whatever
    its operands -/
theorem annotNode_pred {c : NodeC} (h : T.md c = .binary true ∨ T.md c = .returns .boolean) (a b : Sm) (t : Ty) :
    annotNode T c [a, b] t = .boolean := by
  rcases h with h | h <;> simp [annotNode, annotShape, annotBinary, h]

theorem annotTern_cond {k : TernK} {m : List Bool} {p : Bool} (h : T.md (ternNode k) = .byArgs (false :: m) p)
    (c c' a b : Sm) : annotTern T k c a b = annotTern T k c' a b := by
  simp only [annotTern, annotNode, h, annotShape, applyMask]

theorem ternCondCheck_of_masks (h : ∀ k, ∃ m p, T.md (ternNode k) = .byArgs (false :: m) p) : ternCondCheck T = true := by
  simp only [ternCondCheck, List.all_eq_true, beq_iff_eq]
  intro k _ c _ a _ b _
  obtain ⟨m, p, hm⟩ := h k
  exact annotTern_cond T hm c _ a b

/-- one entry of a table check, read back: what it says of a combination the engine accepts -/
theorem of_accepted {e : ETy} {q : Bool} (h : (e == .error || q) = true) (hne : (e != .error) = true) : q = true := by
  rcases Bool.or_eq_true_iff.mp h with h | h
  · simp [beq_iff_eq.mp h] at hne
  · exact h

/-- accepted ⇒ (agrees ⇔ in no family) -/
theorem eq_of_accepted {e : ETy} {p q : Bool} (h : (e == .error || (p == q)) = true) (hne : (e != .error) = true) : p = q :=
  beq_iff_eq.mp (of_accepted h hne)

/-- one entry of `unCheck`, stated as the property theorems have it: agreement on the left, "in no family" on the right
    (the tables compare the other way round); likewise `binCheck_at` -/
theorem unCheck_at (h : unCheck T = true) {k : UnK} {a : Sm} {ea : ETy} (hk : k ∈ UnK.all) (ha : a ∈ Sm.typed)
    (hea : ea ∈ compat a) :
    (engUn T k ea == .error || (Rel (.of (annotUn T k a)) (engUn T k ea) == (famUn k a ea).isNone)) = true := by
  simp only [unCheck, List.all_eq_true] at h
  rw [Bool.beq_comm (α := Bool)]
  exact h k hk a ha ea hea

theorem unCheck_iff (h : unCheck T = true) {k : UnK} {a : Sm} {ea : ETy} (hk : unKnown k = true)
    (ht : (a != .of .unknown) = true) (hr : Rel a ea = true) (hne : (engUn T k ea != .error) = true) :
    Rel (.of (annotUn T k a)) (engUn T k ea) = (famUn k a ea).isNone :=
  eq_of_accepted (unCheck_at T h (UnK.mem_all_of hk) (Sm.mem_typed ht) (mem_compat hr)) hne

theorem binCheck_at (h : binCheck T = true) (k : BinK) {a b : Sm} {ea eb : ETy} (ha : a ∈ Sm.typed) (hb : b ∈ Sm.typed)
    (hea : ea ∈ compat a) (heb : eb ∈ compat b) :
    (T.duckBin k ea eb == .error
      || (Rel (.of (annotBin T k a b)) (T.duckBin k ea eb) == (famBin T k a b ea eb).isNone)) = true := by
  simp only [binCheck, List.all_eq_true] at h
  rw [Bool.beq_comm (α := Bool)]
  exact h k (BinK.mem_all k) a ha b hb ea hea eb heb

theorem binCheck_iff (h : binCheck T = true) (k : BinK) {a b : Sm} {ea eb : ETy}
    (hta : (a != .of .unknown) = true) (htb : (b != .of .unknown) = true)
    (hra : Rel a ea = true) (hrb : Rel b eb = true) (hne : (T.duckBin k ea eb != .error) = true) :
    Rel (.of (annotBin T k a b)) (T.duckBin k ea eb) = (famBin T k a b ea eb).isNone :=
  eq_of_accepted (binCheck_at T h k (Sm.mem_typed hta) (Sm.mem_typed htb) (mem_compat hra) (mem_compat hrb)) hne

theorem ternCheck_iff (hc : ternCondCheck T = true) (h : ternCheck T = true) (k : TernK) (c : Sm) {a b : Sm} {ea eb : ETy}
    (hta : (a != .of .unknown) = true) (htb : (b != .of .unknown) = true)
    (hra : Rel a ea = true) (hrb : Rel b eb = true) (hne : (T.duckTern k ea eb != .error) = true) :
    Rel (.of (annotTern T k c a b)) (T.duckTern k ea eb) = (famTern k a b).isNone := by
  simp only [ternCondCheck, List.all_eq_true, beq_iff_eq] at hc
  rw [hc k (TernK.mem_all k) c (Sm.mem_all c) a (Sm.mem_typed hta) b (Sm.mem_typed htb)]
  simp only [ternCheck, List.all_eq_true] at h
  exact (eq_of_accepted
    (h k (TernK.mem_all k) a (Sm.mem_typed hta) b (Sm.mem_typed htb) ea (mem_compat hra) eb (mem_compat hrb)) hne).symm

/-- branch summaries and branch engine classes, position by position: related, and the summary typed -/
def relAll : List Sm → List ETy → Bool
  | [], [] => true
  | s :: ss, e :: es => Rel s e && s != .of .unknown && relAll ss es
  | _, _ => false

theorem relAll_cons {s : Sm} {ss : List Sm} {e : ETy} {es : List ETy} :
    relAll (s :: ss) (e :: es) = true ↔ Rel s e = true ∧ (s != .of .unknown) = true ∧ relAll ss es = true := by
  simp only [relAll, Bool.and_eq_true, and_assoc]

theorem byArgsLoop_cons (s : Sm) (ss : List Sm) (acc : Acc) :
    byArgsLoop T (s :: ss) acc = (byArgsStep T acc s).bind (byArgsLoop T ss) := by
  simp only [byArgsStep, byArgsLoop]
  split
  · rfl
  · split <;> rfl

theorem naryRun_cons {k : NaryK} {acc : Acc} {e e1 : ETy} {s : Sm} {ss : List Sm} {es : List ETy}
    (h : naryRun T k acc e (s :: ss) (e1 :: es) = true) :
    stepOk T acc s = true ∧ ∃ acc', byArgsStep T acc s = some acc' ∧ (T.duckJoin k e e1 != .error) = true
      ∧ naryRun T k acc' (T.duckJoin k e e1) ss es = true := by
  simp only [naryRun, Bool.and_eq_true] at h
  cases hst : byArgsStep T acc s with
  | none => simp [hst] at h
  | some acc' => simpa only [hst, Bool.and_eq_true, Option.some.injEq, exists_eq_left'] using h

theorem InvN_rel {acc : Acc} {e : ETy} (h : InvN T acc e = true) : ∃ r, accSm T acc = some r ∧ Rel r e = true := by
  cases hacc : accSm T acc with
  | none => simp [InvN, hacc] at h
  | some r =>
    simp only [InvN, hacc, Bool.and_eq_true] at h
    exact ⟨r, rfl, h.1⟩

theorem annotNary_eq {k : NaryK} {p : Bool} (h : naryPromote T k = some p) (args : List Sm) :
    annotNary T k args = byArgs T args p := by
  simp only [naryPromote] at h
  simp only [annotNary]
  split at h
  · rename_i hmd
    split at h
    · rename_i hb
      cases h
      simp [hmd, hb]
    · cases h
  · cases h

/-! the four clauses of `naryCheck`, each read back at one combination -/

theorem naryCheck_promote (h : naryCheck T = true) (k : NaryK) : ∃ p, naryPromote T k = some p := by
  simp only [naryCheck, Bool.and_eq_true, List.all_eq_true] at h
  exact Option.isSome_iff_exists.mp (h.1.1.1 k (NaryK.mem_all k))

theorem naryCheck_init (h : naryCheck T = true) {s : Sm} {es : ETy} (hts : (s != .of .unknown) = true)
    (hrs : Rel s es = true) : ∃ acc, byArgsStep T ⟨none, none⟩ s = some acc ∧ InvN T acc es = true ∧ litOk acc = true := by
  simp only [naryCheck, Bool.and_eq_true, List.all_eq_true] at h
  have := h.1.1.2 s (Sm.mem_typed hts) es (mem_compat hrs)
  cases hst : byArgsStep T ⟨none, none⟩ s with
  | none => simp [hst] at this
  | some acc => simpa only [hst, Bool.and_eq_true, Option.some.injEq, exists_eq_left'] using this

theorem naryCheck_step (h : naryCheck T = true) (k : NaryK) {acc acc' : Acc} {e es : ETy} {s : Sm}
    (hI : InvN T acc e = true) (hL : litOk acc = true) (hok : stepOk T acc s = true) (hts : (s != .of .unknown) = true)
    (hrs : Rel s es = true) (hst : byArgsStep T acc s = some acc') (hne : (T.duckJoin k e es != .error) = true) :
    InvN T acc' (T.duckJoin k e es) = true ∧ litOk acc' = true := by
  obtain ⟨r, hacc, hre⟩ := InvN_rel T hI
  simp only [naryCheck, Bool.and_eq_true, List.all_eq_true] at h
  have := h.1.2 k (NaryK.mem_all k) acc (Acc.mem_all_of hL)
  simp only [hacc, List.all_eq_true] at this
  have := this e (mem_compat hre) s (Sm.mem_typed hts) es (mem_compat hrs)
  simp only [hst, hI, hL, hok, Bool.and_self, Bool.not_true, Bool.false_or] at this
  simpa only [Bool.and_eq_true] using of_accepted this hne

theorem naryCheck_fin (h : naryCheck T = true) {k : NaryK} {p : Bool} (hp : naryPromote T k = some p) {acc : Acc} {e : ETy}
    (hI : InvN T acc e = true) (hL : litOk acc = true) : Rel (.of (finishTy T p acc)) (resolveE e) = true := by
  obtain ⟨r, hacc, hre⟩ := InvN_rel T hI
  simp only [naryCheck, Bool.and_eq_true, List.all_eq_true] at h
  have := h.2 k (NaryK.mem_all k) acc (Acc.mem_all_of hL)
  simp only [hacc, List.all_eq_true] at this
  simpa only [hI, Bool.not_true, Bool.false_or, hp, Option.getD_some] using this e (mem_compat hre)

/-- the loop invariant behind `nary_sound`: `InvN` between the by-args state and the engine's running join, kept by every
    in-chain step -/
theorem naryRun_sound (h : naryCheck T = true) (k : NaryK) :
    ∀ (ss : List Sm) (es : List ETy) (acc : Acc) (e : ETy),
      InvN T acc e = true → litOk acc = true → relAll ss es = true → naryRun T k acc e ss es = true →
      ∃ acc', byArgsLoop T ss acc = some acc' ∧ InvN T acc' (es.foldl (T.duckJoin k) e) = true ∧ litOk acc' = true
  | [], [], acc, _, hI, hL, _, _ => ⟨acc, rfl, hI, hL⟩
  | [], _ :: _, _, _, _, _, hr, _ => nomatch hr
  | _ :: _, [], _, _, _, _, hr, _ => nomatch hr
  | s :: ss, e1 :: es, acc, e, hI, hL, hr, hrun => by
    obtain ⟨hrs, hts, hrest⟩ := relAll_cons.mp hr
    obtain ⟨hok, acc1, hst, hne, hrun'⟩ := naryRun_cons T hrun
    obtain ⟨hI1, hL1⟩ := naryCheck_step T h k hI hL hok hts hrs hst hne
    obtain ⟨acc', hloop, hI', hL'⟩ := naryRun_sound h k ss es acc1 (T.duckJoin k e e1) hI1 hL1 hrest hrun'
    exact ⟨acc', by rw [byArgsLoop_cons, hst]; exact hloop, hI', hL'⟩

/-- **n-ary agreement.** Any number of in-chain branches: the by-args result and the engine's folded join agree. -/
theorem nary_sound (h : naryCheck T = true) (k : NaryK) (ss : List Sm) (es : List ETy)
    (hr : relAll ss es = true) (hok : naryOk T k ss es = true) :
    Rel (.of (annotNary T k ss)) (engNary T k es) = true := by
  obtain ⟨p, hp⟩ := naryCheck_promote T h k
  cases ss with
  | nil => simp [naryOk] at hok
  | cons s ss' =>
    cases es with
    | nil => simp [naryOk] at hok
    | cons e es' =>
      obtain ⟨hrs, hts, hrest⟩ := relAll_cons.mp hr
      obtain ⟨acc0, hst, hI0, hL0⟩ := naryCheck_init T h hts hrs
      simp only [naryOk, hst] at hok
      obtain ⟨acc', hloop, hI', hL'⟩ := naryRun_sound T h k ss' es' acc0 e hI0 hL0 hrest hok
      rw [annotNary_eq T hp, byArgs, byArgsLoop_cons, hst, Option.bind_some, hloop]
      exact naryCheck_fin T h hp hI' hL'

/-- The conjuncts of `TablesOk` and `extraCheck` under names, for the induction below: the leaves and the clauses of
    `extraCheck` as statements about one operator, each operator table as the Boolean its read-off lemma takes (`unCheck_iff`,
    `binCheck_iff`, `ternCheck_iff`, `nary_sound`). -/
structure Obligations : Prop where
  col : ∀ t ∈ colTypes, Rel (.of t) (T.duckCol t) = true
  literal : T.md .literal = .literal
  interval : T.md .interval = .returns .interval
  null : Rel (.of (leafReturns T .null)) .null = true
  boolean : Rel (.of (leafReturns T .boolean)) .boolean = true
  un : unCheck T = true
  bin : binCheck T = true
  ternCond : ternCondCheck T = true
  tern : ternCheck T = true
  nary : naryCheck T = true
  numLit : ∀ k, Rel (if k = .sci then .decLit else .intLit) (T.duckNumLit k) = (famNumLit k).isNone
  win0 : ∀ k, Rel (.of (annotNode T .window [.of (leafReturns T (win0Node k))] .unknown)) (T.duckWin0 k) = true
  pred3 : ∀ k ea eb ec, (T.duckPred3 k ea eb ec != .error) = true →
    Rel (.of (leafReturns T (pred3Node k))) (T.duckPred3 k ea eb ec) = true

theorem obligations_of (h : TablesOk T = true) (hx : extraCheck T = true) : Obligations T := by
  simp only [TablesOk, leafCheck, Bool.and_eq_true, List.all_eq_true, beq_iff_eq, and_assoc] at h
  obtain ⟨hcol, hlit, hiv, hnull, hbool, hU, hB, hC, hT, hN⟩ := h
  simp only [extraCheck, Bool.and_eq_true, List.all_eq_true, beq_iff_eq, hlit, if_true] at hx
  refine ⟨hcol, hlit, hiv, hnull, hbool, hU, hB, hC, hT, hN, fun k => ?_, fun k => hx.1.2 k (by cases k <;> decide),
    fun k ea eb ec hne => ?_⟩
  · have := hx.1.1 k (by cases k <;> decide)
    cases k <;> exact this.symm
  · exact of_accepted (hx.2 k (by cases k <;> decide) ea (ETy.mem_all _) eb (ETy.mem_all _) ec (ETy.mem_all _)) hne

variable (S : Schema)

section
variable {T} {S}

/-! `WF` at an operator node, clause by clause -/

theorem typed_of_typedOperand {e : TExpr} (h : typedOperand T S e = true) : (sm T S e != .of .unknown) = true :=
  (Bool.and_eq_true_iff.mp h).2

theorem WF_un {k : UnK} {a : TExpr} :
    WF T S (.un k a) = true ↔ WF T S a = true ∧ typedOperand T S a = true ∧ (!isWrap k || isAggNode a) = true
      ∧ unKnown k = true ∧ (famUn k (sm T S a) (eng T S a)).isNone = true ∧ (engUn T k (eng T S a) != .error) = true := by
  simp only [WF, Bool.and_eq_true, and_assoc]

theorem WF_bin {k : BinK} {a b : TExpr} :
    WF T S (.bin k a b) = true ↔ WF T S a = true ∧ WF T S b = true ∧ typedOperand T S a = true ∧ typedOperand T S b = true
      ∧ (famBin T k (sm T S a) (sm T S b) (eng T S a) (eng T S b)).isNone = true
      ∧ (T.duckBin k (eng T S a) (eng T S b) != .error) = true := by
  simp only [WF, Bool.and_eq_true, and_assoc]

theorem WF_tern {k : TernK} {c a b : TExpr} :
    WF T S (.tern k c a b) = true ↔ WF T S c = true ∧ WF T S a = true ∧ WF T S b = true ∧ typedOperand T S c = true
      ∧ typedOperand T S a = true ∧ typedOperand T S b = true ∧ (eng T S c == .boolean) = true
      ∧ (famTern k (sm T S a) (sm T S b)).isNone = true ∧ (T.duckTern k (eng T S a) (eng T S b) != .error) = true := by
  simp only [WF, Bool.and_eq_true, and_assoc]

mutual
theorem rel_of_obligations (O : Obligations T) : ∀ e : TExpr, WF T S e = true → Rel (sm T S e) (eng T S e) = true
  | .col q n => by
    intro hw
    cases q with
    | this =>
      simp only [WF] at hw
      cases hlk : S.table.lookup n with
      | none => simp [hlk] at hw
      | some t =>
        simp only [hlk, List.contains_iff_mem] at hw
        simpa [sm, eng, annotCol, hlk] using O.col t hw
    | derived a =>
      simp only [WF] at hw
      cases hlk : (S.derived.lookup a).bind (·.lookup n) with
      | none => simp [hlk] at hw
      | some p =>
        obtain ⟨t, e⟩ := p
        simp only [hlk, Bool.and_eq_true] at hw
        simpa [sm, eng, annotCol, hlk] using hw.1
    | _ => simp [WF] at hw
  | .intLit => fun _ => by simp only [sm, eng, if_pos O.literal]; rfl
  | .decLit => fun _ => by simp only [sm, eng, if_pos O.literal]; rfl
  | .strLit i => fun _ => by simp only [sm, eng, if_pos O.literal]; rfl
  | .nullLit => fun _ => by simp only [sm, eng]; exact O.null
  | .boolLit => fun _ => by simp only [sm, eng]; exact O.boolean
  | .interval d => fun _ => by simp only [sm, eng, if_pos O.interval]; rfl
  | .numLit k => by
    intro hw
    simp only [WF] at hw
    simp only [sm, eng, if_pos O.literal]
    cases k <;> exact (O.numLit _).trans hw
  | .win0 k => fun _ => by simp only [sm, eng]; exact O.win0 k
  | .pred3 k a b c => by
    intro hw
    simp only [WF, Bool.and_eq_true] at hw
    simp only [sm, eng]
    exact O.pred3 k _ _ _ hw.2
  | .un k a => by
    intro hw
    obtain ⟨hwa, hta, -, hk, hf, hne⟩ := WF_un.mp hw
    simp only [sm, eng]
    exact (unCheck_iff T O.un hk (typed_of_typedOperand hta) (rel_of_obligations O a hwa) hne).trans hf
  | .bin k a b => by
    intro hw
    obtain ⟨hwa, hwb, hta, htb, hf, hne⟩ := WF_bin.mp hw
    simp only [sm, eng]
    exact (binCheck_iff T O.bin k (typed_of_typedOperand hta) (typed_of_typedOperand htb)
      (rel_of_obligations O a hwa) (rel_of_obligations O b hwb) hne).trans hf
  | .tern k c a b => by
    intro hw
    obtain ⟨-, hwa, hwb, -, hta, htb, hc, hf, hne⟩ := WF_tern.mp hw
    simp only [sm, eng, if_pos (eq_of_beq hc)]
    exact (ternCheck_iff T O.ternCond O.tern k (sm T S c) (typed_of_typedOperand hta) (typed_of_typedOperand htb)
      (rel_of_obligations O a hwa) (rel_of_obligations O b hwb) hne).trans hf
  | .nary k args => by
    intro hw
    simp only [WF, Bool.and_eq_true] at hw
    obtain ⟨⟨hwa, hok⟩, hty⟩ := hw
    simp only [sm, eng]
    exact nary_sound T O.nary k _ _ (relArgs_of_obligations O args hwa hty) hok
theorem relArgs_of_obligations (O : Obligations T) : ∀ args : TArgs, WFArgs T S args = true → argsTyped T S args = true →
    relAll (smArgs T S args) (engArgs T S args) = true
  | .nil => fun _ _ => rfl
  | .cons e rest => by
    intro hw ht
    simp only [WFArgs, argsTyped, Bool.and_eq_true] at hw ht
    exact relAll_cons.mpr
      ⟨rel_of_obligations O e hw.1, typed_of_typedOperand ht.1, relArgs_of_obligations O rest hw.2 ht.2⟩
end

end

/-- **Induction over expressions.** If the finite obligations hold for the tables, then for every well-formed expression of
    any depth (and n-ary nodes of any width) the annotator's summary of the root and the engine's class describe the same
    kind of value. -/
theorem rel_of_tablesOk (h : TablesOk T = true) (hx : extraCheck T = true) : ∀ e : TExpr, WF T S e = true → Rel (sm T S e) (eng T S e) = true :=
  rel_of_obligations (obligations_of T h hx)

theorem relArgs_of_tablesOk (h : TablesOk T = true) (hx : extraCheck T = true) :
    ∀ args : TArgs, WFArgs T S args = true → argsTyped T S args = true →
      relAll (smArgs T S args) (engArgs T S args) = true :=
  relArgs_of_obligations (obligations_of T h hx)

/-! membership in the depth-1 census: the side condition is one Boolean, which a caller exhibiting a combination closes by
    `decide` -/

theorem census_un (k : UnK) (a : Sm) (ea : ETy)
    (h : (UnK.all.contains k && Sm.typed.contains a && (compat a).contains ea && engUn T k ea != .error) = true) :
    famUn k a ea ∈ censusUn T := by
  simp only [Bool.and_eq_true, List.contains_iff_mem, bne_iff_ne, ne_eq, ← beq_eq_false_iff_ne, and_assoc] at h
  obtain ⟨hk, ha, he, hacc⟩ := h
  simp only [censusUn, List.mem_flatMap, List.mem_filterMap]
  exact ⟨k, hk, a, ha, ea, he, by simp [hacc]⟩

theorem census_bin (k : BinK) (a b : Sm) (ea eb : ETy)
    (h : (Sm.typed.contains a && Sm.typed.contains b && (compat a).contains ea && (compat b).contains eb
          && T.duckBin k ea eb != .error) = true) :
    famBin T k a b ea eb ∈ censusBin T := by
  simp only [Bool.and_eq_true, List.contains_iff_mem, bne_iff_ne, ne_eq, ← beq_eq_false_iff_ne, and_assoc] at h
  obtain ⟨ha, hb, hea, heb, hacc⟩ := h
  simp only [censusBin, List.mem_flatMap, List.mem_filterMap]
  exact ⟨k, BinK.mem_all k, a, ha, b, hb, ea, hea, eb, heb, by simp [hacc]⟩

/-- counting a prefix of the table gives lower bounds for the census of the generic functions -/
theorem censusFn_mono (F : FnTables) {n : Nat} (h : n ≤ F.count) :
    (censusFn T { F with count := n }).1 ≤ (censusFn T F).1 ∧ (censusFn T { F with count := n }).2 ≤ (censusFn T F).2 := by
  obtain ⟨k, hk⟩ := Nat.le.dest h
  simp only [censusFn, ← hk, List.range_add, List.flatMap_append, List.filter_append, List.length_append]
  exact ⟨Nat.le_add_right _ _, Nat.le_add_right _ _⟩

end

/-! ### the per-call cache of a scope's source projections -/

/-- the shared cache while the references of scope `i` (sources `S`) are resolved -/
structure CacheInv (cache : SelCache) (i : Nat) (S : Schema) : Prop where
  /-- an entry of the current scope is what a miss would compute -/
  own : ∀ a v, ((i, a), v) ∈ cache → v = sourceSelects S a
  /-- no entry belongs to a later scope -/
  notLater : ∀ k v, (k, v) ∈ cache → k.1 ≤ i

/-- on entering scope `i` every entry is of an earlier scope -/
theorem CacheInv.of_earlier {cache : SelCache} {i : Nat} (S : Schema) (h : ∀ k v, (k, v) ∈ cache → k.1 < i) :
    CacheInv cache i S :=
  ⟨fun _ _ hm => absurd (h _ _ hm) (Nat.lt_irrefl i), fun k v hm => Nat.le_of_lt (h k v hm)⟩

theorem cachedSelects_sound (cache : SelCache) (i : Nat) (S : Schema) (a : String) (h : CacheInv cache i S) :
    (cachedSelects true cache i S a).2 = sourceSelects S a ∧ CacheInv (cachedSelects true cache i S a).1 i S := by
  simp only [cachedSelects, cacheKey, if_true]
  cases hl : cache.lookup (i, a) with
  | some sel =>
    obtain ⟨l₁, l₂, rfl, -⟩ := List.lookup_eq_some_iff.mp hl
    exact ⟨h.own a sel (List.mem_append_right _ List.mem_cons_self), h⟩
  | none =>
    -- the entry a miss adds is of scope `i` and is what a miss computes
    refine ⟨rfl, fun a' v hm => ?_, fun k v hm => ?_⟩
    · rcases List.mem_cons.mp hm with hm | hm
      · cases hm; rfl
      · exact h.own a' v hm
    · rcases List.mem_cons.mp hm with hm | hm
      · cases hm; exact Nat.le_refl i
      · exact h.notLater k v hm

theorem resolveRefs_sound (i : Nat) (S : Schema) :
    ∀ (refs : List (String × String)) (cache : SelCache), CacheInv cache i S →
      (resolveRefs true i S cache refs).2 = refs.map (fun (a, n) => selTy (sourceSelects S a) n)
      ∧ CacheInv (resolveRefs true i S cache refs).1 i S
  | [], cache, h => ⟨rfl, h⟩
  | (a, n) :: rest, cache, h => by
    have h1 := cachedSelects_sound cache i S a h
    have h2 := resolveRefs_sound i S rest _ h1.2
    simp only [resolveRefs, List.map_cons]
    exact ⟨by rw [h1.1, h2.1], h2.2⟩

/-- **Cache transparency.** With the scope in the key, one shared cache over any number of scopes resolves every reference
    exactly as its own scope's sources say — whatever aliases and column names recur. -/
theorem runScopes_transparent :
    ∀ (qs : List (Schema × List (String × String))) (cache : SelCache) (i : Nat),
      (∀ k v, (k, v) ∈ cache → k.1 < i) → runScopes true cache i qs = uncachedScopes qs
  | [], _, _, _ => rfl
  | (S, refs) :: rest, cache, i, hfresh => by
    have hs := resolveRefs_sound i S refs cache (.of_earlier S hfresh)
    have hnext : ∀ k v, (k, v) ∈ (resolveRefs true i S cache refs).1 → k.1 < i + 1 :=
      fun k v hm => Nat.lt_succ_of_le (hs.2.notLater k v hm)
    simp only [runScopes, uncachedScopes, List.map_cons]
    rw [hs.1, runScopes_transparent rest _ (i + 1) hnext]
    rfl

end SqlglotModel.Types
