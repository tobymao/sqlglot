/-
  C01 — the Paren around an operand that a generator prints in call form (`a % b` → `MOD(a, b)`): what the generator
  strips (`unnest`: every level, `stripOne`: one level) and what the parser puts back (`rewrap`).  Theorems in
  Properties/C01.lean.
-/
import SqlglotModel.Model.Expr

namespace SqlglotModel.ParseGen
open SqlglotModel.Expr

/-- `Expression.unnest()`: strip every enclosing Paren -/
def unnest : Expr → Expr
  | .paren e => unnest e
  | e => e

/-- `x.this if isinstance(x, exp.Paren) else x`: strip one Paren -/
def stripOne : Expr → Expr
  | .paren e => e
  | e => e

def isBin : Expr → Bool
  | .bin _ _ _ => true
  | _ => false

/-- what the parser rebuilds from the printed call argument: `build_mod` wraps a binary operand in one Paren, an
    argument printed with its own parentheses parses to a Paren -/
def rewrap (e : Expr) : Expr := if isBin e then .paren e else e

theorem unnest_idem (e : Expr) : unnest (unnest e) = unnest e := by
  fun_induction unnest e <;> simp_all [unnest]

theorem unnest_rewrap (e : Expr) : unnest (rewrap e) = unnest e := by
  unfold rewrap
  split <;> rfl

end SqlglotModel.ParseGen
