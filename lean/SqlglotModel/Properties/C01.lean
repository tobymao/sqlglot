/-
  C01 — Same-dialect round trip is a fixpoint (expression core, token level).
  Only property theorems, non-vacuity examples and counter-example witnesses live here.

  Full-strength statement (DESIGN §4 C01 `parse_gen`): for every tree `e` in the parser's image,
  `parse tbl (g tbl e ++ rest) = ok (e, rest)`.  It is FALSE of the current code (witnesses below), so what is proved
  is `parse_gen_partial`, for the faithful part of the image described by `Fits` (Proofs/ParseGen.lean): atoms, dotted
  columns, Paren, unary - ~ NOT, every binary class of the ladder tables, the range predicates IS [NOT] NULL, [NOT] IN
  (list), [NOT] BETWEEN, [NOT] LIKE (with the `negate` flag; `NOT IN` / `NOT BETWEEN` / `IS NOT NULL` under
  NORMALIZE_NOT_NULL are `Not` nodes, covered through `Fits.not`; the Paren the parser inserts after a negated predicate
  is an ordinary `Fits.paren`) and calls of unknown functions with argument lists — any nesting, size, dialect table.
  Not proved: the parser-image direction `parse ts = ok e → Fits e ∨ <defect shape>` (checked per sample by the
  correspondence stage: the model re-parses every printed tree and the harness counts same / different trees).
-/
import SqlglotModel.Proofs.ParseGenTables
import SqlglotModel.Proofs.TimeFmt
import SqlglotModel.Proofs.Unnest
import SqlglotModel.Generated.C01
import SqlglotModel.Model.Engine

namespace SqlglotModel.Properties.C01
open SqlglotModel.Expr SqlglotModel.Parse SqlglotModel.Gen SqlglotModel.ParseGen SqlglotModel.Generated.C01

/-- printing a faithful tree and parsing the tokens again (followed by anything that cannot glue to it) gives the
    tree back and leaves the rest — for the real fuel `parse` uses, every table, every tree size -/
theorem parse_gen_partial (tbl : Tables) {B : List String} {e : Expr}
    (h : Fits tbl (.lad .outer tbl.outer) B e) (rest : Toks) (hr : headOk B rest) :
    parse tbl (g tbl e ++ rest) = .ok (e, rest) :=
  parse_fits tbl h rest hr

/-- tree equal on re-parse and printed tokens idempotent -/
theorem roundtrip_fixpoint (tbl : Tables) {B : List String} {e : Expr}
    (h : Fits tbl (.lad .outer tbl.outer) B e) :
    parse tbl (g tbl e) = .ok (e, []) ∧
      ∀ e', parse tbl (g tbl e) = .ok (e', []) → g tbl e' = g tbl e := by
  have h1 : parse tbl (g tbl e) = .ok (e, []) := by
    simpa using parse_gen_partial tbl h [] trivial
  refine ⟨h1, ?_⟩
  intro e' h2
  rw [h1] at h2
  cases h2
  rfl

/-- FINITE DECISION TABLE, decided completely (look-ups only): in every generated table each operator of the generator is
    listed for its class at some level of a ladder, no tighter level and no blocked set claims its token, and `)` and `,`
    are not operators.  This is what ties a generated table to `Fits` (`chain_fits_top`, `closers_not_blocked`) -/
theorem generated_tables_placed : ∀ t ∈ distinctTables, tablesPlaced t = true := by decide +kernel

/-- in every generated table (one per distinct dialect configuration) each operator text of the generator lexes to a
    token that the parser maps back to the same class at a level where the printed left-nested / parenthesised sample
    re-parses to itself; `)` and `,` are not operators.  The kernel does not run the parser on the samples: what it
    decides is `generated_tables_placed`, and that the sample of a placed operator re-parses to itself is the round-trip
    theorem (`tablesOk_of_placed`) -/
theorem generated_tables_ok : ∀ t ∈ distinctTables, tablesOk t = true :=
  fun t ht => tablesOk_of_placed t (generated_tables_placed t ht)

/-- non-vacuity: `t."b" + (-x * 2)` is a faithful tree of the base tables (TERM level, Paren, unary minus, FACTOR level) -/
example : ∃ B, Fits baseTables (.lad .outer baseTables.outer) B
    (.bin "Add" (.col [("t", false), ("b", true)])
      (.paren (.bin "Mul" (.neg (.col [("x", false)])) (.num "2")))) :=
  have hmul := chain_fits_top baseTables (cls := "Mul") (ys := [.num "2"]) (by decide +kernel)
    (.neg (.col ("x", false) [] (by decide))) (List.forall_mem_singleton.mpr (.num "2"))
  ⟨_, chain_fits_top baseTables (cls := "Add") (ys := [_]) (by decide +kernel) (.col _ _ (by decide))
    (List.forall_mem_singleton.mpr
      (.paren hmul (closers_not_blocked (generated_tables_ok _ (List.mem_cons_self ..))).2))⟩

/-- non-vacuity at the range level: `x NOT LIKE F(1, y) ` (negate flag, function call with an argument list) and
    `a IN (1, y) IS NULL` (IN list, chained predicate) are faithful trees of the base tables -/
example : ∃ B, Fits baseTables (.lad .outer baseTables.outer) B
    (.like true (.col [("x", false)]) (.func "F" [.num "1", .col [("y", false)]])) :=
  ⟨_, liftTopR _ (.rLike true (.rOperand (atomLower _ (.col ("x", false) [] (by decide)))) (by decide +kernel)
    (by decide +kernel)
    (atomLower _ (.func "F" _ (fun _ => _) (by simp)
      (List.forall_mem_cons.mpr ⟨atom_fits_top _ (.num "1"),
        List.forall_mem_singleton.mpr (atom_fits_top _ (.col _ _ (by decide)))⟩)
      (fun _ _ => closers_not_blocked (generated_tables_ok _ (List.mem_cons_self ..)))))
    (gI_eq_g _ trivial) (gI_eq_g _ trivial))⟩

example : ∃ B, Fits baseTables (.lad .outer baseTables.outer) B
    (.isNull false (.inList (.col [("a", false)]) [.num "1", .col [("y", false)]])) :=
  ⟨_, liftTopR _ (.rIsNull false (.rIn _ (fun _ => _) (.rOperand (atomLower _ (.col ("a", false) [] (by decide))))
    (by decide +kernel) (by simp)
    (List.forall_mem_cons.mpr ⟨atom_fits_top _ (.num "1"),
      List.forall_mem_singleton.mpr (atom_fits_top _ (.col _ _ (by decide)))⟩)
    (fun _ _ => closers_not_blocked (generated_tables_ok _ (List.mem_cons_self ..)))) (by decide) (by intro h; cases h)
    (gI_eq_g _ trivial))⟩

/-- KNOWN DEFECT (i), DESIGN §6: a negated range predicate as LEFT operand.  `a NOT IN (1) < b` parses to
    LT(Not(In)), prints as `NOT a IN (1) < b`, which re-parses as Not(LT(In, b)): the text is a fixpoint, the tree is not -/
theorem parse_gen_counterexample_neg_range :
    roundTrip baseTables [⟨"VAR", "a"⟩, ⟨"NOT", "NOT"⟩, ⟨"IN", "IN"⟩, ⟨"L_PAREN", "("⟩, ⟨"NUMBER", "1"⟩, ⟨"R_PAREN", ")"⟩,
        ⟨"LT", "<"⟩, ⟨"VAR", "b"⟩]
      = some ("(bin LT (not (in (col u:a) (num \"1\"))) (col u:b))", "NOT a IN (1) < b",
              some "(not (bin LT (in (col u:a) (num \"1\")) (col u:b)))") := by decide +kernel

/-- KNOWN DEFECT (ii), DESIGN §6: `Generator.binary` computes the operator text once per flattened same-class spine.
    `a LIKE b NOT LIKE c` prints both operators as NOT LIKE; the re-parse then wraps the first in a Paren -/
theorem parse_gen_counterexample_like_chain :
    roundTrip baseTables [⟨"VAR", "a"⟩, ⟨"LIKE", "LIKE"⟩, ⟨"VAR", "b"⟩, ⟨"NOT", "NOT"⟩, ⟨"LIKE", "LIKE"⟩, ⟨"VAR", "c"⟩]
      = some ("(notlike (like (col u:a) (col u:b)) (col u:c))", "a NOT LIKE b NOT LIKE c",
              some "(notlike (paren (notlike (col u:a) (col u:b))) (col u:c))") := by decide +kernel

/-- the guard shapes extracted from `neg_sql` / `bitwisenot_sql` of every dialect's generator are TEXT-based
    (finite table, decided completely): the space decision looks at the operand's generated text -/
theorem generated_guards_ok : ∀ t ∈ distinctTables, t.negGuard = .text ∧ t.bnotGuard = .text := by decide +kernel

/-- with the text-based guard, whenever the printed operand starts with `-` the minus sign is kept apart from it,
    for EVERY operand (also calls a dialect prints as an infix operator with a negated first argument) -/
theorem neg_text_guard_separates (tbl : Tables) (e : Expr) (hg : tbl.negGuard = .text)
    (hs : startsDash tbl (gen tbl e) = true) :
    sql tbl (.neg e) = "-" ++ (" " ++ sql tbl e) := by
  simp only [sql, gen, genI, hg, guardSep] at hs ⊢
  simp [hs, text, printTok, kw]

/-- same for `~` -/
theorem bnot_text_guard_separates (tbl : Tables) (e : Expr) (hg : tbl.bnotGuard = .text)
    (hs : startsTilde tbl (gen tbl e) = true) :
    sql tbl (.bnot e) = "~" ++ (" " ++ sql tbl e) := by
  simp only [sql, gen, genI, hg, guardSep] at hs ⊢
  simp [hs, text, printTok, kw]

example : startsDash baseTables (gen baseTables (.bin "Mod" (.neg (.col [("a", false)])) (.col [("b", false)]))) = true := by
  decide +kernel

/-- the NODE-based guard (`isinstance(operand, exp.Neg)`) is not enough: an operand that is not a Neg but whose text
    starts with `-` (here `-a % b`, the way most dialects print `MOD(-a, b)`) glues into `--`, a line comment -/
theorem neg_node_guard_counterexample :
    sql { baseTables with negGuard := .node } (.neg (.bin "Mod" (.neg (.col [("a", false)])) (.col [("b", false)])))
      = "--a % b" ∧
    sql baseTables (.neg (.bin "Mod" (.neg (.col [("a", false)])) (.col [("b", false)]))) = "- -a % b" ∧
    sql { baseTables with negGuard := .node } (.neg (.neg (.col [("a", false)]))) = "- -a" := by decide +kernel

/-- without a guard `~ ~ a` printed `~~a`, one LIKE token (the defect fixed in the source by the text-based guard) -/
theorem bitwisenot_glue_witness :
    sql { baseTables with bnotGuard := .none } (.bnot (.bnot (.col [("a", false)]))) = "~~a" ∧
    sql baseTables (.bnot (.bnot (.col [("a", false)]))) = "~ ~a" ∧
    sql baseTables (.neg (.neg (.col [("a", false)]))) = "- -a" := by decide +kernel

/-- every function found by ast that calls `annotate_types(x, …)` and then tests `y.is_type(…)` tests the expression it
    annotated (finite table, decided completely): annotating a copy and testing the original would leave the type test on
    an un-annotated node (e.g. TO_CHAR choosing TimeToStr vs ToChar by the type of its first argument) -/
theorem generated_annotate_checks_same_expr : ∀ c ∈ annotateTypeChecks, c.2 = true := by decide +kernel

/-- every generator site found by ast that unwraps a Paren around an operand strips ALL levels (`unnest()`) or keeps the
    Paren; none strips exactly one level (finite table, decided completely) -/
theorem generated_paren_unwraps_all : ∀ s ∈ parenUnwrapSites, s.2 ≠ Engine.Unwrap.one := by decide +kernel

/-- print ∘ parse ∘ print = print for the strip-all printer: the operand printed by the first pass (`unnest e`), whatever
    Paren the parser puts back around it (`rewrap`, or any number of explicit levels), is printed the same again -/
theorem unnest_print_parse_fixpoint (e : Expr) :
    unnest (rewrap (unnest e)) = unnest e ∧ unnest (.paren (unnest e)) = unnest e ∧ unnest (unnest e) = unnest e :=
  ⟨(unnest_rewrap _).trans (unnest_idem e), unnest_idem e, unnest_idem e⟩

example : unnest (.paren (.paren (.bin "Add" (.col [("a", false)]) (.num "1")))) = .bin "Add" (.col [("a", false)]) (.num "1") := rfl

/-- the strip-one printer is not idempotent on an operand with two redundant levels: `((a + 1)) % 7` prints
    `MOD((a + 1), 7)`; that argument re-parses to Paren(a + 1), which the second pass prints as `MOD(a + 1, 7)` -/
theorem strip_one_level_counterexample :
    sql baseTables (stripOne (.paren (.paren (.bin "Add" (.col [("a", false)]) (.num "1"))))) = "(a + 1)" ∧
    sql baseTables (stripOne (stripOne (.paren (.paren (.bin "Add" (.col [("a", false)]) (.num "1")))))) = "a + 1" ∧
    sql baseTables (unnest (.paren (.paren (.bin "Add" (.col [("a", false)]) (.num "1"))))) = "a + 1" := by decide +kernel

/-- FINITE TABLE, decided completely: on every enumerated statement shape the model's two predicates give what the
    real `_tokenize_as_hive` / `_generate_as_hive` give on the shape's sample statement (re-evaluated every run) -/
theorem athena_engine_model_matches_source :
    ∀ r ∈ athenaShapes, Engine.tokHive r.2.1 = r.2.2.1 ∧ Engine.genHive r.2.1 = r.2.2.2 := by decide +kernel

/-- for EVERY `CREATE [OR REPLACE] TABLE … AS <query>` shape — plain SELECT, set operation, parenthesised query, WITH,
    SELECT over a subquery; with or without another SELECT elsewhere — both sides pick the same engine (Trino) -/
theorem athena_engine_choice_agrees (s : Engine.Shape) (h1 : s.first = .create) (h2 : s.kind = .table)
    (hb : Engine.bodyIsQuery s.body = true) : Engine.tokHive s = Engine.genHive s ∧ Engine.genHive s = false := by
  obtain ⟨f, k, o, b, n⟩ := s
  simp only at h1 h2 hb
  subst h1 h2
  -- a query body brings a SELECT token, so the tokenizer does not pick Hive; the generator's guard sees the Query
  have hsel : Engine.hasSelectToken ⟨.create, .table, o, b, n⟩ = true := by
    cases b <;> simp_all [Engine.hasSelectToken, Engine.bodyIsQuery]
  simp [Engine.tokHive, Engine.genHive, Engine.genHiveWith, Engine.bodyPasses, hsel, hb]

example : Engine.bodyIsQuery (Engine.Shape.mk .create .table false .setop false).body = true := rfl

/-- the same obligation directly on the data extracted from the source: every enumerated CTAS-over-a-query sample is
    tokenized and generated by the same engine (a generator-side guard narrower than the tokenizer's breaks the build) -/
theorem generated_athena_ctas_engines_agree :
    ∀ r ∈ athenaShapes, r.2.1.first = .create → r.2.1.kind = .table → Engine.bodyIsQuery r.2.1.body = true →
      r.2.2.1 = r.2.2.2 := by decide +kernel

/-- KNOWN clean-tree mismatches of the two decisions (statements printed by one engine and re-read by the other):
    a non-CTAS CREATE TABLE containing a SELECT token (tokenizer: Trino, generator: Hive) and
    `CREATE OR REPLACE VIEW … AS VALUES …` (tokenizer: Hive — the second token is OR and there is no SELECT —, generator: Trino) -/
theorem athena_engine_mismatch_witness :
    Engine.tokHive ⟨.create, .table, false, .none, true⟩ = false ∧ Engine.genHive ⟨.create, .table, false, .none, true⟩ = true ∧
    Engine.tokHive ⟨.create, .view, true, .values, false⟩ = true ∧ Engine.genHive ⟨.create, .view, true, .values, false⟩ = false := by
  decide

/-- if the generator's guard accepted only `exp.Select` bodies, a CTAS over a set operation or a parenthesised query
    would be read by Trino and printed by Hive -/
theorem athena_select_only_variant_witness :
    Engine.tokHive ⟨.create, .table, false, .setop, false⟩ = false ∧
    Engine.genHiveWith .selectOnly ⟨.create, .table, false, .setop, false⟩ = true ∧
    Engine.genHiveWith .selectOnly ⟨.create, .table, false, .paren, false⟩ = true ∧
    Engine.genHiveWith .selectOnly ⟨.create, .table, false, .select, false⟩ = false := by decide

/-- `format_time` returns its input when no character of it starts a mapping key -/
theorem format_time_no_key_start (m : List (List Char × List Char)) (s : List Char) (hs : s ≠ [])
    (h : TimeFmt.NoKeyStart (m.map (·.1)) s) : TimeFmt.formatTimeL s m = some (some s) :=
  TimeFmt.formatTimeL_id m s hs h

/-- `format_time(s, {}) == s` for non-empty `s` (`format_time("")` is `None`, mirrored by the outer `none`) -/
theorem format_time_id (s : List Char) (hs : s ≠ []) : TimeFmt.formatTimeL s [] = some (some s) :=
  TimeFmt.formatTimeL_id [] s hs (by intro c _ k hk; simp at hk)

example : TimeFmt.formatTimeL "%Y-%m".toList [] = some (some "%Y-%m".toList) := format_time_id _ (by decide)

/-- the base dialect's time mapping is empty (so `format_time_id` is the base-dialect clause), and on the generated
    base INVERSE mapping a format without `%` comes back unchanged -/
theorem format_time_base : baseTimeMapping = [] ∧
    ∀ s : List Char, s ≠ [] → '%' ∉ s →
      TimeFmt.formatTimeL s (baseInverseTimeMapping.map fun p => (p.1.toList, p.2.toList)) = some (some s) := by
  refine ⟨by decide +kernel, ?_⟩
  intro s hs hp
  apply TimeFmt.formatTimeL_id _ s hs
  intro c hc k hk
  -- every key of the generated mapping starts with `%`
  have hk' : k.head? = some '%' := by
    revert k
    decide +kernel
  intro hcontra
  rw [hk'] at hcontra
  cases hcontra
  exact hp hc

end SqlglotModel.Properties.C01
