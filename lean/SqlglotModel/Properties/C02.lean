/-
  C02 — Transpilation preserves query results (SQLite <-> DuckDB): the decision logic.
  Only property theorems, non-vacuity examples and counter-example witnesses live here.

  PARTIAL on the engine side: what SQLite 3.40 / DuckDB 1.5 do (`defaultNullsFirst`, `divV`, casts) enters as
  assumption tables in Model/Transpile.lean that the harness validates against the installed engines on every run.
  What is proved: for ALL row lists / ALL integer operands, parse-then-generate (as mirrored from the source and
  checked exhaustively against `sqlglot.transpile`) preserves the meaning under those tables — and where today's
  code does not (division), a preserved class `DivOK` plus one witness per excluded class.
-/
import SqlglotModel.Proofs.Transpile
import SqlglotModel.Generated.C02

namespace SqlglotModel.Properties.C02
open SqlglotModel.Bag SqlglotModel.Transpile
open SqlglotModel.Generated.C02

/-- **ORDER BY, general form.** For every source / target NULL_ORDERING class, every NULL_ORDERING_SUPPORTED value,
    every ORDER BY list (any number of keys, any key expressions, each of the nine spellings) and EVERY row list:
    sorting by what the generator emits (read on an engine of the target class) equals sorting by the source text
    (read on an engine of the source class).  Decision core: 243 cases (`decision_core`: the parser stores the
    source's NULL placement, the generator reproduces any stored placement on any target class); lifted to all rows
    by `lift_effective` + `sortBy_congr`. -/
theorem order_preserved (src dst : NullOrdering) (sup : Option Bool) (ob : OrderBy) (rows : Table) :
    sortBy (dstKeys src dst sup ob) rows = sortBy (srcKeys src ob) rows :=
  sortBy_congr _ _ (keys_preserved src dst sup ob) rows

/-- the four dialect pairs, with the classes and support flags read from the live classes on this run -/
theorem order_preserved_engines (s d : Engine) (ob : OrderBy) (rows : Table) :
    sortBy (dstKeys (nullOrdering s) (nullOrdering d) (nullOrderingSupported d) ob) rows
      = sortBy (srcKeys (nullOrdering s) ob) rows :=
  order_preserved _ _ _ ob rows

/-- TABLE FACT (finite, decided completely): the dialects' declared NULL_ORDERING is the class the engines were
    observed to have (assumption A-engine: SQLite treats NULL as smallest, DuckDB puts NULLs last in both
    directions).  A changed declaration breaks this obligation even though `order_preserved` stays self-consistent. -/
theorem null_ordering_matches_engines :
    nullOrdering .sqlite = .small ∧ nullOrdering .duckdb = .last ∧
    nullOrderingSupported .sqlite = some true ∧ nullOrderingSupported .duckdb = some true := by decide +kernel

example : (dstKeys .small .last (some true) [(⟨none, none⟩, col 0)]).map (fun k => (k.desc, k.nullsFirst))
    = [(false, true)] := by decide +kernel

/-- non-vacuity / necessity: had DuckDB's dialect declared `nulls_are_small` (so no NULLS clause is printed for
    `ORDER BY x`) while the engine puts NULLs last, a NULL and a non-NULL row would compare the other way round -/
theorem order_needs_matching_null_ordering :
    cmpKeys ((genOrdered .small (some true) (parseOrdered .small ⟨none, none⟩)).map (keySem .last (col 0)))
        [.null] [.int 1]
      ≠ cmpKey (specSem .small (col 0) ⟨none, none⟩) [.null] [.int 1] := by decide +kernel

/-- **The generator's NULLS decision does not depend on what kind of expression the key is** (column, comparison,
    LIKE, IN, BETWEEN, arithmetic, CASE, function, IS NULL, NOT …).  Model statement; the harness enumerates the key
    kind against the real `ordered_sql` (top level and window specs), so a step that clears the clause for
    "predicate" keys shows up as a correspondence failure, and `order_preserved` (which quantifies over EVERY key
    function `Row → Val`) is the reason the kind must not matter. -/
theorem genOrdered_independent_of_key (k1 k2 : KeyKind) (no : NullOrdering) (sup : Option Bool) (o : Ordered) :
    genOrderedFor k1 no sup o = genOrderedFor k2 no sup o := rfl

/-- NECESSITY: a comparison key over a nullable operand IS nullable.  Key `a > 1`, SQLite source `ORDER BY a > 1`
    (NULL keys first), DuckDB target: without the NULLS FIRST clause a NULL-key row and a FALSE-key row compare the
    other way round -/
theorem order_predicate_key_needs_nulls_clause :
    cmpKeys ([(⟨.expr, none, none⟩ : OutKey)].map (keySem .last (fun r => b3Val (gt3 (col 0 r) (.int 1)))))
        [.null] [.int 0]
      ≠ cmpKey (specSem .small (fun r => b3Val (gt3 (col 0 r) (.int 1))) ⟨none, none⟩) [.null] [.int 0] ∧
    cmpKeys ((genOrderedFor .comparison .last (some true) (parseOrdered .small ⟨none, none⟩)).map
          (keySem .last (fun r => b3Val (gt3 (col 0 r) (.int 1))))) [.null] [.int 0]
      = cmpKey (specSem .small (fun r => b3Val (gt3 (col 0 r) (.int 1))) ⟨none, none⟩) [.null] [.int 0] :=
  by decide +kernel

/-- TABLE FACT (decided completely against the token sets read from the live classes): SQLiteParser.ARITHMETIC_TOKENS
    contains every operator of the BITWISE, TERM and FACTOR tiers (all bind looser than `||` in SQLite and tighter
    or equal elsewhere), so a `||` chain next to any of them is captured as a Paren — on both sides -/
theorem dpipe_paren_tokens_complete :
    (∀ t ∈ tierBitwise ++ tierTerm ++ tierFactor, t ≠ "COLLATE" → t ∈ sqliteArithmeticTokens) ∧
    (∀ t ∈ ["AMP", "PIPE", "PLUS", "DASH", "STAR", "SLASH", "MOD"],
        dpipeNeedsParen sqliteArithmeticTokens (some t) none true = true ∧
        dpipeNeedsParen sqliteArithmeticTokens none (some t) true = true) ∧
    factorOperandShapeOk = true := by decide +kernel

/-- the CASE-WHEN-IS-NULL simulation branch is exercised by the general theorem (target without NULLS support) -/
example : genOrdered .small none (parseOrdered .last ⟨some true, some true⟩)
    = [⟨.isNullFlag, some true, none⟩, ⟨.expr, some true, none⟩] := by decide +kernel

/-- what `transpile(read=src, write=dst)` turns `l / r` into, by operand annotation (flags from the live classes) -/
abbrev transDiv (src dst : Engine) (la ra : Ann) : DEx :=
  genDiv (typedDivision dst) (safeDivision dst) (parseDiv (typedDivision src) (safeDivision src)) la ra

/-- **Division.** For the four pairs, every operand annotation and ALL integer-or-NULL operand values in the class
    `DivOK` (identity pairs: everything; DuckDB->SQLite: non-zero divisor; SQLite->DuckDB: a REAL-annotated operand,
    or an exact quotient, or a zero divisor outside the INT/INT-annotated shape) the transpiled division evaluates
    on the target engine to the value of `l / r` on the source engine. -/
theorem div_preserved (src dst : Engine) (la ra : Ann) (l r : Option Int)
    (h : DivOK src dst la ra l r = true) :
    DV.same (evalDiv dst (transDiv src dst la ra) (operandVal la l) (operandVal ra r))
            (evalDiv src (.div .l .r) (operandVal la l) (operandVal ra r)) = true := by
  have hs : transDiv src dst la ra ∈ genDivShapes := genDiv_mem_shapes ..
  match l, r with
  | none, r =>
    -- a NULL operand makes both sides NULL
    rw [show operandVal la none = .null from rfl, evalDiv_null_left _ _ hs _ (operandVal_ne_err ra r),
      evalDiv_null_left _ _ (by decide) _ (operandVal_ne_err ra r)]
    rfl
  | some lv, none =>
    rw [show operandVal ra none = .null from rfl, evalDiv_null_right _ _ hs, evalDiv_null_right _ _ (by decide)]
    rfl
  | some lv, some rv =>
    cases src <;> cases dst
    · -- same dialect: the text is `l / r` again
      exact same_refl _
    · -- SQLite → DuckDB
      rw [show transDiv .sqlite .duckdb la ra = _ from genDiv_toDuckdb la ra]
      split
      · -- `CAST(l / r AS BIGINT)`: DuckDB rounds where SQLite truncates, so only exact quotients agree
        obtain ⟨rfl, rfl⟩ := ‹la = .int ∧ ra = .int›
        obtain ⟨hz, hm⟩ : rv ≠ 0 ∧ lv % rv = 0 := by simpa [DivOK] using h
        simp only [evalDiv]
        rw [divV_true .duckdb _ _ _ _ hz (.inl rfl), divV_sqlite_trunc _ _ _ _ hz (by decide) (by decide)]
        simp [castBigintV, castBigintNum, hm, same_refl]
      · -- `l / NULLIF(r, 0)`
        simp only [evalDiv]
        rw [nullif0V_operandVal]
        by_cases hz : rv = 0
        · subst hz
          rw [if_pos rfl, divV_sqlite_zero, divV_operand_null]
          rfl
        · rw [if_neg hz, divV_true .duckdb _ _ _ _ hz (.inl rfl)]
          by_cases hr : la = .real ∨ ra = .real
          · rw [divV_true .sqlite _ _ _ _ hz (.inr hr)]
            exact same_refl _
          · -- integer operands: SQLite truncates, so the quotient must be exact
            have hm : lv % rv = 0 := by simpa [DivOK, hz, hr] using h
            rw [divV_sqlite_trunc _ _ _ _ hz (fun e => hr (.inl e)) (fun e => hr (.inr e))]
            simpa [DV.same, DV.num?] using (Int.tdiv_mul_cancel (Int.dvd_of_emod_eq_zero hm)).symm
    · -- DuckDB → SQLite: `CAST(l AS REAL) / r` unless an operand is REAL-typed already; true division on both sides
      have hz : rv ≠ 0 := by simpa [DivOK] using h
      rw [show transDiv .duckdb .sqlite la ra = _ from genDiv_toSqlite la ra]
      split
      · simp only [evalDiv]
        rw [divV_true .sqlite _ _ _ _ hz (.inr ‹_›), divV_true .duckdb _ _ _ _ hz (.inl rfl)]
        exact same_refl _
      · simp only [evalDiv]
        rw [castDoubleV_operandVal, divV_true .sqlite _ _ _ _ hz (.inr (.inl rfl)),
          divV_true .duckdb _ _ _ _ hz (.inl rfl)]
        exact same_refl _
    · exact same_refl _

example : DivOK .sqlite .duckdb .none .none (some 6) (some 3) = true := by decide +kernel
example : DivOK .duckdb .sqlite .int .none (some 7) (some 2) = true := by decide +kernel

/-- KNOWN (DESIGN §6): SQLite -> DuckDB, untyped `id / id` over integer columns, 7 / 3: SQLite yields 2, the
    transpiled `l / NULLIF(r, 0)` yields 7/3 on DuckDB -/
theorem div_untyped_sqlite_to_duckdb_counterexample :
    transDiv .sqlite .duckdb .none .none = .div .l (.nullif0 .r) ∧
    evalDiv .sqlite (.div .l .r) (.int 7) (.int 3) = .int 2 ∧
    evalDiv .duckdb (transDiv .sqlite .duckdb .none .none) (.int 7) (.int 3) = .real 7 3 ∧
    DV.same (.real 7 3) (.int 2) = false := by decide +kernel

/-- clean-tree finding: with both operands INTEGER-typed the result is `CAST(l / r AS BIGINT)`, which ROUNDS on
    DuckDB: 7 / 2 is 3 on SQLite and 4 on DuckDB -/
theorem div_typed_sqlite_to_duckdb_rounding_counterexample :
    transDiv .sqlite .duckdb .int .int = .castBigint (.div .l .r) ∧
    evalDiv .sqlite (.div .l .r) (.int 7) (.int 2) = .int 3 ∧
    evalDiv .duckdb (transDiv .sqlite .duckdb .int .int) (.int 7) (.int 2) = .int 4 := by decide +kernel

/-- clean-tree finding: the same branch drops the NULLIF wrapper, so a zero divisor is a conversion error on
    DuckDB where SQLite yields NULL -/
theorem div_typed_sqlite_to_duckdb_zero_counterexample :
    evalDiv .sqlite (.div .l .r) (.int 7) (.int 0) = .null ∧
    evalDiv .duckdb (transDiv .sqlite .duckdb .int .int) (.int 7) (.int 0) = .err := by decide +kernel

/-- KNOWN (DESIGN §6): DuckDB -> SQLite with a zero divisor: DuckDB 1.5 yields inf, `CAST(l AS REAL) / r` yields
    NULL on SQLite -/
theorem div_duckdb_to_sqlite_zero_counterexample :
    transDiv .duckdb .sqlite .none .none = .div (.castDouble .l) .r ∧
    evalDiv .duckdb (.div .l .r) (.int 2) (.int 0) = .inf false ∧
    evalDiv .sqlite (transDiv .duckdb .sqlite .none .none) (.int 2) (.int 0) = .null := by decide +kernel

/-- TABLE FACT: the flags `div_preserved` was proved for are the ones the classes carry today -/
theorem division_flags_table :
    typedDivision .sqlite = true ∧ safeDivision .sqlite = true ∧
    typedDivision .duckdb = false ∧ safeDivision .duckdb = false ∧
    dpipeIsStringConcat .sqlite = true ∧ dpipeIsStringConcat .duckdb = true := by decide +kernel

/-- LIMIT n [OFFSET o], LIMIT o, n, OFFSET o: re-spelling keeps the selected slice of ANY row list -/
theorem limit_offset_preserved (f : LimitForm) (t : Table) :
    limitSem (genLimit (parseLimit f)) t = limitSem f t := limit_roundtrip f t

example : limitSem (genLimit (parseLimit (.comma 1 2))) [[.int 1], [.int 2], [.int 3], [.int 4]]
    = [[.int 2], [.int 3]] := by decide +kernel

/-- `eliminate_semi_and_anti_joins`: SEMI JOIN = WHERE EXISTS (correlated subquery), for all tables and any
    3-valued ON condition -/
theorem semi_join_as_exists (on : Row → Row → B3) (l r : Table) :
    semiAsExists on l r = semiJoin on l r :=
  select_exists3_eq_semiJoin on l r

/-- ANTI JOIN = WHERE NOT EXISTS -/
theorem anti_join_as_not_exists (on : Row → Row → B3) (l r : Table) :
    antiAsNotExists on l r = antiJoin on l r :=
  select_not_exists3_eq_antiJoin on l r

example : semiJoin (fun a b => eq3 (col 0 a) (col 0 b)) [[.int 1], [.null], [.int 2]] [[.int 1], [.null]]
    = [[.int 1]] := by decide +kernel
example : antiJoin (fun a b => eq3 (col 0 a) (col 0 b)) [[.int 1], [.null], [.int 2]] [[.int 1], [.null]]
    = [[.null], [.int 2]] := by decide +kernel

/-- `eliminate_qualify`: QUALIFY = filter on the window column computed in a subquery, then project the original
    columns; the window function is arbitrary.  Hypothesis: every input row has the declared width. -/
theorem qualify_as_filter_on_window_column (w : Table → Row → Val) (cond : Row → B3) (proj : Row → Row)
    (width : Nat) (t : Table) (hw : ∀ r ∈ t, r.length = width) :
    qualifyRewritten w cond proj width t = qualifySem w cond proj t := by
  simp only [qualifyRewritten, qualifySem, project, select, List.filter_map, List.map_map]
  refine List.map_congr_left fun r hr => ?_
  simp [Function.comp, hw r (List.mem_filter.mp hr).1]

example : qualifySem (fun t _ => .int t.length) (fun r => gt3 (col 1 r) (.int 1)) id [[.int 5], [.int 6]]
    = [[.int 5], [.int 6]] := by decide +kernel

/-- clean-tree finding (`eliminate_qualify` keeps ORDER BY / LIMIT *inside* the subquery it filters): QUALIFY then
    LIMIT is not LIMIT then filter — two rows, window value = the first column, condition `w > 1`, LIMIT 1 -/
theorem qualify_limit_does_not_commute :
    limitOffset (some 1) 0 (qualifySem (fun _ r => col 0 r) (fun r => gt3 (col 1 r) (.int 1)) id [[.int 1], [.int 2]])
      ≠ qualifyRewritten (fun _ r => col 0 r) (fun r => gt3 (col 1 r) (.int 1)) id 1
          (limitOffset (some 1) 0 [[.int 1], [.int 2]]) := by decide +kernel

/-- **DuckDB -> SQLite, chains of ANY length** `o₀ / o₁ / … / o_k` without parentheses over integer (untyped or
    INTEGER-cast) operands with non-zero divisors: the generated text — one CAST per level, because the wrapped left
    operand leaves `Generator.binary`'s flattening and goes back through `div_sql` — evaluates on SQLite to exactly
    the number DuckDB computes.  (Flags from the live classes; the instance `chainT (k + 1)` of `toSqlite_eval`, which
    covers every tree the parser builds.) -/
theorem div_chain_preserved (anns : Nat → Ann) (h : ∀ i, anns i ≠ .real) (v : Nat → Int) (k : Nat)
    (hz : ∀ i, 1 ≤ i → i ≤ k + 1 → v i ≠ 0) :
    evalC .sqlite (fun i => .int (v i))
        (genT (typedDivision .sqlite) (safeDivision .sqlite) (parseDiv (typedDivision .duckdb) (safeDivision .duckdb))
          anns (chainT (k + 1)))
      = evalC .duckdb (fun i => .int (v i)) (plainT (chainT (k + 1))) := by
  obtain ⟨hp, hd⟩ := chainT_wellFormed v (k + 1) hz
  exact toSqlite_eval anns h _ (fun _ => rfl) _ hp hd

example : showCEx (genT true true ⟨false, false⟩ (fun _ => .none) (chainT 2))
    = "(div (double (div (double o0) o1)) o2)" := by decide +kernel

/-- a single division in the tree model is the single-node model `genDiv`: `genT_single`, which holds for every
    annotation function, printed for the five shapes `genDiv` can return -/
theorem div_tree_single_is_genDiv :
    ∀ dt ∈ [true, false], ∀ ds ∈ [true, false], ∀ st ∈ [true, false], ∀ ss ∈ [true, false],
    ∀ la ∈ [Ann.none, .int, .real], ∀ ra ∈ [Ann.none, .int, .real],
      showCEx (genT dt ds ⟨st, ss⟩ (fun i => if i = 0 then la else ra) (chainT 1))
        = (match genDiv dt ds ⟨st, ss⟩ la ra with
           | .div .l .r => "(div o0 o1)"
           | .div .l (.nullif0 .r) => "(div o0 (nullif0 o1))"
           | .div (.castDouble .l) .r => "(div (double o0) o1)"
           | .div (.castDouble .l) (.nullif0 .r) => "(div (double o0) (nullif0 o1))"
           | .castBigint (.div .l .r) => "(bigint (div o0 o1))"
           | _ => "?") := by
  intro dt _ ds _ st _ ss _ la _ ra _
  rw [genT_single, if_pos rfl, if_neg Nat.one_ne_zero]
  have h := genDiv_mem_shapes dt ds ⟨st, ss⟩ la ra
  generalize genDiv dt ds ⟨st, ss⟩ la ra = e at h ⊢
  revert e
  decide +kernel

/-- the seeded regression "skip the cast when the left operand is itself a Div" as an UNREPAIRED VARIANT: the inner
    division then stays inside `binary`'s flattened spine, never sees `div_sql`, and runs as integer division:
    7 / 2 / 2 is 7/4 on DuckDB and 1 on SQLite -/
theorem div_chain_inner_cast_skipped_counterexample :
    evalC .duckdb (fun i => .int ([7, 2, 2].getD i 0)) (plainT (chainT 2)) = .real 7 4 ∧
    evalC .sqlite (fun i => .int ([7, 2, 2].getD i 0)) (.div (.div (.opnd 0) (.opnd 1)) (.opnd 2)) = .int 1 ∧
    evalC .sqlite (fun i => .int ([7, 2, 2].getD i 0)) (genT true true ⟨false, false⟩ (fun _ => .none) (chainT 2))
      = .real 7 4 := by decide +kernel

/-- clean-tree finding (DuckDB -> SQLite): a REAL-typed RIGHT operand suppresses the cast of the left operand; when
    that left operand is a Div it is flattened and its division runs on integers: `a / b / CAST(c AS REAL)` with
    (7, 2, 1) is 3.5 on DuckDB and 3 on SQLite -/
theorem div_chain_real_right_operand_counterexample :
    showCEx (genT true true ⟨false, false⟩ (fun i => if i = 2 then .real else .none) (chainT 2))
      = "(div (div o0 o1) o2)" ∧
    evalC .duckdb (fun i => [DV.int 7, .int 2, .real 1 1].getD i .null) (plainT (chainT 2)) = .real 7 2 ∧
    evalC .sqlite (fun i => [DV.int 7, .int 2, .real 1 1].getD i .null)
        (genT true true ⟨false, false⟩ (fun i => if i = 2 then .real else .none) (chainT 2)) = .real 3 1 :=
  by decide +kernel

/-- clean-tree finding (SQLite -> DuckDB): only the TOP divisor of a flattened chain gets its NULLIF; a zero INNER
    divisor is NULL on SQLite and inf on DuckDB: `a / b / c` with (8, 0, 2) -/
theorem div_chain_inner_nullif_missing_counterexample :
    showCEx (genT false false ⟨true, true⟩ (fun _ => .none) (chainT 2)) = "(div (div o0 o1) (nullif0 o2))" ∧
    showCEx (genT false false ⟨true, true⟩ (fun _ => .none) (.div (.paren (chainT 1)) (.opnd 2)))
      = "(div (paren (div o0 (nullif0 o1))) (nullif0 o2))" ∧
    evalC .sqlite (fun i => .int ([8, 0, 2].getD i 0)) (plainT (chainT 2)) = .null ∧
    evalC .duckdb (fun i => .int ([8, 0, 2].getD i 0)) (genT false false ⟨true, true⟩ (fun _ => .none) (chainT 2))
      = .inf false := by decide +kernel

/-- **every transform of the chain reaches every SELECT that is printed** (FINITE: all 8 feature combinations decided
    completely): whatever combination of DISTINCT ON / QUALIFY / SEMI-ANTI join a SELECT carries, none of the SELECTs
    the SQLite generator prints for it — wrappers and wrapped — carries any of them any more -/
theorem preprocess_chain_reaches_every_select :
    ∀ d ∈ [true, false], ∀ q ∈ [true, false], ∀ s ∈ [true, false],
      (genSelects 4 ⟨d, q, s⟩).all PFlags.clean = true := by decide +kernel

/-- the seeded regression as a witness: QUALIFY together with a SEMI join — the flagged input node is the wrapped
    subquery, the chain is skipped for it and SEMI JOIN is printed verbatim -/
theorem preprocess_flag_on_input_node_counterexample :
    genSelectsFlagged ⟨false, true, true⟩ = [⟨false, false, false⟩, ⟨false, false, true⟩] ∧
    (genSelects 4 ⟨false, true, true⟩).all PFlags.clean = true := by decide +kernel

/-- TABLE FACT (ast of transforms.preprocess._to_sql): the chain runs unconditionally (no memo / early exit) -/
theorem preprocess_chain_unconditional : preprocessChainUnconditional = true := by decide +kernel

/-- **`Generator.set_operations` prints a chain exactly in order**: for every tree of UNION / EXCEPT / INTERSECT
    [ALL] nodes (any shape, any length) the explicit-stack flattening loop emits operand, operator-of-THAT-node,
    operand, … — the in-order operator sequence of the tree -/
theorem set_operations_print_inorder (t : SetTree) : printSetOps t = t.inorder := by
  unfold printSetOps
  rw [setOpsLoop_spec t.weight [.tree t] [] (by simp [SetItem.weight])]
  simp [SetItem.flat]

example : printSetOps (.op .union false (.op .union true (.leaf 0) (.leaf 1)) (.leaf 2))
    = [.branch 0, .kw .union true, .branch 1, .kw .union false, .branch 2] := by decide +kernel

/-- the seeded regression C02-6 as an UNREPAIRED VARIANT: with the keyword cached per operation class,
    `a UNION b UNION ALL c` (the root — UNION ALL — is popped first) is printed `a UNION ALL b UNION ALL c` -/
theorem set_operations_keyword_cache_counterexample :
    setOpsLoopCached 10 [] [.tree (.op .union false (.op .union true (.leaf 0) (.leaf 1)) (.leaf 2))] []
      = [.branch 0, .kw .union false, .branch 1, .kw .union false, .branch 2] ∧
    (SetTree.op .union false (.op .union true (.leaf 0) (.leaf 1)) (.leaf 2)).inorder
      = [.branch 0, .kw .union true, .branch 1, .kw .union false, .branch 2] := by decide +kernel

/-- TABLE FACT (ast of Generator.set_operations, re-read every run): the keyword is computed per popped node -/
theorem set_operation_keyword_per_node : setOpKeywordPerNode = true := by decide +kernel

/-- **`eliminate_qualify` hoists every window under its OWN alias**: whatever names the SELECT already uses and however
    many windows the QUALIFY condition contains, the aliases produced by repeated `find_new_name(named_selects, "_w")`
    are pairwise distinct, none collides with an existing name, and there is one per window -/
theorem hoisted_aliases_distinct (base : String) (taken : List String) (k : Nat) (names : List String)
    (h : hoistAliases base taken k = some names) :
    names.Nodup ∧ (∀ n ∈ names, n ∉ taken) ∧ names.length = k :=
  hoistAliases_spec base k taken names h

/-- `find_new_name` never returns a taken name -/
theorem find_new_name_fresh (taken : List String) (base n : String) (h : findNewName taken base = some n) :
    n ∉ taken := findNewName_fresh taken base n h

example : hoistAliases "_w" ["a", "_w", "_w_3"] 3 = some ["_w_2", "_w_4", "_w_5"] := by decide +kernel

/-- the seeded regression "one alias `_w` for several hoisted windows" as a model fact: reusing the alias is exactly
    what the loop must not do -/
theorem hoisted_alias_reuse_not_distinct : ¬ (["_w", "_w"] : List String).Nodup ∧
    hoistAliases "_w" ["a"] 2 = some ["_w", "_w_2"] := by decide +kernel

/-- `eliminate_distinct_on`'s core: keeping `ROW_NUMBER() OVER (PARTITION BY key ORDER BY …) = 1` is keeping the first
    row of every key — for every ordered input, as sequences -/
theorem distinct_on_as_row_number (key : Row → Val) (t : Table) : rowNumberOne key t = firstPerKey key t :=
  rowNumberOneAux_eq key t [] [] (fun v => by simp)

/-- **When is DISTINCT ON a plain SELECT DISTINCT?**  Exactly when the projection IS the ON key: then for every
    ordered input the picked rows, projected, are the distinct key values.  With a projection that is a STRICT
    SUBSET of the ON keys it is not (seeded regression C02-7 "subset shortcut"): ON (a, b) projecting a over
    {(1,1), (1,2)} has two groups and returns a = 1 twice; SELECT DISTINCT a returns it once. -/
theorem distinct_on_eq_select_distinct_iff :
    (∀ (key : Row → Val) (t : Table), (firstPerKey key t).map key = dedupVals (t.map key)) ∧
    ((firstPerKey (fun r => match col 0 r, col 1 r with
                            | .int a, .int b => .int (a * 10 + b)
                            | _, _ => .null) [[.int 1, .int 1], [.int 1, .int 2]]).map (col 0) = [.int 1, .int 1] ∧
     dedupVals ([[Val.int 1, .int 1], [.int 1, .int 2]].map (col 0)) = [.int 1]) :=
  ⟨fun key t => firstPerKeyAux_map_key key t [], by decide +kernel⟩

/-- TABLE FACT (ast of transforms.eliminate_distinct_on, re-read every run): the transform has ONE rewrite path —
    two `return`s (the rewritten query, the untouched expression) and it never clears DISTINCT's `on` in place -/
theorem distinct_on_single_rewrite_path : distinctOnReturnCount = 2 ∧ distinctOnClearsOnInPlace = false :=
  by decide +kernel

/-- PARTIAL (side condition: NO outer LIMIT/OFFSET; conclusion only as a BAG because the rewritten query has no
    outer ORDER BY): the rewritten DISTINCT ON query returns the rows of the original -/
theorem eliminate_distinct_on_partial (key : Row → Val) (ord : Table → Table) (t : Table) :
    BagEq (distinctOnEliminated key ord none t) (distinctOnOriginal key ord none t) := by
  simp only [distinctOnEliminated, distinctOnOriginal, limitOffset, List.drop_zero]
  rw [distinct_on_as_row_number]

/-- clean-tree finding C02-distinct-on-rewrite-limits-before-filter, precisely: with LIMIT 1 the original keeps one
    row per key and then limits; the rewrite limits the unordered input first -/
theorem eliminate_distinct_on_limit_counterexample :
    distinctOnOriginal (col 0) id (some 2) [[.int 1, .int 1], [.int 1, .int 2], [.int 2, .int 3]]
      = [[.int 1, .int 1], [.int 2, .int 3]] ∧
    distinctOnEliminated (col 0) id (some 2) [[.int 1, .int 1], [.int 1, .int 2], [.int 2, .int 3]]
      = [[.int 1, .int 1]] := by decide +kernel

/-- clean-tree finding C02-distinct-on-loses-outer-order, precisely: the rewritten query reads a derived table and has
    no ORDER BY, so every permutation of its rows is an admissible answer; one of them is not the original sequence -/
theorem eliminate_distinct_on_order_counterexample :
    ∃ answer : Table,
      BagEq answer (distinctOnEliminated (col 0) List.reverse none [[.int 1], [.int 2]]) ∧
      answer ≠ distinctOnOriginal (col 0) List.reverse none [[.int 1], [.int 2]] :=
  ⟨[[.int 1], [.int 2]], by decide +kernel, by decide +kernel⟩

/-- PARTIAL (side condition: NO LIMIT/OFFSET; conclusion as a BAG — with an ORDER BY the rewrite leaves it inside the
    subquery): for every window function, condition, projection, table and every ORDER BY (any permutation of its
    input) `eliminate_qualify` returns the rows of the original -/
theorem eliminate_qualify_partial (w : Table → Row → Val) (cond : Row → B3) (proj : Row → Row) (width : Nat)
    (ord : Table → Table) (hord : ∀ u, (ord u).Perm u) (t : Table) :
    BagEq (qualifyEliminated w cond proj width ord none t) (qualifyOriginal w cond proj width ord none t) := by
  simp only [qualifyEliminated, qualifyOriginal, limitOffset, List.drop_zero, project, select]
  refine List.Perm.map _ ?_
  exact ((hord _).filter _).trans (hord _).symm

/-- clean-tree finding C02-qualify-rewrite-limits-before-filter, precisely: QUALIFY runs before LIMIT; the rewrite
    limits first.  Window = the first column, condition `w > 1`, LIMIT 1 -/
theorem eliminate_qualify_limit_counterexample :
    qualifyOriginal (fun _ r => col 0 r) (fun r => gt3 (col 1 r) (.int 1)) id 1 id (some 1) [[.int 1], [.int 2]]
      = [[.int 2]] ∧
    qualifyEliminated (fun _ r => col 0 r) (fun r => gt3 (col 1 r) (.int 1)) id 1 id (some 1) [[.int 1], [.int 2]]
      = [] := by decide +kernel

/-- clean-tree finding C02-qualify-rewrite-loses-outer-order, precisely (same argument as for DISTINCT ON) -/
theorem eliminate_qualify_order_counterexample :
    ∃ answer : Table,
      BagEq answer (qualifyEliminated (fun _ r => col 0 r) (fun _ => some true) id 1 List.reverse none [[.int 1], [.int 2]]) ∧
      answer ≠ qualifyOriginal (fun _ r => col 0 r) (fun _ => some true) id 1 List.reverse none [[.int 1], [.int 2]] :=
  ⟨[[.int 1], [.int 2]], by decide +kernel, by decide +kernel⟩

end SqlglotModel.Properties.C02
