/-
  C03 — The optimizer never changes what a query returns: what each rule's guard licenses, on the bag semantics.
  Property theorems, non-vacuity examples and counter-example witnesses; the bag algebra is in Proofs/Bag.lean, the
  lemmas about Model/Opt.lean in Proofs/Opt.lean.

  Shape of the argument: the translator re-extracts the guard atoms of the rules from the source on every run
  (Generated/C03.lean); the `…_guards_present` theorems below are decided against those tables, so a dropped atom
  breaks the build; the semantic theorems say that what the guard admits is a bag equality for ALL tables; the
  `…_unsound` / `…_needs_…` witnesses say what goes wrong without each atom (1–2-row tables; they are also the SQL
  templates the failing-input search runs first).  PARTIAL: canonicalize, qualify and simplify (`uniq_sort` apart) have
  no theorem here (engine-executing search only); of unnest_subqueries, pushdown_dnf, pushdown_projections and
  eliminate_subqueries only the cores stated below.
-/
import SqlglotModel.Proofs.Bag
import SqlglotModel.Proofs.Opt
import SqlglotModel.Generated.C03

namespace SqlglotModel.Properties.C03
open SqlglotModel.Bag SqlglotModel.Opt
open SqlglotModel.Generated.C03

/-- WHERE conjunct over the FROM side of an inner join moves into that source (all tables, any 3-valued ON) -/
theorem push_filter_inner_join (on : Row → Row → B3) (p q : Row → B3) (l r : Table)
    (h : ∀ a b, p (a ++ b) = q a) : select p (innerJoin on l r) = innerJoin on (select q l) r :=
  select_flatMap_of_const p q _ l fun a _ x hx => by
    obtain ⟨b, _, rfl⟩ := List.mem_map.mp hx
    exact h a b

/-- … over the joined side: first into the ON clause (`pushdown_cnf`, JOIN node) … -/
theorem push_where_into_inner_join_on (on : Row → Row → B3) (p : Row → B3) (l r : Table) :
    select p (innerJoin on l r) = innerJoin (fun a b => and3 (on a b) (p (a ++ b))) l r :=
  select_innerJoin_as_on on p l r

/-- … then from the ON clause into the joined source (second loop), for inner and for LEFT joins -/
theorem push_on_into_joined_source_inner (on : Row → Row → B3) (q : Row → B3) (l r : Table) :
    innerJoin (fun a b => and3 (on a b) (q b)) l r = innerJoin on l (select q r) := by
  simp only [innerJoin, matchesOf_and_right]

theorem push_on_into_joined_source_left (on : Row → Row → B3) (q : Row → B3) (l r : Table) (wr : Nat) :
    leftJoin (fun a b => and3 (on a b) (q b)) l r wr = leftJoin on l (select q r) wr := by
  simp only [leftJoin, matchesOf_and_right]

/-- WHERE conjunct over the preserved side may move into that side's source: FROM source under LEFT joins … -/
theorem push_filter_left_join_preserved_side (on : Row → Row → B3) (p q : Row → B3) (l r : Table) (wr : Nat)
    (h : ∀ a b, p (a ++ b) = q a) : select p (leftJoin on l r wr) = leftJoin on (select q l) r wr :=
  select_flatMap_of_const p q _ l fun a _ x hx => by
    obtain ⟨b, rfl⟩ := mem_padRight hx
    exact h a b

/-- … and the RIGHT-joined source itself, the table `rightJoin` loops over (the `pushable_source` branch) -/
theorem push_filter_right_join_own_source (on : Row → Row → B3) (p q : Row → B3) (l r : Table) (wl : Nat)
    (h : ∀ a b, p (a ++ b) = q b) : select p (rightJoin on l r wl) = rightJoin on l (select q r) wl :=
  select_flatMap_of_const p q _ r fun b _ x hx => by
    obtain ⟨a, rfl⟩ := mem_padLeft hx
    exact h a b

example : select (fun r => gt3 (col 0 r) (.int 0)) (leftJoin (fun a b => eq3 (col 0 a) (col 0 b)) [[.int 1], [.int 0]] [[.int 1]] 1)
    = [[.int 1, .int 1]] := by decide +kernel

/-- NECESSITY (why `nodes_for_predicate` returns {} for a LEFT-joined source): a WHERE conjunct over the
    NULL-padded side must not move into that side.  l = {(1)}, r = {(1)}, ON l.0 = r.0, WHERE r.0 > 5 -/
theorem push_into_left_join_null_side_unsound :
    select (fun row => gt3 (col 1 row) (.int 5))
        (leftJoin (fun a b => eq3 (col 0 a) (col 0 b)) [[.int 1]] [[.int 1]] 1)
      ≠ leftJoin (fun a b => eq3 (col 0 a) (col 0 b)) [[.int 1]] (select (fun b => gt3 (col 0 b) (.int 5)) [[.int 1]]) 1 := by
  decide +kernel

/-- NECESSITY (the FULL-join guard added by /repo commit f8c8be1; DESIGN §6): x FULL JOIN y ON x.a = y.a WHERE x.b > 0
    with x empty, y = {(1,1)}: the original returns nothing, pushing the WHERE into x returns (NULL,NULL,1,1) -/
theorem push_below_full_join_unsound :
    select (fun row => gt3 (col 1 row) (.int 0))
        (fullJoin (fun a b => eq3 (col 0 a) (col 0 b)) [] [[.int 1, .int 1]] 2 2) = [] ∧
    fullJoin (fun a b => eq3 (col 0 a) (col 0 b)) (select (fun a => gt3 (col 1 a) (.int 0)) []) [[.int 1, .int 1]] 2 2
      = [[.null, .null, .int 1, .int 1]] := by decide +kernel

/-- NECESSITY (RIGHT join restricts the candidates to the right-joined source): pushing into the FROM source -/
theorem push_into_from_source_under_right_join_unsound :
    select (fun row => gt3 (col 0 row) (.int 5))
        (rightJoin (fun a b => eq3 (col 0 a) (col 0 b)) [[.int 1]] [[.int 1]] 1)
      ≠ rightJoin (fun a b => eq3 (col 0 a) (col 0 b)) (select (fun a => gt3 (col 0 a) (.int 5)) [[.int 1]]) [[.int 1]] 1 := by
  decide +kernel

/-- NECESSITY of "only the LAST right join's source" (/repo b9fa271; before it the FIRST right-joined source took
    the predicate): x RIGHT JOIN y ON … RIGHT JOIN z ON … WHERE y.b > 1 with x, y empty and z = {(1,1)}: the
    original filters the NULL-padded row away, pushing the WHERE into y keeps it.  Pure bag fact: it cannot break
    on regeneration; the code-side fact is `rightJoinLastOnly = true` in `push_guards_present`. -/
theorem push_below_second_right_join_unsound :
    select (fun row => gt3 (col 3 row) (.int 1))
        (rightJoin (fun a b => eq3 (col 2 a) (col 0 b))
          (rightJoin (fun a b => eq3 (col 0 a) (col 0 b)) [] [] 2) [[.int 1, .int 1]] 4) = [] ∧
    rightJoin (fun a b => eq3 (col 2 a) (col 0 b))
        (rightJoin (fun a b => eq3 (col 0 a) (col 0 b)) [] (select (fun b => gt3 (col 1 b) (.int 1)) []) 2)
        [[.int 1, .int 1]] 4
      = [[.null, .null, .null, .null, .int 1, .int 1]] := by decide +kernel

/-- the model's candidate restriction under the extracted flag: with two RIGHT joins the first right-joined source
    is no longer a WHERE target, the last one is -/
theorem last_right_join_only :
    whereDecision pushAtoms rightJoinLastOnly
        ⟨⟨"x", .table⟩, [(.right, ⟨"y", .derived ⟨false, false, false, false, false, 1⟩⟩),
                         (.right, ⟨"z", .derived ⟨false, false, false, false, false, 1⟩⟩)]⟩ ["y"] = [] ∧
    whereDecision pushAtoms rightJoinLastOnly
        ⟨⟨"x", .table⟩, [(.right, ⟨"y", .derived ⟨false, false, false, false, false, 1⟩⟩),
                         (.right, ⟨"z", .derived ⟨false, false, false, false, false, 1⟩⟩)]⟩ ["z"] = [.select "z"] := by
  decide +kernel

/-- a filter over a derived table's output moves inside the derived table (`replace_aliases` = composing with the
    projection), below its own WHERE -/
theorem push_filter_into_derived (p w : Row → B3) (f : Row → Row) (t : Table) :
    select p (project f (select w t)) = project f (select (fun r => and3 (w r) (p (f r))) t) := by
  rw [select_project, select_select]

/-- **per-window condition for moving a filter below a window**: a filter that only looks at the partition key of
    THAT window keeps or drops whole partitions, so every surviving row sees the same partition — for every table,
    aggregate and key.  (HEAD blocks the pushdown whenever the derived table has any window; this is the condition a
    relaxation would have to check for EVERY window.) -/
theorem window_commutes_with_filter_on_partition_key (key : Row → Val) (agg : Table → Val) (q : Val → Bool)
    (t : Table) (r : Row) (hr : q (key r) = true) :
    winPart key agg (t.filter (fun x => q (key x))) r = winPart key agg t r := by
  unfold winPart
  congr 1
  rw [List.filter_filter]
  apply List.filter_congr
  intro x _
  by_cases hk : key x = key r
  · simp [hk, hr]
  · simp [hk]

/-- NECESSITY of "every window" (seeded regression C03-8 tested the UNION of all windows' partition keys): the filter
    is on the partition key of window 1 (column 0); window 2 = COUNT(*) OVER () is unpartitioned (constant key) and
    changes when the filter runs first -/
theorem filter_below_other_window_unsound :
    winPart (fun _ => .null) (fun p => .int p.length) ([[Val.int 1], [.int 2]].filter (fun x => col 0 x == .int 1)) [.int 1]
      = .int 1 ∧
    winPart (fun _ => .null) (fun p => .int p.length) [[Val.int 1], [.int 2]] [.int 1] = .int 2 := by decide +kernel

/-- TABLE FACT (ast of nodes_for_predicate): a window in the derived table blocks the pushdown unconditionally -/
theorem window_blocks_unconditionally : windowBlocksUnconditionally = true := by decide +kernel

/-- TABLE FACTS (decided completely against Generated/C03.lean): every guard the theorems rely on is present -/
theorem push_guards_present :
    (∀ a ∈ allPushAtoms, a ∈ pushAtoms) ∧ fullJoinGuard = true ∧ rightJoinRestrict = true ∧
    rightJoinLastOnly = true ∧
    sidedJoinBlocks = true ∧ Side.right ∈ onLoopSkips ∧ Side.full ∈ onLoopSkips := by decide +kernel

/-- what the SELECT-node guard of nodes_for_predicate promises, read off the atoms extracted on this run -/
theorem push_guard_sound (s : SelShape) (h : canPushIntoSelect pushAtoms s = true) :
    s.group = false ∧ s.window = false ∧ s.limit = false ∧ s.offset = false ∧ s.qualify = false ∧ s.refCount < 2 := by
  have hh : ∀ a ∈ allPushAtoms, a.holds s = true := fun a ha =>
    (List.all_eq_true.mp h) a (push_guards_present.1 a ha)
  have h1 := hh .noGroup (by decide)
  have h2 := hh .noWindow (by decide)
  have h3 := hh .noLimit (by decide)
  have h4 := hh .noOffset (by decide)
  have h5 := hh .noQualify (by decide)
  have h6 := hh .refCountLt2 (by decide)
  simp only [PushAtom.holds, Bool.not_eq_true', decide_eq_true_eq] at h1 h2 h3 h4 h5 h6
  exact ⟨h1, h2, h3, h4, h5, h6⟩

example : canPushIntoSelect pushAtoms ⟨false, false, false, false, false, 1⟩ = true := by decide +kernel

/-- NECESSITY of `not node.args.get("limit")`: σ_p (LIMIT 1 t) ≠ LIMIT 1 (σ_p t) -/
theorem push_filter_into_derived_needs_no_limit :
    select (fun r => gt3 (col 0 r) (.int 1)) (limitOffset (some 1) 0 [[.int 1], [.int 2]])
      ≠ limitOffset (some 1) 0 (select (fun r => gt3 (col 0 r) (.int 1)) [[.int 1], [.int 2]]) := by decide +kernel

/-- NECESSITY of `not offset` -/
theorem push_filter_into_derived_needs_no_offset :
    select (fun r => gt3 (col 0 r) (.int 1)) (limitOffset none 1 [[.int 1], [.int 2], [.int 3]])
      ≠ limitOffset none 1 (select (fun r => gt3 (col 0 r) (.int 1)) [[.int 1], [.int 2], [.int 3]]) :=
  by decide +kernel

/-- NECESSITY of `not has_window_expression` (and of `not qualify`): a window value depends on the whole input;
    window = COUNT(*) OVER () -/
theorem push_filter_into_derived_needs_no_window :
    select (fun r => gt3 (col 0 r) (.int 1))
        (project (fun r => r ++ [.int ([[Val.int 1], [.int 2]] : Table).length]) [[.int 1], [.int 2]])
      ≠ (let t' := select (fun r => gt3 (col 0 r) (.int 1)) [[.int 1], [.int 2]]
         project (fun r => r ++ [.int t'.length]) t') := by decide +kernel

/-- NECESSITY of `scope_ref_count[id(source)] < 2`: a CTE referenced twice; filtering it for one reference changes
    the other.  WITH c AS (t) SELECT … FROM c AS x CROSS JOIN c AS y WHERE x.0 > 1 -/
theorem push_filter_into_derived_needs_single_ref :
    select (fun r => gt3 (col 0 r) (.int 1)) (product [[.int 1], [.int 2]] [[.int 1], [.int 2]])
      ≠ (let c' := select (fun r => gt3 (col 0 r) (.int 1)) [[.int 1], [.int 2]]
         product c' c') := by decide +kernel

/-- NECESSITY of `not group`: filtering on an aggregate output is not filtering the input (COUNT per key) -/
theorem push_filter_into_derived_needs_no_group :
    select (fun r => gt3 (col 0 r) (.int 1)) [[.int ([[Val.int 1], [.int 2]] : Table).length]]
      ≠ [[.int (select (fun r => gt3 (col 0 r) (.int 1)) [[.int 1], [.int 2]]).length]] := by decide +kernel

/-- the simple projection/filter case: SELECT g(…) FROM (SELECT f(…) FROM t WHERE w) AS s WHERE p
    = SELECT g(f(…)) FROM t WHERE w AND p(f(…)) — equal as sequences, hence as bags -/
theorem merge_derived_table (p w : Row → B3) (f g : Row → Row) (t : Table) :
    project g (select p (project f (select w t)))
      = project (fun r => g (f r)) (select (fun r => and3 (w r) (p (f r))) t) := by
  rw [push_filter_into_derived]
  simp [project, List.map_map, Function.comp]

/-- merged under an inner JOIN: the derived table's WHERE becomes an ON conjunct (`_merge_where`) -/
theorem merge_derived_table_inner_join (on : Row → Row → B3) (w : Row → B3) (l r : Table) :
    innerJoin on l (select w r) = innerJoin (fun a b => and3 (on a b) (w b)) l r :=
  (push_on_into_joined_source_inner on w l r).symm

theorem merge_guards_present :
    MergeAtom.innerUnmergeableArg ∈ mergeRejects ∧ MergeAtom.sidedJoinInnerWhere ∈ mergeRejects ∧
    MergeAtom.fromInnerWhereOuterFullRight ∈ mergeRejects ∧ MergeAtom.projAggSubqueryExplode ∈ mergeRejects ∧
    MergeAtom.windowBlocks ∈ mergeRejects ∧ MergeAtom.joinWithInnerJoins ∈ mergeRejects ∧
    (∀ sd ∈ [Side.left, Side.right, Side.full], sd ∈ sidedJoinInnerWhereSides) ∧
    (∀ sd ∈ [Side.right, Side.full], sd ∈ fromInnerWhereOuterSides) ∧
    (∀ a ∈ ["distinct", "group", "having", "limit", "offset", "qualify", "windows"], a ∈ unmergeableArgs) := by
  decide +kernel

/-- what `_mergeable` promises, read off the rejecting atoms extracted on this run -/
theorem merge_guard_sound (s : MergeShape) (h : mergeable mergeRejects s = true) :
    s.innerUnmergeableArg = false ∧ s.sidedJoinInnerWhere = false ∧ s.fromInnerWhereOuterFullRight = false ∧
    s.projAggSubqueryExplode = false ∧ s.windowBlocks = false ∧ s.joinWithInnerJoins = false := by
  simp only [mergeable, Bool.not_eq_true', List.any_eq_false] at h
  have hn : ∀ a ∈ mergeRejects, a.holds s = false := fun a ha => by simpa using h a ha
  obtain ⟨m1, m2, m3, m4, m5, m6, -⟩ := merge_guards_present
  exact ⟨hn _ m1, hn _ m2, hn _ m3, hn _ m4, hn _ m5, hn _ m6⟩

example : mergeable mergeRejects {} = true := by decide +kernel

/-- NECESSITY of DISTINCT ∈ UNMERGABLE_ARGS: π_g (δ t) ≠ π_g t as bags -/
theorem merge_needs_no_distinct :
    ¬ BagEq (project (fun r => [col 0 r]) (distinct [[.int 1, .int 1], [.int 1, .int 1]]))
            (project (fun r => [col 0 r]) [[.int 1, .int 1], [.int 1, .int 1]]) := by
  intro h; have := h.length_eq; revert this; decide +kernel

/-- NECESSITY of LIMIT ∈ UNMERGABLE_ARGS -/
theorem merge_needs_no_limit :
    select (fun r => gt3 (col 0 r) (.int 1)) (limitOffset (some 1) 0 [[.int 1], [.int 2]])
      ≠ select (fun r => gt3 (col 0 r) (.int 1)) [[.int 1], [.int 2]] := by decide +kernel

/-- NECESSITY of the sided-join atom: a derived table with a WHERE on the NULL-padded side of a LEFT join cannot be
    inlined with its WHERE going to the outer WHERE.  l = {(1)}, r = {(1)}, inner WHERE r.0 > 5 -/
theorem merge_inner_where_under_left_join_unsound :
    leftJoin (fun a b => eq3 (col 0 a) (col 0 b)) [[.int 1]] (select (fun b => gt3 (col 0 b) (.int 5)) [[.int 1]]) 1
      ≠ select (fun row => gt3 (col 1 row) (.int 5))
          (leftJoin (fun a b => eq3 (col 0 a) (col 0 b)) [[.int 1]] [[.int 1]] 1) := by decide +kernel

/-- clean-tree finding (no atom of `_mergeable` covers it): a derived table on the NULL-padded side of an outer
    join whose projection is a literal.  x = {(1)} LEFT JOIN (SELECT 7 AS c FROM y) with y empty: the column is NULL;
    after inlining the literal it is 7 -/
theorem merge_constant_projection_under_outer_join_unsound :
    project (fun row => [col 1 row])
        (leftJoin (fun _ _ => some true) [[.int 1]] (project (fun _ => [.int 7]) []) 1) = [[.null]] ∧
    project (fun _ => [Val.int 7]) (leftJoin (fun _ _ => some true) [[.int 1]] [] 1) = [[.int 7]] := by decide +kernel

/-- with a FRESH cache (it lists every live column node — what `Scope.clear_cache()` after each in-place rewrite
    guarantees) renaming a conflicting inner source renames ALL of its columns, for every column list -/
theorem rename_with_fresh_cache_renames_all (cache : List Nat) (old new : String) (live : List ColRef)
    (h : ∀ c ∈ live, c.id ∈ cache) : renameVia cache old new live = renameAll old new live := by
  unfold renameVia renameAll
  refine List.map_congr_left fun c hc => ?_
  simp [h c hc]

/-- … after which no live column still refers to the old name, so none can be captured by an outer source that
    carries it -/
theorem rename_all_leaves_no_old (old new : String) (hne : new ≠ old) (live : List ColRef) :
    ∀ c ∈ renameAll old new live, c.table ≠ old := by
  intro c hc
  simp only [renameAll, List.mem_map] at hc
  obtain ⟨c0, _, rfl⟩ := hc
  by_cases h0 : c0.table = old
  · simp [h0, hne]
  · simp [h0]

/-- NECESSITY of the full cache invalidation (seeded regression C03-5: `clear_column_cache()` instead of
    `clear_cache()` in merge_derived_tables): the cache still lists node 7, which `_merge_expressions` replaced by
    node 8; the inner source x is renamed to x_2 but the live column keeps `x` and binds to the OUTER x -/
theorem rename_with_stale_cache_witness :
    renameVia [7] "x" "x_2" [⟨8, "x", "a"⟩] = [⟨8, "x", "a"⟩] ∧
    renameAll "x" "x_2" [⟨8, "x", "a"⟩] = [⟨8, "x_2", "a"⟩] := by decide +kernel

/-- TABLE FACT (re-extracted by ast on every run): both in-place merges end with the FULL `clear_cache()` -/
theorem merge_cache_clears_present :
    mergeCacheClears = [("merge_ctes", "clear_cache"), ("merge_derived_tables", "clear_cache")] := by decide +kernel

/-- a conjunction only depends on WHICH truth values occur among its operands -/
theorem conj3_eq_of_same_values (l m : List B3) (h : ∀ v, v ∈ l ↔ v ∈ m) : conj3 l = conj3 m := by
  simp only [conj3_eq_ite, List.contains_eq_mem, h]

/-- **`uniq_sort` is sound when the key is injective up to meaning**: if two operands with the same generated key
    always have the same truth value, dropping all but the first operand of every key keeps the value of the
    conjunction — for every operand list -/
theorem uniq_sort_sound_of_key_injective (l : List (String × B3))
    (hk : ∀ p ∈ l, ∀ q ∈ l, p.1 = q.1 → p.2 = q.2) :
    conj3 ((dedupByKey l).map (·.2)) = conj3 (l.map (·.2)) :=
  conj3_eq_of_same_values _ _ (dedupByKey_same_values l hk)

/-- NECESSITY of key injectivity (seeded regression C03-6: `Gen.in_sql` drops `query`, every `x IN (<subquery>)` gets
    the key `x IN ()`): two different IN-subquery predicates with one key, TRUE and FALSE on some row — the
    de-duplicated conjunction is TRUE, the original FALSE -/
theorem uniq_sort_key_collision_witness :
    conj3 ((dedupByKey [("x.a IN ()", (some true : B3)), ("x.a IN ()", some false)]).map (·.2)) = some true ∧
    conj3 ([("x.a IN ()", (some true : B3)), ("x.a IN ()", some false)].map (·.2)) = some false := by decide +kernel

/-- TABLE FACT (ast of simplify.Gen against the live arg_types, re-read every run): every handler of the key
    generator mentions every arg of its expression class, except this audited list (args that do not occur in the
    fragment: BETWEEN SYMMETRIC, bracket options, join marks, the Div typing flags, identifier scoping flags) -/
theorem gen_handlers_cover_all_args :
    genHandlerMissing = [("between", ["symmetric"]),
                         ("bracket", ["offset", "safe", "returns_list_for_maps", "json_access"]),
                         ("column", ["join_mark", "shadow"]), ("div", ["typed", "safe"]),
                         ("identifier", ["global_", "temporary"])] := by decide +kernel

/-- `decorrelate` of a correlated scalar subquery whose projection contains COUNT: the LEFT JOIN + COALESCE form
    returns the subquery's value for EVERY outer row and every table, provided (1) the fallback is the projection
    evaluated on the EMPTY group (COUNT -> 0, other aggregates -> NULL) and (2) the projection is not NULL on a
    non-empty group unless the fallback is NULL too -/
theorem decorrelate_scalar_aggregate (proj : Table → Val) (fallback : Val) (on : Row → Row → B3) (a : Row) (r : Table)
    (hempty : fallback = proj [])
    (hnn : ∀ m : Table, m ≠ [] → (proj m).isNull = true → fallback = .null) :
    scalarDecorrelated proj fallback on a r = scalarSubq proj on a r := by
  unfold scalarDecorrelated scalarSubq coalesceVal
  generalize matchesOf on a r = m
  cases m with
  | nil => exact hempty
  | cons b bs =>
    -- an existing group: COALESCE changes its value only if that is NULL, and then the fallback is NULL as well
    show (if (proj (b :: bs)).isNull = true then fallback else proj (b :: bs)) = proj (b :: bs)
    split
    · rename_i hnull
      rw [hnn _ (List.cons_ne_nil b bs) hnull, eq_null_of_isNull hnull]
    · rfl

example : scalarDecorrelated (fun m => .int (m.length + 1)) (.int 1) (fun a b => eq3 (col 0 a) (col 0 b)) [.int 5] [[.int 1]]
    = .int 1 := by decide +kernel

/-- NECESSITY of hypothesis (1) (the seeded regression "fallback is always the constant 0"): projection
    COUNT(*) + 1, outer row without a match: the subquery yields 1, COALESCE(NULL, 0) yields 0 -/
theorem decorrelate_constant_zero_fallback_unsound :
    scalarSubq (fun m => .int (m.length + 1)) (fun a b => eq3 (col 0 a) (col 0 b)) [.int 5] [[.int 1]] = .int 1 ∧
    scalarDecorrelated (fun m => .int (m.length + 1)) (.int 0) (fun a b => eq3 (col 0 a) (col 0 b)) [.int 5] [[.int 1]]
      = .int 0 := by decide +kernel

/-- clean-tree finding (hypothesis (2) is not checked by the code): NULLIF(COUNT(*), 2) is NULL on an existing group
    of two rows; COALESCE then replaces that legitimate NULL by the fallback NULLIF(0, 2) = 0 -/
theorem decorrelate_null_of_existing_group_unsound :
    scalarSubq (fun m => if m.length = 2 then .null else .int m.length) (fun a b => eq3 (col 0 a) (col 0 b))
        [.int 1] [[.int 1], [.int 1]] = .null ∧
    scalarDecorrelated (fun m => if m.length = 2 then .null else .int m.length) (.int 0)
        (fun a b => eq3 (col 0 a) (col 0 b)) [.int 1] [[.int 1], [.int 1]] = .int 0 := by decide +kernel

/-- **`unnest`: uncorrelated `x.k IN (subquery)`** becomes LEFT JOIN on the subquery DE-DUPLICATED on its value
    (`s'`: same rows as a set, at most one match per outer row) + `WHERE s'.value IS NOT NULL`, for all tables and
    with SQL's three-valued IN (NULL keys and NULL elements never match) -/
theorem unnest_in_subquery (key : Row → Val) (l s s' : Table) (w : Nat)
    (hw : ∀ a ∈ l, a.length = w) (hset : ∀ b, b ∈ s' ↔ b ∈ s)
    (hu : ∀ a ∈ l, (matchesOf (fun a b => eq3 (key a) (col 0 b)) a s').length ≤ 1) :
    project (fun row => row.take w)
        (select (fun row => not3 (isNull3 (col w row))) (leftJoin (fun a b => eq3 (key a) (col 0 b)) l s' 1))
      = select (fun a => in3 (key a) (s.map (col 0))) l := by
  rw [semiJoin_as_dedup_leftJoin _ l s s' w 1 hw hset hu (fun a b h => eq3_true_not_null _ _ h)]
  simp only [semiJoin, select, isTrue_in3, List.any_map]
  rfl

/-- **correlated EXISTS / IN** (`decorrelate`): `EXISTS (SELECT … FROM s WHERE on(outer, s))` is the same LEFT JOIN
    against a version of the subquery de-duplicated on the correlation key -/
theorem unnest_exists_subquery (on : Row → Row → B3) (l s s' : Table) (w : Nat)
    (hw : ∀ a ∈ l, a.length = w) (hset : ∀ b, b ∈ s' ↔ b ∈ s)
    (hu : ∀ a ∈ l, (matchesOf on a s').length ≤ 1)
    (hnn : ∀ a b, Bag.isTrue (on a b) = true → (col 0 b).isNull = false) :
    project (fun row => row.take w) (select (fun row => not3 (isNull3 (col w row))) (leftJoin on l s' 1))
      = select (fun a => exists3 (select (fun b => on a b) s)) l := by
  rw [semiJoin_as_dedup_leftJoin on l s s' w 1 hw hset hu hnn, select_exists3_eq_semiJoin]

example : select (fun a => in3 (col 0 a) ([[Val.int 1], [.null], [.int 1]].map (col 0))) [[.int 1], [.int 2], [.null]]
    = [[.int 1]] := by decide +kernel

/-- NECESSITY of the de-duplication (the seeded `unnest()` regression and the clean-tree finding
    C03-decorrelate-exists-keeps-extra-group-keys): joined against the subquery grouped by MORE keys than the
    compared value — value 1 appears in two groups — the matching outer row comes back twice -/
theorem in_subquery_as_join_needs_distinct :
    project (fun row => row.take 1)
        (select (fun row => not3 (isNull3 (col 1 row)))
          (leftJoin (fun a b => eq3 (col 0 a) (col 0 b)) [[.int 1]] [[.int 1], [.int 1]] 1))
      = [[.int 1], [.int 1]] ∧
    select (fun a => in3 (col 0 a) ([[Val.int 1], [.int 1]].map (col 0))) [[.int 1]] = [[.int 1]] := by decide +kernel

/-- WHY `unnest` bails out on NOT IN: with a NULL in the subquery `x NOT IN (…)` is never TRUE, the anti join keeps
    the row -/
theorem not_in_with_null_not_antijoin :
    select (fun a => not3 (in3 (col 0 a) ([[Val.int 2], [.null]].map (col 0)))) [[.int 1]] = [] ∧
    antiJoin (fun a b => eq3 (col 0 a) (col 0 b)) [[.int 1]] [[.int 2], [.null]] = [[.int 1]] := by decide +kernel

/-- what `pushdown_dnf` may push into source `l`: a predicate IMPLIED by the whole WHERE clause (the original stays
    in place) — the result is unchanged for all tables -/
theorem pushdown_dnf_common_predicate (on : Row → Row → B3) (c q : Row → B3) (l r : Table)
    (h : ∀ a b, Bag.isTrue (c (a ++ b)) = true → Bag.isTrue (q a) = true) :
    select c (innerJoin on l r) = select c (innerJoin on (select q l) r) :=
  select_flatMap_of_implied c q _ l fun a _ x hx => by
    obtain ⟨b, _, rfl⟩ := List.mem_map.mp hx
    exact h a b

/-- the disjunction of one conjunct per block IS implied by a DNF: (A₁ ∧ p₁) ∨ (A₂ ∧ p₂) ⇒ p₁ ∨ p₂ (3-valued) -/
theorem dnf_implies_disjunction_of_common (a1 p1 a2 p2 : B3)
    (h : Bag.isTrue (or3 (and3 a1 p1) (and3 a2 p2)) = true) : Bag.isTrue (or3 p1 p2) = true := by
  rw [isTrue_or3, isTrue_and3, isTrue_and3] at h
  rw [isTrue_or3]
  simp only [Bool.or_eq_true, Bool.and_eq_true] at h ⊢
  exact h.imp And.right And.right

/-- known finding C11-or-in-where-over-join (pushdown_dnf skips a block that mentions a second table and pushes the
    OTHER block alone): WHERE (z.b * y.a) IS NULL OR y.a BETWEEN 0 AND 0 over y = {(NULL)}, z = {(NULL)} keeps the
    row; pushing `y.a BETWEEN 0 AND 0` into y empties it.  One block is NOT implied by the disjunction. -/
theorem pushdown_dnf_single_branch_unsound :
    select (fun row => or3 (some ((col 0 row).isNull || (col 1 row).isNull)) (eq3 (col 0 row) (.int 0)))
        (innerJoin (fun _ _ => some true) [[.null]] [[.null]]) = [[.null, .null]] ∧
    select (fun row => or3 (some ((col 0 row).isNull || (col 1 row).isNull)) (eq3 (col 0 row) (.int 0)))
        (innerJoin (fun _ _ => some true) (select (fun a => eq3 (col 0 a) (.int 0)) [[.null]]) [[.null]]) = [] := by
  decide +kernel

/-- pruning columns of a derived table that the outer query does not read: π_g ∘ π_f = π_g ∘ π_f' whenever g reads
    only what both keep — for all tables, as sequences -/
theorem pushdown_projections_preserves (f f' g : Row → Row) (t : Table) (h : ∀ r, g (f r) = g (f' r)) :
    project g (project f t) = project g (project f' t) := by
  simp [project, List.map_map, Function.comp, h]

/-- NECESSITY of the DISTINCT guard: under DISTINCT the pruned column decides how many rows survive -/
theorem pushdown_projections_needs_no_distinct :
    project (fun r => [col 0 r]) (distinct (project (fun r => [col 0 r, col 1 r]) [[.int 1, .int 1], [.int 1, .int 2]]))
      ≠ project (fun r => [col 0 r]) (distinct (project (fun r => [col 0 r]) [[.int 1, .int 1], [.int 1, .int 2]])) := by
  decide +kernel

/-- **set operations match columns BY POSITION**: pruning the same positions on both operands of a UNION ALL
    preserves the result, for all tables (the parent's needs must be handed to the right operand by ordinal) -/
theorem setop_prune_by_position_preserves (f : Row → Row) (l r : Table) :
    project f (l ++ r) = project f l ++ project f r := by
  simp [project]

/-- NECESSITY (seeded regression C03-7 "by name"): left exposes (a, b), right exposes (b, a) — same names, other
    order; the parent reads `a`.  By position the right operand must keep its FIRST column; keeping the column NAMED
    `a` (its second) returns different rows -/
theorem setop_prune_by_name_counterexample :
    project (fun r => [col 0 r]) ([[Val.int 1, .int 2]] ++ [[.int 3, .int 4]]) = [[.int 1], [.int 3]] ∧
    project (fun r => [col 0 r]) [[Val.int 1, .int 2]] ++ project (fun r => [col 1 r]) [[Val.int 3, .int 4]]
      = [[.int 1], [.int 4]] := by decide +kernel

/-- TABLE FACT (ast): the right operand's referenced columns are computed by ordinal position -/
theorem setop_right_operand_by_ordinal : setOpRightByOrdinal = true := by decide +kernel

theorem projection_guards_present :
    ProjAtom.distinct ∈ projKeepAll ∧ ProjAtom.intersectExcept ∈ projKeepAll := by decide +kernel

/-- turning a derived table into a CTE appended at the END of a well-scoped WITH list keeps it well scoped, provided
    the new body references only names already in the list (definitional in the bag IR: a CTE is a `let`) -/
theorem append_cte_keeps_scoping (ctes : List (String × List String)) (n : String) (refs : List String)
    (h : wellScoped ctes = true) (hr : ∀ r ∈ refs, r ∈ ctes.map (·.1)) :
    wellScoped (ctes ++ [(n, refs)]) = true := by
  rw [wellScoped, wellScopedFrom_append, ← wellScoped, h]
  simp only [wellScopedFrom, List.append_nil, List.contains_eq_mem, List.mem_reverse, Bool.and_true, Bool.true_and,
    List.all_eq_true, decide_eq_true_eq]
  exact hr

/-- known finding C03-eliminate-subqueries-forward-cte-reference, stated precisely: de-duplicating a derived table
    inside an EARLIER CTE against a LATER CTE with the same body yields the WITH list
    [z_2; c1 refs {z_2, c2}; c2], which is not well scoped -/
theorem eliminate_subqueries_forward_reference_witness :
    wellScoped [("c1", []), ("c2", [])] = true ∧
    wellScoped [("z_2", []), ("c1", ["z_2", "c2"]), ("c2", [])] = false ∧
    wellScoped [("z_2", []), ("c2", []), ("c1", ["z_2", "c2"])] = true := by decide +kernel

/-- LEFT join on a key that is unique in the joined source, none of whose columns is used: the join disappears.
    Stated for ALL tables; uniqueness enters as "at most one match per left row" … -/
theorem eliminate_left_join_on_unique_key (on : Row → Row → B3) (l r : Table) (wr : Nat) (π g : Row → Row)
    (hunused : ∀ a b, π (a ++ b) = g a) (huniq : ∀ a ∈ l, (matchesOf on a r).length ≤ 1) :
    project π (leftJoin on l r wr) = project g l := by
  rw [leftJoin_eq_lookup on l r wr huniq]
  simp only [project, List.map_map, Function.comp_def, hunused]

/-- … which follows from "joined on all unique outputs": pairwise distinct keys in the joined source and an ON
    condition that pins the key (DISTINCT / GROUP BY outputs all equated in ON) -/
theorem unique_key_gives_at_most_one_match (on : Row → Row → B3) (key hk : Row → Val) (a : Row) (r : Table)
    (hon : ∀ b, isTrue (on a b) = true → key b = hk a) (hd : r.Pairwise (fun x y => key x ≠ key y)) :
    (matchesOf on a r).length ≤ 1 := by
  -- the matches are a sublist of `r`, so their keys are pairwise distinct, and they all have the key `hk a`
  have hp : (matchesOf on a r).Pairwise (fun x y => key x ≠ key y) := hd.sublist List.filter_sublist
  have hm : ∀ b ∈ matchesOf on a r, key b = hk a := fun b hb => hon b (List.mem_filter.mp hb).2
  generalize matchesOf on a r = m at hp hm
  match m, hp, hm with
  | [], _, _ => exact Nat.zero_le _
  | [_], _, _ => exact Nat.le_refl _
  | b :: c :: _, hp, hm =>
    exact absurd ((hm b (by simp)).trans (hm c (by simp)).symm) ((List.pairwise_cons.mp hp).1 c (by simp))

example : project (fun r => [col 0 r]) (leftJoin (fun a b => eq3 (col 0 a) (col 0 b)) [[.int 1], [.null]] [[.int 1], [.int 2]] 1)
    = project (fun r => [col 0 r]) [[.int 1], [.null]] := by decide +kernel

/-- NECESSITY of uniqueness: duplicates in the joined source multiply left rows -/
theorem eliminate_left_join_needs_unique :
    project (fun r => [col 0 r]) (leftJoin (fun a b => eq3 (col 0 a) (col 0 b)) [[.int 1]] [[.int 1], [.int 1]] 1)
      ≠ project (fun r => [col 0 r]) [[.int 1]] := by decide +kernel

/-- NECESSITY of `join.side == "LEFT"`: an inner join drops unmatched left rows -/
theorem eliminate_inner_join_unsound :
    project (fun r => [col 0 r]) (innerJoin (fun a b => eq3 (col 0 a) (col 0 b)) [[.int 1]] [[.int 2]])
      ≠ project (fun r => [col 0 r]) [[.int 1]] := by decide +kernel

/-- a CROSS join with a source of EXACTLY one row disappears (the no-ON branch) -/
theorem eliminate_cross_join_single_row (l : Table) (b : Row) (π g : Row → Row) (hunused : ∀ a, π (a ++ b) = g a) :
    project π (product l [b]) = project g l := by
  simp only [project, product, List.map_cons, List.map_nil, ← List.map_eq_flatMap, List.map_map, Function.comp_def,
    hunused]

/-- what the no-ON branch relies on, read off the guards extracted on this run (since /repo 030ac60): a source
    accepted as single-row WITHOUT a LIMIT 1 has no HAVING, no WHERE on a FROM-less SELECT, and is either FROM-less
    or an un-grouped all-aggregate SELECT — the shapes that return EXACTLY one row, which is the hypothesis of
    `eliminate_cross_join_single_row` -/
theorem single_row_guard_sound (s : ElimShape) (h : hasSingleOutputRow singleRowGuards s = true)
    (hl : s.limit1 = false) :
    s.having = false ∧ (s.where_ && s.noFrom) = false ∧ (s.noFrom = true ∨ (s.group = false ∧ s.allAgg = true)) := by
  -- all three guards are in the extracted list, so the decision is this Boolean formula
  have e : hasSingleOutputRow singleRowGuards s
      = (s.limit1 || (!s.having && !(s.where_ && s.noFrom) && (s.noFrom || (!s.group && s.allAgg)))) := rfl
  rw [e, hl] at h
  simp only [Bool.false_or, Bool.and_eq_true, Bool.not_eq_true', Bool.or_eq_true] at h
  exact ⟨h.1.1, h.1.2, h.2⟩

/-- STILL TRUE TODAY (known finding C03-eliminate-joins-limit1-empty; fixtures pin the rewrite): LIMIT 1 bounds the
    row count by one from ABOVE only; with ZERO rows the cross join is empty and dropping it is wrong -/
theorem eliminate_cross_join_at_most_one_row_unsound :
    project (fun r => [col 0 r]) (product [[.int 1], [.int 2]] (limitOffset (some 1) 0 []))
      ≠ project (fun r => [col 0 r]) [[.int 1], [.int 2]] := by decide +kernel

/-- the model still accepts LIMIT 1 as single-row, as the code does -/
theorem limit1_still_accepted :
    hasSingleOutputRow singleRowGuards
      { isScope := true, used := false, side := .none, hasOn := false, uniqueOutputs := [], joinKeys := [],
        allAgg := false, limit1 := true, noFrom := false } = true := by decide +kernel

/-- UNREPAIRED VARIANT (before 030ac60, `guards = []`): aggregates under GROUP BY were accepted although they return
    one row PER GROUP — x = {(1)} × two groups gives two rows.  Pure model/bag facts, independent of regeneration. -/
theorem eliminate_cross_join_grouped_aggregates_unsound :
    hasSingleOutputRow []
      { isScope := true, used := false, side := .none, hasOn := false, uniqueOutputs := [], joinKeys := [],
        allAgg := true, limit1 := false, noFrom := false, group := true } = true ∧
    hasSingleOutputRow allSingleRowAtoms
      { isScope := true, used := false, side := .none, hasOn := false, uniqueOutputs := [], joinKeys := [],
        allAgg := true, limit1 := false, noFrom := false, group := true } = false ∧
    project (fun r => [col 0 r]) (product [[.int 1]] [[.int 1], [.int 1]]) ≠ project (fun r => [col 0 r]) [[.int 1]] := by
  decide +kernel

/-- UNREPAIRED VARIANT: HAVING / a FROM-less SELECT with WHERE may return NO row; the cross join is then empty -/
theorem eliminate_cross_join_empty_source_unsound :
    hasSingleOutputRow []
      { isScope := true, used := false, side := .none, hasOn := false, uniqueOutputs := [], joinKeys := [],
        allAgg := true, limit1 := false, noFrom := false, having := true } = true ∧
    hasSingleOutputRow allSingleRowAtoms
      { isScope := true, used := false, side := .none, hasOn := false, uniqueOutputs := [], joinKeys := [],
        allAgg := true, limit1 := false, noFrom := false, having := true } = false ∧
    hasSingleOutputRow []
      { isScope := true, used := false, side := .none, hasOn := false, uniqueOutputs := [], joinKeys := [],
        allAgg := false, limit1 := false, noFrom := true, where_ := true } = true ∧
    hasSingleOutputRow allSingleRowAtoms
      { isScope := true, used := false, side := .none, hasOn := false, uniqueOutputs := [], joinKeys := [],
        allAgg := false, limit1 := false, noFrom := true, where_ := true } = false ∧
    project (fun r => [col 0 r]) (product [[.int 1]] []) ≠ project (fun r => [col 0 r]) [[.int 1]] := by
  decide +kernel

theorem eliminate_guards_present :
    elimTop = [.isScope, .notUsed] ∧ elimBranchA = [.sideLeft, .joinedOnAllUnique] ∧
    elimBranchB = [.noOn, .singleRow] ∧ (∀ a ∈ allSingleRowAtoms, a ∈ singleRowGuards) := by decide +kernel

/-- `optimize_joins`: inner joins commute as bags, up to the column permutation the projection undoes -/
theorem inner_join_reorder (on on' : Row → Row → B3) (l r : Table) (π π' : Row → Row)
    (hon : ∀ a b, on a b = on' b a) (hπ : ∀ a b, π (a ++ b) = π' (b ++ a)) :
    BagEq (project π (innerJoin on l r)) (project π' (innerJoin on' r l)) := by
  rw [project_innerJoin_eq_loops, project_innerJoin_eq_loops]
  simp only [hon, hπ]
  exact perm_flatMap_comm l r _

/-- NECESSITY of `not any(join.side …)`: LEFT joins do not commute -/
theorem left_join_reorder_unsound :
    ¬ BagEq (project (fun r => [col 0 r, col 1 r]) (leftJoin (fun a b => eq3 (col 0 a) (col 0 b)) [[.int 1]] [] 1))
            (project (fun r => [col 1 r, col 0 r]) (leftJoin (fun a b => eq3 (col 0 a) (col 0 b)) [] [[.int 1]] 1)) := by
  intro h; have := h.length_eq; revert this; decide +kernel

theorem reorder_guard_present : reorderRequiresNoSide = true ∧
    isReorderable reorderRequiresNoSide [.none, .left] = false ∧
    isReorderable reorderRequiresNoSide [.none, .none] = true := by decide +kernel

/-- every prefix of a pipeline of result-preserving rules preserves the result (any query type, any semantics) -/
theorem prefix_preserves {Q R : Type} (sem : Q → R) (rules : List (Q → Q)) (h : ∀ r ∈ rules, Preserves sem r)
    (n : Nat) : Preserves sem (applyRules (rules.take n)) :=
  applyRules_preserves sem _ fun r hr => h r (List.mem_of_mem_take hr)

/-- TABLE FACT: the pipeline the harness runs prefix by prefix is the one in optimizer.py; `qualify` comes first -/
theorem rules_table : rules.head? = some "qualify" ∧ rules.length = 14 ∧
    "pushdown_predicates" ∈ rules ∧ "merge_subqueries" ∈ rules ∧ "eliminate_joins" ∈ rules ∧
    "optimize_joins" ∈ rules := by decide +kernel

end SqlglotModel.Properties.C03
