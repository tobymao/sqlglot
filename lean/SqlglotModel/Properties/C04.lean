/-
  C04 — Quoting of strings, identifiers and comments is lossless and inescapable.
  Only property theorems, non-vacuity examples and counter-example witnesses live here.

  Two levels of statements.  (1) `_extract_string` (what the tokenizer returns after the opening delimiter, and what it
  leaves unread) and `_scan_comment` (what is left unread after a block comment).  (2) Token level: `lexLoop` of
  Model/StrLex.lean — the `_scan` loop with the dispatch `_scan` → `_scan_keywords` → `_scan_string` /
  `_scan_identifier` / `_scan_comment` modelled, and everything else the scanner does (numbers, keywords, operators,
  variables) an arbitrary parameter `other`: the theorems hold for every `other`.
-/
import SqlglotModel.Proofs.Str
import SqlglotModel.Proofs.StrFast
import SqlglotModel.Proofs.Comment
import SqlglotModel.Proofs.StrLex
import SqlglotModel.Proofs.StrDerive
import SqlglotModel.Generated.C04

namespace SqlglotModel.Properties.C04
open SqlglotModel.Str

/-- Slow path: for every well-formed pairing of tokenizer and generator tables and EVERY value `v`, the loop of
    `_extract_string` run on `escape_str(v)` + closing delimiter + `rest` returns exactly `v` and leaves exactly `rest`
    (provided `rest` does not start with the delimiter).  No bound on `v`. -/
theorem string_roundtrip (c : Cfg) (h : wf c = true) (v rest : List Char) (hr : rest.head? ≠ some c.q) :
    scanL c (escapeStr c v ++ c.q :: rest) [] = .ok v rest := by
  simpa using scanL_escapeStr c (WF.of_wf c h) v [] rest hr

example : wf exMysql = true ∧ wf exBigquery = true ∧ wf exBase = true ∧ wf exBracketIdent = true :=
  ⟨exMysql_wf, exBigquery_wf.1, exBase_wf.1, exBracketIdent_wf.1⟩
example : scanL exMysql (escapeStr exMysql "a\"\"'\\\n%".toList ++ '\'' :: [' ', 'x']) [] = .ok "a\"\"'\\\n%".toList [' ', 'x'] :=
  string_roundtrip exMysql exMysql_wf _ _ (by decide)

/-- The `str.find` fast path of `_extract_string` is a sound optimisation: whenever it applies, it returns what the slow
    loop returns — on EVERY input stream, not only generated ones. -/
theorem fast_eq_slow (c : Cfg) (h : wfFast c = true) (s t r : List Char) (hf : fastPath c s = some (t, r)) :
    scanL c s [] = .ok t r :=
  scanL_of_fastPath c (WFFast.of_wfFast c h) s t r hf

example : wfFast exMysql = true ∧ fastPath exMysql "ab\"\"c' x".toList = some ("ab\"\"c".toList, " x".toList) := by decide +kernel

/-- `_extract_string` as executed (fast path when applicable, slow loop otherwise) inverts `escape_str`. -/
theorem extract_roundtrip (c : Cfg) (h : wf c = true) (hf : wfFast c = true) (v rest : List Char)
    (hr : rest.head? ≠ some c.q) :
    extract c (escapeStr c v ++ c.q :: rest) = .ok v rest :=
  extract_escapeStr c (WF.of_wf c h) (WFFast.of_wfFast c hf) v rest hr

example : extract exBigquery (escapeStr exBigquery "it's \\ ok".toList ++ ['\'']) = .ok "it's \\ ok".toList [] :=
  extract_roundtrip exBigquery exBigquery_wf.1 exBigquery_wf.2 _ _ (by decide +kernel)

/-- `self._advance(alnum=True)` (bulk-skipping alphanumeric runs inside the loop) does not change the result, provided no
    escape character and no delimiter is alphanumeric (`isAlnum` stands for `str.isalnum`; the harness checks the
    hypothesis against CPython for every extracted table). -/
theorem alnum_skip_sound (isAlnum : Char → Bool) (c : Cfg)
    (hal : ∀ x, isAlnum x = true → c.isEsc x = false ∧ x ≠ c.q) (cur : Char) (rest acc : List Char) :
    scanA isAlnum c (rest.length + 1) cur rest acc = scan c cur rest acc :=
  scanA_eq_scan isAlnum c hal (rest.length + 1) cur rest acc (Nat.lt_succ_self _)

example : scanA (fun x => x.isAlphanum) exMysql 9 'a' "bc''d' x".toList [] = .ok "abc'd".toList " x".toList := by decide +kernel

/-- Quoted identifiers: `identifier_sql` (replace IDENTIFIER_END by its escaped form, no escape sequences) followed by
    `_scan_identifier` (`_extract_string` with `escapes = IDENTIFIER_ESCAPES ∪ {end}`) returns the name. -/
theorem identifier_roundtrip (c : Cfg) (hsup : c.supports = false) (h : wf c = true) (hf : wfFast c = true)
    (v rest : List Char) (hr : rest.head? ≠ some c.q) :
    extract c (identifierSql c v ++ c.q :: rest) = .ok v rest := by
  rw [identifierSql_eq c hsup v]
  exact extract_roundtrip c h hf v rest hr

example : extract exBracketIdent (identifierSql exBracketIdent "a]b".toList ++ [']', '.']) = .ok "a]b".toList ['.'] :=
  identifier_roundtrip exBracketIdent rfl exBracketIdent_wf.1 exBracketIdent_wf.2 _ _ (by decide +kernel)

/-- `sanitize_comment` leaves neither `*/` nor `/*` in the text, whatever the comment (and whatever `str.strip` does). -/
theorem sanitize_no_marker (isSpace : Char → Bool) (c : List Char) :
    hasPair '*' '/' (sanitizeComment isSpace c) = false ∧ hasPair '/' '*' (sanitizeComment isSpace c) = false :=
  sanitize_no_pair isSpace c

/-- The block comment the generator emits (`/*` + sanitize_comment(c) + `*/`) is consumed by `_scan_comment` exactly up
    to its own terminator — with and without nested-comment support — so whatever follows is lexed as if the comment
    were absent.  `isSpace` stands for `x.strip() == ""`; the only fact used is that `/` is not blank (`hs2` is not needed:
    the replacements keep the last character, `Str.getLast?_replace2`). -/
theorem comment_scan_exact (isSpace : Char → Bool) (hs1 : isSpace '/' = false) (hs2 : isSpace '*' = false)
    (nested : Bool) (c rest : List Char) (hc : c ≠ []) :
    scanCL nested (sanitizeComment isSpace c ++ '*' :: '/' :: rest) = some rest :=
  scanCL_sanitize isSpace hs1 nested c rest hc

example : scanCL true (sanitizeComment (· == ' ') "*/ x /* y /".toList ++ '*' :: '/' :: " z".toList) = some " z".toList :=
  comment_scan_exact _ (by decide +kernel) (by decide +kernel) true _ _ (by decide +kernel)

/-- without the sanitising step the same text swallows / cuts the statement (why the guard is essential) -/
example : scanCL true ("a */ x".toList ++ '*' :: '/' :: " z".toList) ≠ some " z".toList := by decide +kernel

/-- Literals compose: a literal is a complete piece of text (`Boundary`), and complete pieces separated by a blank lex
    to the concatenation of their tokens — so `a` and `b` in `comment_transparent` may be any such sequences. -/
theorem literal_boundary (L : LexCfg) (isSpace : Char → Bool) (other : List Char → Step) (start : List Char)
    (c : Cfg) (kind : TokKind) (hd : strDispatchOk L start c kind = true) (hw : wf c = true) (hf : wfFast c = true)
    (hsp : ∀ c0, start.head? = some c0 → isSpace c0 = false) (v : List Char) :
    Boundary L isSpace other (start ++ escapeStr c v ++ [c.q]) [⟨kind, v⟩] :=
  boundary_literal L isSpace other start c kind (StrDispatch.of_ok L start c kind hd) (WF.of_wf c hw)
    (WFFast.of_wfFast c hf) hsp v

theorem identifier_boundary (L : LexCfg) (isSpace : Char → Bool) (other : List Char → Step) (i0 : Char) (c : Cfg)
    (hd : idDispatchOk L i0 c = true) (hsup : c.supports = false) (hw : wf c = true) (hf : wfFast c = true)
    (hsp : isSpace i0 = false) (v : List Char) :
    Boundary L isSpace other (i0 :: identifierSql c v ++ [c.q]) [⟨.ident, v⟩] :=
  boundary_identifier L isSpace other i0 c hd hsup (WF.of_wf c hw) (WFFast.of_wfFast c hf) hsp v

/-- The SQL written for a string literal — `start` (QUOTE_START, or a prefix such as N') + `escape_str(v)` + closing
    delimiter — followed by a blank, lexes to exactly ONE token of the literal's kind whose text is `v`: for every value
    `v`, every well-formed pairing whose dispatch tables pass `strDispatchOk`, and every behaviour `other` of the rest of
    the scanner.  `isSpace` stands for `str.isspace`. -/
theorem literal_single_token (L : LexCfg) (isSpace : Char → Bool) (other : List Char → Step) (start : List Char)
    (c : Cfg) (kind : TokKind) (hd : strDispatchOk L start c kind = true) (hw : wf c = true) (hf : wfFast c = true)
    (hsp : ∀ c0, start.head? = some c0 → isSpace c0 = false) (v : List Char) :
    lexLoop L isSpace other (start ++ escapeStr c v ++ [c.q, ' ']) = some (some [⟨kind, v⟩]) := by
  simpa using boundary_alone (literal_boundary L isSpace other start c kind hd hw hf hsp v)

example : lexLoop exLexBase (· == ' ') (fun _ => .unsupported) ("N'".toList ++ escapeStr exBase "it's".toList ++ ['\'', ' '])
    = some (some [⟨.national, "it's".toList⟩]) :=
  literal_single_token exLexBase _ _ _ exBase .national (by decide +kernel) exBase_wf.1 exBase_wf.2
    (by intro c0 h; simp at h; subst h; decide) _

/-- … and a quoted identifier to exactly one IDENTIFIER token named `v`. -/
theorem identifier_single_token (L : LexCfg) (isSpace : Char → Bool) (other : List Char → Step) (i0 : Char) (c : Cfg)
    (hd : idDispatchOk L i0 c = true) (hsup : c.supports = false) (hw : wf c = true) (hf : wfFast c = true)
    (hsp : isSpace i0 = false) (v : List Char) :
    lexLoop L isSpace other (i0 :: identifierSql c v ++ [c.q, ' ']) = some (some [⟨.ident, v⟩]) := by
  simpa using boundary_alone (identifier_boundary L isSpace other i0 c hd hsup hw hf hsp v)

example : lexLoop exLexBase (· == ' ') (fun _ => .unsupported) ('"' :: identifierSql exIdent "a\"b".toList ++ ['"', ' '])
    = some (some [⟨.ident, "a\"b".toList⟩]) :=
  identifier_single_token exLexBase _ _ '"' exIdent (by decide +kernel) rfl exIdent_wf.1 exIdent_wf.2 (by decide +kernel) _

theorem boundary_compose (L : LexCfg) (isSpace : Char → Bool) (other : List Char → Step) (a b : List Char)
    (ts us : List Tok) (ha : Boundary L isSpace other a ts) (hb : Boundary L isSpace other b us) :
    Boundary L isSpace other (a ++ ' ' :: b) (ts ++ us) :=
  boundary_append L isSpace other a b ts us ha hb

/-- opaque tokens of the rest of the scanner are complete pieces too, by their specification -/
theorem opaque_boundary (L : LexCfg) (isSpace : Char → Bool) (other : List Char → Step) (w : List Char) (t : Tok)
    (h : Opaque L isSpace other w t) : Boundary L isSpace other w [t] :=
  boundary_opaque L isSpace other w t h

/-- A generated block comment between two pieces of SQL does not change the tokens: for every complete prefix `a`
    (literals, identifiers, opaque tokens, comments — see the boundary theorems), every comment text `cm` and EVERY
    continuation `b`.  The hypotheses on `isSpace` (= `str.isspace`, which agrees with `strip()` emptiness) are checked
    against CPython by the harness: `/` and `*` are not blank, and no blank character upper-cases to the third
    character of a trie key extending `/*` (the hint start `/*+`). -/
theorem comment_transparent (L : LexCfg) (isSpace : Char → Bool) (other : List Char → Step)
    (hd : comDispatchOk L = true) (hs0 : isSpace '/' = false) (hs1 : isSpace '*' = false)
    (hext : ∀ x, (x = ' ' ∨ isSpace x = true) → (commentExts L).contains (upperAscii x) = false)
    (a : List Char) (ts : List Tok) (ha : Boundary L isSpace other a ts) (cm b : List Char) (hc : cm ≠ []) :
    lexLoop L isSpace other (a ++ ' ' :: '/' :: '*' :: sanitizeComment isSpace cm ++ '*' :: '/' :: ' ' :: b)
      = lexLoop L isSpace other (a ++ ' ' :: b) := by
  rw [ha b, ← boundary_maybeComment L isSpace other hd hs0 hext [cm] a ts ha b]
  simp [maybeComment, hc]

example : lexLoop exLexBase (· == ' ') (fun _ => .unsupported)
      ("'x'".toList ++ ' ' :: '/' :: '*' :: sanitizeComment (· == ' ') "*/ '".toList ++ '*' :: '/' :: ' ' :: "'y'".toList)
    = lexLoop exLexBase (· == ' ') (fun _ => .unsupported) ("'x'".toList ++ ' ' :: "'y'".toList) := by
  have ha := literal_boundary exLexBase (· == ' ') (fun _ => .unsupported) "'".toList exBase .str (by decide +kernel)
    exBase_wf.1 exBase_wf.2 (by intro c0 h; simp at h; subst h; decide) "x".toList
  rw [show "'".toList ++ escapeStr exBase "x".toList ++ [exBase.q] = "'x'".toList by decide +kernel] at ha
  exact comment_transparent exLexBase _ _ (by decide +kernel) (by decide +kernel) (by decide +kernel)
    (by intro x hx
        obtain rfl : x = ' ' := hx.elim id (by simp)
        decide +kernel)
    _ _ ha _ _ (by decide +kernel)

/-- `maybe_comment` (plain form): whatever comments are attached, the emitted text is the SQL followed by block comments
    only, and it lexes to the tokens of the SQL alone. -/
theorem maybe_comment_transparent (L : LexCfg) (isSpace : Char → Bool) (other : List Char → Step)
    (hd : comDispatchOk L = true) (hs0 : isSpace '/' = false) (hs1 : isSpace '*' = false)
    (hext : ∀ x, (x = ' ' ∨ isSpace x = true) → (commentExts L).contains (upperAscii x) = false)
    (sql : List Char) (ts : List Tok) (ha : Boundary L isSpace other sql ts) (comments : List (List Char)) (b : List Char) :
    lexLoop L isSpace other (maybeComment isSpace sql comments ++ ' ' :: b) = lexLoop L isSpace other (sql ++ ' ' :: b) := by
  rw [boundary_maybeComment L isSpace other hd hs0 hext comments sql ts ha b, ha b]

/-- Reading back a generated block comment gives one comment whose TEXT is exactly what the generator wrote between
    `/*` and `*/` (`self._comments.append(self._text[2:-1])`), with and without nested-comment support, whatever the
    text contains — `--`, `#`, `//`, `{#` openers included (the block scanner does not look at them). -/
theorem comment_read_back (isSpace : Char → Bool) (hs1 : isSpace '/' = false) (hs2 : isSpace '*' = false)
    (nested : Bool) (c rest : List Char) (hc : c ≠ []) :
    readComment nested (sanitizeComment isSpace c ++ '*' :: '/' :: rest) = some (sanitizeComment isSpace c, rest) :=
  readComment_of_scanCL nested _ rest (scanCL_sanitize isSpace hs1 nested c rest hc)

example : readComment true (sanitizeComment (· == ' ') "-- # // {# */".toList ++ '*' :: '/' :: " x".toList)
    = some (sanitizeComment (· == ' ') "-- # // {# */".toList, " x".toList) :=
  comment_read_back _ (by decide +kernel) (by decide +kernel) true _ _ (by decide +kernel)

/-- Why BOTH markers must be broken up, whatever the WRITER's dialect thinks about nesting: the reader decides.  A comment
    text that keeps an opening marker (` a/*b `, as when only `*/` is sanitised: `see s3://bucket/*/part`) is read back by a reader without
    nested comments, but a reader WITH nested comments (e.g. the routing pass of Athena's tokenizer in front of the
    Trino sub-tokenizer) opens a nested comment that never closes — while the fully sanitised text reads back under
    both readers (`comment_read_back`, for every `nested`). -/
theorem comment_open_marker_needs_breaking :
    scanCL false [' ', 'a', '/', '*', 'b', ' ', '*', '/', ',', 'b'] = some [',', 'b']
    ∧ scanCL true [' ', 'a', '/', '*', 'b', ' ', '*', '/', ',', 'b'] = none
    ∧ (∀ nested, readComment nested (sanitizeComment (· == ' ') ['a', '/', '*', 'b'] ++ '*' :: '/' :: [',', 'b'])
        = some (sanitizeComment (· == ' ') ['a', '/', '*', 'b'], [',', 'b'])) := by
  refine ⟨by decide +kernel, by decide +kernel, fun nested => ?_⟩
  exact comment_read_back _ (by decide +kernel) (by decide +kernel) nested _ _ (by simp)

/-- Raw strings (r'…', one-character delimiter) as the TOKENIZER reads them: a value that contains neither the delimiter
    nor — where STRING_ESCAPES_ALLOWED_IN_RAW_STRINGS — an escape character is read back verbatim.  (The generator never
    writes raw syntax: `rawstring_sql` writes a plain literal, see `raw_roundtrip`.) -/
theorem raw_literal_read (c : Cfg) (rawEsc : Bool) (h : rawReadOk c rawEsc = true) (v rest : List Char)
    (hr : rest.head? ≠ some c.q) (hv : ∀ x ∈ v, x ≠ c.q ∧ (rawEsc = true → c.isEsc x = false)) :
    extractG c [c.q] true rawEsc (v ++ c.q :: rest) = .ok v rest :=
  extractG_raw c rawEsc v rest h hr hv

example : extractG exBigquery ['\''] true true ("a\"b".toList ++ '\'' :: [' ']) = .ok "a\"b".toList [' '] :=
  raw_literal_read exBigquery true (by decide +kernel) _ _ (by decide +kernel) (by decide +kernel)

/-- the premises are needed: with an escape character in the value (escapes allowed in raw strings) or the delimiter in
    the value, the raw scan ends elsewhere -/
theorem raw_read_needs_premise :
    extractG exBigquery ['\''] true true ("a\\".toList ++ ['\'']) = .err
    ∧ extractG exBigquery ['\''] true true ("a'b".toList ++ ['\'']) = .ok ['a'] ['b', '\''] := by
  decide +kernel

/-- A foreign delimiter inside a quoted identifier (another identifier's closing character, a string quote) is preserved:
    instance of `identifier_roundtrip`, spelled out because `_scan_identifier` must build its escape set from THIS
    identifier's own closing delimiter only (`generated_identifier_scan_shape`). -/
theorem foreign_delimiter_preserved (c : Cfg) (hsup : c.supports = false) (h : wf c = true) (hf : wfFast c = true)
    (pre post rest : List Char) (x : Char) (hr : rest.head? ≠ some c.q) :
    extract c (identifierSql c (pre ++ x :: post) ++ c.q :: rest) = .ok (pre ++ x :: post) rest :=
  identifier_roundtrip c hsup h hf _ rest hr

example : extract exIdent (identifierSql exIdent "a`]b".toList ++ ['"']) = .ok "a`]b".toList [] := by
  rw [show "a`]b".toList = "a".toList ++ '`' :: "]b".toList by decide +kernel]
  exact foreign_delimiter_preserved exIdent rfl exIdent_wf.1 exIdent_wf.2 "a".toList "]b".toList [] '`' (by decide +kernel)

open SqlglotModel.Generated.C04 in
/-- ast facts about the identifier scanner and live facts about its escape set, per dialect and tokenizer core:
    `_scan_identifier` calls `_extract_string(identifier_end, escapes=self.identifier_escapes | {identifier_end})`, the
    core stores the set it is given, the tokenizer passes `_IDENTIFIER_ESCAPES = set(IDENTIFIER_ESCAPES)`, and the live
    `identifier_escapes` of every core equals the IDENTIFIER_ESCAPES its tokenizer class declares (no closing delimiter
    of another identifier sneaks in); every raw-string start with a one-character delimiter satisfies `rawReadOk`. -/
theorem generated_identifier_scan_shape :
    scanIdentifierShape = ["_extract_string(identifier_end, escapes=self.identifier_escapes | {identifier_end})",
      "cls._IDENTIFIER_ESCAPES = set(cls.IDENTIFIER_ESCAPES)", "identifier_escapes=self._IDENTIFIER_ESCAPES",
      "self.identifier_escapes = identifier_escapes"]
    ∧ (!identifierEscapesLive.isEmpty && identifierEscapesLive.all fun t => t.2.1 == t.2.2) = true
    ∧ (dialects.all fun d => d.lex.all lexRawOk) = true :=
  ⟨rfl, by decide +kernel, by decide +kernel⟩

/-- `rawstring_sql` (backslashes doubled when the backslash is a string escape, then `escape_str(escape_backslash=False)`)
    writes exactly what `escape_str` writes, hence the raw literal round-trips like a plain one. -/
theorem raw_roundtrip (c : Cfg) (h : wf c = true) (hf : wfFast c = true) (hr : wfRaw c = true) (v rest : List Char)
    (hq : rest.head? ≠ some c.q) :
    extract c (rawSql c v ++ c.q :: rest) = .ok v rest := by
  rw [rawSql_eq c hr v]
  exact extract_roundtrip c h hf v rest hq

example : extract exBigquery (rawSql exBigquery "a\\'b".toList ++ ['\'']) = .ok "a\\'b".toList [] :=
  raw_roundtrip exBigquery exBigquery_wf.1 exBigquery_wf.2 (by decide +kernel) _ _ (by decide +kernel)

/-- `bytestring_sql` (`escape_str(escape_backslash=False)` on the byte pairing) round-trips every value WITHOUT a
    backslash … -/
theorem byte_roundtrip_partial (c : Cfg) (h : wf c = true) (hf : wfFast c = true) (v rest : List Char)
    (hv : '\\' ∉ v) (hq : rest.head? ≠ some c.q) :
    extract c (byteSql c v ++ c.q :: rest) = .ok v rest := by
  rw [byteSql_eq c v hv]
  exact extract_roundtrip c h hf v rest hq

example : extract exPostgresByte (byteSql exPostgresByte "a'\n".toList ++ ['\'', ' ']) = .ok "a'\n".toList [' '] :=
  byte_roundtrip_partial exPostgresByte (by decide +kernel) (by decide +kernel) _ _ (by decide +kernel) (by decide +kernel)

/-- … and not the others: the byte pairing itself is well-formed, the defect is `escape_backslash=False`
    (known finding C04-bytestring-backslash). -/
theorem byte_backslash_counterexample :
    wf exPostgresByte = true ∧ wfFast exPostgresByte = true
    ∧ extract exPostgresByte (byteSql exPostgresByte ['\\'] ++ [exPostgresByte.q]) = .err
    ∧ extract exPostgresByte (byteSql exPostgresByte ['\\', 'n'] ++ [exPostgresByte.q]) = .ok ['\n'] [] := by
  decide +kernel

/-- The general `_extract_string` model used by the token-level model for multi-character delimiters and raw strings
    (`extractG`) coincides, for a one-character delimiter and a non-raw string, with the model the round-trip theorems
    are about — the two models of the same Python loop cannot drift apart. -/
theorem general_extract_specialises (c : Cfg) (rawEsc : Bool) (s : List Char) :
    extractG c [c.q] false rawEsc s = extract c s :=
  extractG_single c rawEsc s

open SqlglotModel.Generated.C04 in
/-- Audited allow-list of the places in sqlglot/expressions/*.py that construct an `Identifier` directly (ast): only
    `to_identifier` itself (which decides `quoted` from SAFE_IDENTIFIER_RE) and `parse_identifier`'s fast path (taken
    only after SAFE_IDENTIFIER_RE matched).  Any other construction bypasses the automatic quoting of names that come
    in through the builder API (`exp.convert`, `column`, `alias_`, …) and breaks this theorem. -/
theorem generated_identifier_sites :
    identifierSites = ["builders.py:parse_identifier:Identifier(this=name, quoted=False)",
      "core.py:to_identifier:Identifier(this=name, quoted=not SAFE_IDENTIFIER_RE.match(name) if quoted is None else quoted)"] :=
  rfl

open SqlglotModel.Generated.C04 in
/-- For every dialect and every tokenizer core: the generator's string start, national prefix, byte-string start,
    identifier start and `/*` are dispatched by `_scan` to the scanner and pairing the theorems above are about
    (incl. bigquery, where the only trie keys extending the quote are the triple quotes and the quote is
    backslash-escaped). -/
theorem generated_dispatch : (dialects.all dialectDispatchOk) = true := by
  decide +kernel

open SqlglotModel.Generated.C04 in
/-- byte-string pairings (dialects with a BYTE_START) are well-formed, and `rawstring_sql` agrees with `escape_str`
    for every string pairing -/
theorem generated_wf_byte_raw :
    (dialects.all fun d =>
      (d.byteCfgs.isEmpty || (cfgsOk wf d.byteCfgs [] && cfgsOk wfFast d.byteCfgs []))
      && cfgsOk wfRaw d.strCfgs []) = true := by
  decide +kernel

open SqlglotModel.Generated.C04 in
/-- Audited list (ast, regenerated each run) of everything in the dialect generators that can write quoted text without
    going through the modelled base methods: (1) overrides of the quoting methods — "delegates" = the body is
    `return super().m(…)`; anything else is pinned by a hash of its ast and has its own correspondence / search coverage
    (T-SQL `identifier_sql`: flagged identifiers, every dialect delimiter in the name); (2) every function that touches a
    quote / identifier delimiter attribute; (3) TRANSFORMS entries for literal-like nodes.  A new or edited override
    breaks this theorem until it is re-audited. -/
theorem generated_quoting_overrides :
    quotingOverrides = ["generators/duckdb.py:DuckDBGenerator.hexstring_sql:delegates",
       "generators/tsql.py:TSQLGenerator.identifier_sql:f107de923c5a"]
    ∧ delimiterSites = ["dialects/dialect.py:_Dialect.__new__",
       "dialects/dialect.py:json_extract_segments",
       "dialects/dialect.py:json_extract_segments._json_extract_segments",
       "generator.py:Generator.__init__",
       "generator.py:Generator.bytestring_sql",
       "generator.py:Generator.escape_str",
       "generator.py:Generator.identifier_sql",
       "generator.py:Generator.jsonpath_sql",
       "generator.py:Generator.literal_sql",
       "generator.py:Generator.rawstring_sql",
       "generator.py:Generator.unicodestring_sql",
       "generators/databricks.py:DatabricksGenerator.jsonpath_sql",
       "generators/tsql.py:TSQLGenerator.createable_sql",
       "generators/tsql.py:TSQLGenerator.identifier_sql"]
    ∧ literalTransforms = ["generators/bigquery.py:BigQueryGenerator:HexString:lambda self, e: self.hexstring_sql(e, binary_function_repr='FROM_HEX')",
       "generators/dune.py:DuneGenerator:HexString:lambda self, e: f'0x{e.this}'",
       "generators/hive.py:HiveGenerator:National:lambda self, e: self.national_sql(e, prefix='')",
       "generators/singlestore.py:SingleStoreGenerator:National:lambda self, e: self.national_sql(e, prefix='')"] :=
  ⟨rfl, rfl, rfl⟩

open SqlglotModel.Generated.C04 in
/-- Every dialect's (tokenizer core, generator object) pairing — strings and quoted identifiers — is well-formed, so the
    round-trip theorems apply to it.  Exceptions, each with a witness below and a known-finding entry: pass 0 of Athena
    strings, ClickHouse identifiers. -/
theorem generated_wf :
    (dialects.all fun d =>
      cfgsOk wf d.strCfgs (if d.name = "athena" then [0] else [])
      && cfgsOk wf d.idCfgs (if d.name = "clickhouse" then [0] else [])) = true := by
  -- evaluating a dialect's name is dear for the kernel: compare it only where a list does not pass outright
  simp only [cfgsOk_ite]
  decide +kernel

open SqlglotModel.Generated.C04 in
/-- … and the fast path of each of them is sound (one exception: ClickHouse identifiers). -/
theorem generated_wf_fast :
    (dialects.all fun d =>
      cfgsOk wfFast d.strCfgs [] && cfgsOk wfFast d.idCfgs (if d.name = "clickhouse" then [0] else [])) = true := by
  simp only [cfgsOk_ite]
  decide +kernel

open SqlglotModel.Generated.C04 in
/-- Every tokenizer core closes `/*` with `*/`; the generator wraps comments as `/*` sanitize_comment(c) `*/` and
    sanitize_comment is the two pads followed by the two replacements the model hard-codes, in this order. -/
theorem generated_comment_tables :
    (dialects.all fun d => !d.comments.isEmpty && d.comments.all (·.1)) = true
    ∧ sanitizeReplaces = [("*/", "* /"), ("/*", "/ *")] ∧ sanitizePads = 2
    ∧ commentOpen = "/*" ∧ commentClose = "*/" ∧ commentSanitized = true := by
  decide +kernel

open SqlglotModel.Generated.C04 in
/-- shape of the generator functions the model mirrors (ast facts): among them that `maybe_comment` ends in
    `f"{sql} {' '.join(comments_list)}"` and that its only string constants are `/*`, `*/` and a blank — it can emit block
    comments only, never `--`; the table is not empty -/
theorem generated_shapes :
    identifierReplaceShape = true ∧ identifierEscapeDoubles = true ∧ escapeStrReplaceLast = true
    ∧ maybeCommentPlainForm = true ∧ maybeCommentConstants = [" ", "*/", "/*"]
    ∧ dialects ≠ [] := by
  decide +kernel

/-- Whatever the class-body inputs (STRING_ESCAPES, BYTE_STRING_ESCAPES, UNESCAPED_SEQUENCES) and the module default are,
    the ESCAPED_SEQUENCES the `_Dialect` metaclass derives is an inverse of the UNESCAPED_SEQUENCES it derives: what the
    generator writes for `ch` is read back as `ch` by rule 1 of `_extract_string` (condition w4 of `wf`).  The only
    hypotheses are that the two input dicts are dicts (no key twice). -/
theorem derived_inverse_pairs (dflt : List (Seq2 × Char)) (printable : Char → Bool) (b : EscBody)
    (h1 : keysNodup dflt = true) (h2 : keysNodup b.unescBody = true) (ch : Char) (ab : Seq2)
    (h : lookup (deriveEsc dflt printable b).escaped ch = some ab) :
    lookup (deriveEsc dflt printable b).unesc ab = some ch :=
  deriveEsc_inverse dflt printable b h1 h2 (fun _ => rfl) (fun _ => rfl) ch ab h

/-- … and it only ever escapes values that are not printable, or the backslash (the filter that keeps Snowflake's
    `\a -> a` from turning every `a` into `\a`). -/
theorem derived_printable_filter (dflt : List (Seq2 × Char)) (printable : Char → Bool) (b : EscBody) (ch : Char) (ab : Seq2)
    (h : lookup (deriveEsc dflt printable b).escaped ch = some ab) : printable ch = false ∨ ch = '\\' := by
  simpa [keepEscaped] using (mem_escaped dflt printable b ch ab h).2

/-- a default sequence the class body does not override survives the merge whenever the backslash is an escape -/
theorem derived_default_kept (dflt : List (Seq2 × Char)) (printable : Char → Bool) (b : EscBody) (ab : Seq2)
    (hs : b.strEsc.contains '\\' = true ∨ b.byteEsc.contains '\\' = true)
    (hb : ∀ p ∈ b.unescBody, (p.1 == ab) = false) :
    lookup (deriveEsc dflt printable b).unesc ab = lookup dflt ab := by
  have : (b.strEsc.contains '\\' || b.byteEsc.contains '\\') = true := Bool.or_eq_true_iff.mpr hs
  simp only [deriveEsc, this, if_true]
  exact lookup_dictMerge_absent dflt b.unescBody ab hb

/-- consequence for the pairings the round-trip theorems are about: a pairing whose generator table and tokenizer table
    are the derived tables of ONE class satisfies the inverse-pair part of `wf` by construction -/
theorem derived_wf_inverse_condition (dflt : List (Seq2 × Char)) (printable : Char → Bool) (b : EscBody) (c : Cfg)
    (h1 : keysNodup dflt = true) (h2 : keysNodup b.unescBody = true)
    (he : c.escSeq = (deriveEsc dflt printable b).escaped) (hu : c.unesc = (deriveEsc dflt printable b).unesc) :
    ∀ ch a b', lookup c.escSeq ch = some (a, b') → lookup c.unesc (a, b') = some ch :=
  fun ch a b' => deriveEsc_inverse dflt printable b h1 h2 (fun _ => he ▸ rfl) (fun _ => hu ▸ rfl) ch (a, b')

example : (deriveEsc [(('\\', 'a'), Char.ofNat 7), (('\\', '\\'), '\\')] (fun c => c == 'a' || c == '\\')
      { strEsc := ['\\'], byteEsc := [], unescBody := [(('\\', 'a'), 'a')] }).escaped = [('\\', ('\\', '\\'))] := by
  decide +kernel

open SqlglotModel.Generated.C04 in
/-- Every dialect class holds EXACTLY (order included) the flags and tables the model derives from its regenerated
    class-body inputs, with `isprintable` as CPython answers it for the table values — a change to the derivation in
    `_Dialect.__new__` breaks this theorem. -/
theorem generated_escape_derivation :
    (keysNodup escDefault && !escRecords.isEmpty && escRecords.all (recordOk escDefault)) = true := by
  decide +kernel

open SqlglotModel.Generated.C04 in
/-- … and the tables inside the string pairings the round-trip theorems use are those derived tables: the generator side
    from the generator's dialect class (Trino for Athena), the tokenizer side from the tokenizer's dialect class. -/
theorem generated_cfg_tables_derived : (!cfgTies.isEmpty && cfgTies.all (tieOk escRecords)) = true := by
  decide +kernel

/-! ### the two pairings that are not well-formed, with concrete witnesses (snapshots of the pinned commit) -/

/-- Athena: the merged tokenizer treats `\` as an escape, the Trino generator does not escape it: the literal for the
    value `a\` is `'a\'`, which never terminates; the value `\n` (2 characters) comes back as a newline. -/
theorem athena_string_not_wf_witness :
    wf exAthenaMerged = false
    ∧ extract exAthenaMerged (escapeStr exAthenaMerged ['a', '\\'] ++ [exAthenaMerged.q]) = .err
    ∧ extract exAthenaMerged (escapeStr exAthenaMerged ['\\', 'n'] ++ [exAthenaMerged.q]) = .ok ['\n'] [] := by
  decide +kernel

/-- ClickHouse: `\` is an identifier escape for the tokenizer, `identifier_sql` only doubles the quote. -/
theorem clickhouse_identifier_not_wf_witness :
    wf exClickhouseIdent = false
    ∧ extract exClickhouseIdent (identifierSql exClickhouseIdent ['a', '\\'] ++ [exClickhouseIdent.q]) = .err
    ∧ extract exClickhouseIdent (identifierSql exClickhouseIdent ['\\', 'n'] ++ [exClickhouseIdent.q]) = .ok ['\n'] [] := by
  decide +kernel

/-- the well-formedness hypothesis of the round-trip theorems cannot be dropped -/
theorem roundtrip_needs_wf :
    ∃ (c : Cfg) (v : List Char), wf c = false ∧ extract c (escapeStr c v ++ [c.q]) ≠ .ok v [] :=
  ⟨exAthenaMerged, ['a', '\\'], athena_string_not_wf_witness.1,
    fun h => nomatch athena_string_not_wf_witness.2.1.symm.trans h⟩

end SqlglotModel.Properties.C04
