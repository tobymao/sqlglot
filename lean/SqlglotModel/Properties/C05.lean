/-
  C05 — tokenize / parse terminate with a result or a sqlglot error (PARTIAL by design).

  Proved here, for ALL token lists, error levels and programs (no size bound):
    * the cursor discipline of `Parser._advance/_retreat/_match*/_try_parse/_parse_csv/_parse_wrapped` as modelled in
      `Model/Cursor.lean`: restoration, loop termination, a polynomial step bound, no IndexError for well-formed
      programs, and the per-chunk funnel ending in a value or a ParseError;
    * the position arithmetic of `TokenizerCore._scan` (`Model/ScanProgress.lean`): every iteration moves `_current`
      forward although sub-scanners rewind, hence a linear number of iterations;
    * `_find_parser` (`Model/FindParser.lean`): the words the trie is walked with and the string the dict is indexed with
      spell the same key, so an EXISTS answer of the trie never ends in KeyError;
    * the guarded `%`-walk of `_has_time_specifier` and the guards in front of `xs[0]` (`Model/FormatScan.lean`): no
      IndexError.
  NOT proved (monitored at run time by vf/props/c05.py on the real parser instead): that each of the ~200 real
  `_parse_*` methods satisfies the `Sound`/`Consuming` contracts which the `…_terminates` theorems take as hypotheses;
  the generator; the contents of tokens and trees.
  The theorems that read a table of `Generated/C05.lean` state structural facts of the source, re-extracted from it by ast
  (vf/props/c05.py) on every run: finite tables, decided completely.
  Only property theorems, non-vacuity examples and counter-example witnesses live here.
-/
import SqlglotModel.Proofs.Cursor
import SqlglotModel.Proofs.ScanProgress
import SqlglotModel.Proofs.FindParser
import SqlglotModel.Proofs.FormatScan
import SqlglotModel.Generated.C05

namespace SqlglotModel.Properties.C05
open SqlglotModel.Cursor

/-- a Restoring program that returns None / a falsy value leaves the index where it started (any fuel, any state) -/
theorem comb_restores (toks : List Tok) (fuel : Nat) (p : Comb) (hp : p.restoring = true)
    (s s' : St) (v : Val) (h : run toks fuel p s = (.ret v, s')) (hv : v.isTruthy = false) : s'.idx = s.idx :=
  (run_rets toks fuel p).restores hp h hv

example : (Comb.andThen (.tok 7) (.both (.tok 8) (.wrapped (.csv (.tok 9) COMMA) false))).restoring = true := by decide +kernel
example : (run [7, 8] 5 (.andThen (.tok 3) .eps) ⟨0, 0, 0, .raise⟩) = (.ret .none, ⟨0, 0, 0, .raise⟩) := by decide +kernel

/-- the side condition is needed: `if not self._match(A): return None; return self._match(B)` (no retreat) returns
    a falsy value with the cursor moved -/
theorem comb_restores_needs_guard :
    run [5, 9] 3 (.andThen (.tok 5) (.tok 6)) ⟨0, 0, 0, .raise⟩ = (.ret .falsy, ⟨1, 1, 0, .raise⟩)
      ∧ (Comb.andThen (.tok 5) (.tok 6)).restoring = false := by decide +kernel

/-- `_try_parse` around ANY method (no hypothesis on it): a falsy result, a swallowed ParseError, or `retreat=True`
    leaves the index where it started -/
theorem try_parse_restores_any_method (m : P) (rt : Bool) (s s' : St) (v : Val)
    (h : tryParseS m rt s = (.ret v, s')) (hv : v.isTruthy = false ∨ rt = true) : s'.idx = s.idx := by
  have hm := rets_tryParse (Rets.any m) rt
  cases hv with
  | inl hv => exact hm.restores rfl h hv
  | inr hr => subst hr; exact hm.stays rfl h

/-- `_try_parse` hands `error_level` back as it found it, also when an internal exception flies through -/
theorem try_parse_level_restored (m : P) (rt : Bool) (s s' : St) (o : Out)
    (h : tryParseS m rt s = (o, s')) (hd : o ≠ .diverged) : s'.lvl = s.lvl :=
  tryParse_level m rt s o s' h hd

/-- `_try_parse` never raises ParseError -/
theorem try_parse_swallows_parse_error (m : P) (rt : Bool) (s : St) : (tryParseS m rt s).1 ≠ .raised := by
  rcases tryParseS_cases m rt s with ⟨_, _, -, e⟩ | ⟨_, -, e⟩ | ⟨_, -, e⟩ | ⟨_, -, e⟩ <;> rw [e] <;> nofun

/-- `_parse_csv` around ANY method that honours the contract `Sound n b` (stops, never moves back, stays in range,
    ≤ b(remaining) steps, no leak): the `while self._match(sep)` loop finishes, within (r+1)·(b r + 1) steps -/
theorem csv_terminates (toks : List Tok) (sep : Tok) (b : Nat → Nat) (m : P) (fuel : Nat)
    (hm : Sound toks.length b m) (hb : BMono b) (hf : toks.length < fuel) (s : St) (hs : s.idx ≤ toks.length) :
    (csvS toks sep fuel m s).1 ≠ .diverged ∧ (csvS toks sep fuel m s).1 ≠ .internal ∧
      (csvS toks sep fuel m s).2.steps ≤ s.steps + (toks.length - s.idx + 1) * (b (toks.length - s.idx) + 1) :=
  (sound_csv hm hb hf s hs).terminates

example : Sound [7, COMMA, 7].length (fun _ => 1) (matchTok [7, COMMA, 7] 7 true) := sound_matchTok _ _ _
example : run [7, COMMA, 7, COMMA] 5 (.csv (.tok 7) COMMA) ⟨0, 0, 0, .raise⟩ = (.ret .truthy, ⟨4, 4, 0, .raise⟩) := by
  decide +kernel

/-- the contract is needed: an element method that retreats one token too far keeps `_parse_csv` spinning -/
theorem csv_needs_monotone_element (fuel : Nat) (acc : Val) (st : Nat) :
    (csvLoop [COMMA] COMMA (fun s => (.ret .truthy, { s with idx := s.idx - 1 })) fuel acc ⟨0, st, 0, .raise⟩).1
      = .diverged := by
  induction fuel generalizing acc st with
  | zero => rfl
  | succ fuel ih =>
    unfold csvLoop
    simp only [curr, COMMA, bump]
    exact ih _ _

/-- `while True: x = m(); if not x: break` around ANY method that honours the contract and consumes a token whenever
    it reports success: finishes within (r+1)·b r steps -/
theorem many_terminates (n : Nat) (b : Nat → Nat) (m : P) (fuel : Nat) (hm : Sound n b m) (hb : BMono b)
    (hc : Consuming n m) (hf : n < fuel) (s : St) (hs : s.idx ≤ n) :
    (manyS fuel m s).1 ≠ .diverged ∧ (manyS fuel m s).1 ≠ .internal ∧
      (manyS fuel m s).2.steps ≤ s.steps + (n - s.idx + 1) * b (n - s.idx) :=
  (sound_many hm hb hc hf s hs).terminates

example : Consuming 3 (matchTok [7, 7, 7] 7 true) :=
  (run_sound [7, 7, 7] 4 (by decide) (.tok 7) rfl).2 rfl

/-- the Consuming hypothesis is needed: a loop body that reports success without consuming never finishes -/
theorem many_needs_consuming (toks : List Tok) (fuel : Nat) (s : St) :
    (run toks fuel (.many .eps) s).1 = .diverged := by
  have h : ∀ acc, (manyLoop (fun s => (Out.ret Val.truthy, s)) fuel acc s).1 = .diverged := by
    induction fuel with
    | zero => intro acc; rfl
    | succ fuel ih => intro acc; unfold manyLoop; simpa [Val.isTruthy] using ih .truthy
  exact h .falsy

/-- every well-formed program terminates from every in-range state (the iteration fuel `size + 1` is never used up) -/
theorem run_total (toks : List Tok) (fuel : Nat) (hf : toks.length < fuel) (p : Comb) (hw : p.wf = true)
    (s : St) (hs : s.idx ≤ toks.length) : (run toks fuel p s).1 ≠ .diverged :=
  ((run_sound toks fuel hf p hw).1 s hs).notDiverged

/-- … within `p.bound (remaining tokens)` calls of `_advance` (retreats included) -/
theorem run_steps_bound (toks : List Tok) (fuel : Nat) (hf : toks.length < fuel) (p : Comb) (hw : p.wf = true)
    (s : St) (hs : s.idx ≤ toks.length) :
    (run toks fuel p s).2.steps ≤ s.steps + p.bound (toks.length - s.idx) :=
  ((run_sound toks fuel hf p hw).1 s hs).steps

/-- … and that bound is a polynomial in the remaining input whose degree is the loop nesting depth of the program -/
theorem run_steps_polynomial (toks : List Tok) (fuel : Nat) (hf : toks.length < fuel) (p : Comb) (hw : p.wf = true)
    (s : St) (hs : s.idx ≤ toks.length) :
    (run toks fuel p s).2.steps ≤ s.steps + p.coeff * (toks.length - s.idx + 1) ^ p.depth :=
  Nat.le_trans (run_steps_bound toks fuel hf p hw s hs) (Nat.add_le_add_left (bound_le_poly p _) _)

/-- no IndexError out of `_advance` -/
theorem run_outcome_not_internal (toks : List Tok) (fuel : Nat) (hf : toks.length < fuel) (p : Comb)
    (hw : p.wf = true) (s : St) (hs : s.idx ≤ toks.length) : (run toks fuel p s).1 ≠ .internal :=
  ((run_sound toks fuel hf p hw).1 s hs).notInternal

/-- the cursor never ends up before its starting point nor beyond the end of the token list -/
theorem run_cursor_in_range (toks : List Tok) (fuel : Nat) (hf : toks.length < fuel) (p : Comb) (hw : p.wf = true)
    (s : St) (hs : s.idx ≤ toks.length) :
    s.idx ≤ (run toks fuel p s).2.idx ∧ (run toks fuel p s).2.idx ≤ toks.length :=
  ⟨((run_sound toks fuel hf p hw).1 s hs).fwd, ((run_sound toks fuel hf p hw).1 s hs).inRange⟩

/-- a non-trivial well-formed program: `( item {, item} )` lists, optional try-parsed prefix, repeated -/
def sampleProgram : Comb :=
  .many (.andThen (.tok 4) (.both (.tryParse (.andThen (.tok 5) (.andThen (.tok 6) .fail)) false)
    (.wrapped (.csv (.orElse (.tok 7) (.attempt (.andThen (.tok 5) (.tok 7)))) COMMA) false)))

example : sampleProgram.wf = true := by decide +kernel
example : sampleProgram.depth = 2 := by decide +kernel
example : run [4, LP, 7, COMMA, 5, 7, RP, 4, 5, 6] 11 sampleProgram ⟨0, 0, 0, .warn⟩
    = (.ret .truthy, ⟨8, 13, 1, .warn⟩) := by decide +kernel

/-- well-formedness is needed: a bare `_advance()` at the end of the tokens raises IndexError -/
theorem run_outcome_needs_wf : (run [7] 2 (.both (.tok 7) .advance) ⟨0, 0, 0, .raise⟩).1 = .internal := by decide +kernel

/-- the per-chunk funnel (`_parse_batch_statements`): a well-formed statement parser ends in a value or a ParseError -/
theorem parse_top_outcome (toks : List Tok) (fuel : Nat) (hf : toks.length < fuel) (p : Comb) (hw : p.wf = true)
    (lvl : Level) : (∃ v s, parseTop toks fuel p lvl = (.ret v, s)) ∨ (∃ s, parseTop toks fuel p lvl = (.raised, s)) :=
  (good_parseTop toks fuel hf p hw lvl).cases

example : parseTop [7, 8] 3 (.tok 7) .raise = (.raised, ⟨1, 1, 1, .raise⟩) := by decide +kernel
example : parseTop [7, 8] 3 (.tok 7) .ignore = (.ret .truthy, ⟨1, 1, 1, .ignore⟩) := by decide +kernel

/-- `_match_text_seq` (advances token by token, retreats when a later text does not match) is restoring
    (`Comb.restoring`), for every text list, token list and start state -/
theorem match_text_seq_restores (toks : List Tok) (ts : List Tok) (adv : Bool) (s s' : St) (v : Val)
    (h : matchTextSeq toks ts adv s = (.ret v, s')) (hv : v.isTruthy = false) : s'.idx = s.idx :=
  (rets_textSeq toks ts adv).restores rfl h hv

/-- … and with `advance=False` it never moves the cursor at all -/
theorem match_text_seq_peek_still (toks : List Tok) (ts : List Tok) (s s' : St) (v : Val)
    (h : matchTextSeq toks ts false s = (.ret v, s')) : s'.idx = s.idx :=
  (rets_textSeq toks ts false).stays rfl h

example : matchTextSeq [5, 6, 7] [5, 6, 8] true ⟨0, 0, 0, .raise⟩ = (.ret .falsy, ⟨0, 3, 0, .raise⟩) := by decide +kernel
example : matchTextSeq [5, 6, 7] [5, 6] true ⟨0, 0, 0, .raise⟩ = (.ret .truthy, ⟨2, 2, 0, .raise⟩) := by decide +kernel

/-- a dispatch-table loop (`_parse_range` / RANGE_PARSERS, `_parse_column_ops` / COLUMN_OPERATORS,
    `_parse_query_modifiers` / QUERY_MODIFIER_PARSERS, …) around ANY table entries that honour the contract `Sound n b`
    finishes within (r+1)·(b r + 1) steps, provided the caller consumed the key (`consume = true`) or every entry is
    Consuming (peeking variant).  `Sound` includes "never moves the cursor back", which is what the harness monitors on
    every real table-entry activation. -/
theorem table_loop_terminates (toks : List Tok) (keys : List Tok) (consume : Bool) (b : Nat → Nat) (entry : Tok → P)
    (fuel : Nat) (he : ∀ k, Sound toks.length b (entry k)) (hb : BMono b)
    (hprog : consume = true ∨ ∀ k, Consuming toks.length (entry k)) (hf : toks.length < fuel)
    (s : St) (hs : s.idx ≤ toks.length) :
    (tableLoopS toks keys consume fuel entry s).1 ≠ .diverged ∧ (tableLoopS toks keys consume fuel entry s).1 ≠ .internal ∧
      (tableLoopS toks keys consume fuel entry s).2.steps
        ≤ s.steps + (toks.length - s.idx + 1) * (b (toks.length - s.idx) + 1) :=
  (sound_tableLoop he hb hprog hf s hs).terminates

example : run [7, 9, 7, 9, 3] 6 (.tableLoop [7] (.tok 9) true) ⟨0, 0, 0, .raise⟩ = (.ret .truthy, ⟨4, 4, 0, .raise⟩) := by
  decide +kernel

/-- the contract is needed — this is the ClickHouse `GLOBAL` regression: a RANGE_PARSERS entry that, when its keyword is
    not followed by what it expects, retreats to before the keyword and returns its (truthy) left operand makes
    `_parse_range` re-match the same token for ever, at every error level and without recording any error -/
theorem table_loop_needs_progress (fuel : Nat) (acc : Val) (st : Nat) (lvl : Level) :
    (tableLoop [4] [4] true (fun _ s => (.ret .truthy, { s with idx := s.idx - 1 })) fuel acc ⟨0, st, 0, lvl⟩).1
      = .diverged := by
  induction fuel generalizing acc st with
  | zero => rfl
  | succ fuel ih =>
    unfold tableLoop
    simp only [curr, keyOf, bump]
    exact ih _ _

/-- same for the peeking variant (`_match_set(TABLE, advance=False)`): an entry that reports success without consuming -/
theorem table_loop_peek_needs_consuming (fuel : Nat) (acc : Val) (s : St) :
    (tableLoop [4] [4] false (fun _ s => (.ret .truthy, s)) fuel acc { s with idx := 0 }).1 = .diverged := by
  induction fuel generalizing acc with
  | zero => rfl
  | succ fuel ih =>
    unfold tableLoop
    simp only [curr, keyOf]
    exact ih _

/-- `_parse_wrapped_id_vars` / `_parse_wrapped_csv(_parse_id_var)`: well-formed for every identifier token set, hence
    total, leak-free and linear: at most 2·(r+1) + 2 steps -/
theorem wrapped_id_vars_terminates (toks : List Tok) (fuel : Nat) (hf : toks.length < fuel) (ids : List Tok)
    (optional : Bool) (s : St) (hs : s.idx ≤ toks.length) :
    (run toks fuel (.wrappedIdVars ids optional) s).1 ≠ .diverged ∧
      (run toks fuel (.wrappedIdVars ids optional) s).1 ≠ .internal ∧
      (run toks fuel (.wrappedIdVars ids optional) s).2.steps ≤ s.steps + ((toks.length - s.idx + 1) * 2 + 2) :=
  ((run_sound toks fuel hf (.wrappedIdVars ids optional) rfl).1 s hs).terminates

/-- `_parse_wrapped_csv(p)` inherits everything from `p` -/
theorem wrapped_csv_wf (p : Comb) (sep : Tok) (optional : Bool) : (Comb.wrappedCsv p sep optional).wf = p.wf := rfl

example : run [LP, 3, COMMA, 3, RP] 6 (.wrappedIdVars [3] false) ⟨0, 0, 0, .raise⟩ = (.ret .truthy, ⟨5, 5, 0, .raise⟩) := by
  decide +kernel

/-- the Command fallback (`while self._curr: self._advance()`) consumes the rest of the chunk -/
theorem command_fallback_consumes_chunk (toks : List Tok) (fuel : Nat) (s : St) (hs : s.idx ≤ toks.length) :
    (run toks fuel .restOfChunk s).2.idx = toks.length ∧ (run toks fuel .restOfChunk s).1 = .ret .truthy := by
  rw [run, restOfChunk_eq toks s hs]
  exact ⟨rfl, rfl⟩

/-- `_parse_statement` on a chunk that starts with one of the tokenizer's COMMANDS: whatever follows, the chunk is
    swallowed, no "Invalid expression / Unexpected token" is recorded and the chunk funnel returns at every level -/
theorem statement_command_fallback (k : Tok) (rest : List Tok) (fuel : Nat) (sk ck : List Tok) (stmt expr : Comb)
    (lvl : Level) (h1 : sk.contains k = false) (h2 : ck.contains k = true) :
    parseTop (k :: rest) fuel (.statement sk stmt ck expr) lvl = (.ret .truthy, ⟨rest.length + 1, rest.length + 1, 0, lvl⟩) := by
  have hrun : run (k :: rest) fuel (.statement sk stmt ck expr) (initSt lvl)
      = restOfChunk (k :: rest) (bump 1 (initSt lvl)) := by
    have e1 : inSet sk (curr (k :: rest) (initSt lvl).idx) = false := h1
    have e2 : inSet ck (curr (k :: rest) (initSt lvl).idx) = true := h2
    simp only [Comb.statement, run, ifTokS, e1, e2, if_true, Bool.false_eq_true, if_false]
  rw [parseTop, hrun, restOfChunk_eq _ _ (Nat.succ_le_succ (Nat.zero_le _))]
  simp [initSt, bump, leftoverK, checkErrorsK, Nat.add_comm]

/-- `_parse_batch_statements`: with a well-formed statement parser every chunk ends in a value or a ParseError, and the
    loop runs once per chunk — the batch never diverges and never leaks -/
theorem parse_batch_terminates (fuel : Nat) (p : Comb) (hw : p.wf = true) (lvl : Level) (chunks : List (List Tok))
    (hf : ∀ c ∈ chunks, c.length < fuel) (n : Nat) :
    (parseBatch fuel p lvl chunks n).1 ≠ .diverged ∧ (parseBatch fuel p lvl chunks n).1 ≠ .internal := by
  induction chunks generalizing n with
  | nil => simp [parseBatch]
  | cons c cs ih =>
    have hc := hf c (List.mem_cons_self ..)
    have hcs : ∀ c' ∈ cs, c'.length < fuel := fun c' h => hf c' (List.mem_cons_of_mem _ h)
    unfold parseBatch
    rcases parse_top_outcome c fuel hc p hw lvl with ⟨v, s, h⟩ | ⟨s, h⟩
    · rw [h]; exact ih hcs _
    · rw [h]; simp

example : parseBatch 4 (.statement [5] (.tok 3) [8] (.tok 3)) .raise [[5, 3], [8, 1, 1], [3]] 0 = (.ret .truthy, 6) := by
  decide +kernel

/-- shapes 1 and 2 — the failure branch consumes the offending token, or breaks after `raise_error` — terminate at EVERY
    error level, around ANY element method that honours the contract and consumes input whenever it reports success:
    no divergence, no IndexError, at most (r+1)·(b r + 1) steps -/
theorem option_loop_terminates (toks : List Tok) (close : Tok) (mode : OnFail) (hm : mode ≠ .relyOnRaise) (b : Nat → Nat)
    (p : P) (fuel : Nat) (hp : Sound toks.length b p) (hb : BMono b) (hc : Consuming toks.length p)
    (hf : toks.length < fuel) (s : St) (hs : s.idx ≤ toks.length) :
    (optionLoop toks close mode p fuel s).1 ≠ .diverged ∧ (optionLoop toks close mode p fuel s).1 ≠ .internal ∧
      (optionLoop toks close mode p fuel s).2.steps ≤ s.steps + (toks.length - s.idx + 1) * (b (toks.length - s.idx) + 1) :=
  (sound_optionLoop hp hb hc hm hf s hs).terminates

example : run [LP, 7, 9, 7, RP, 3] 7 (.both (.tok LP) (.optionLoop RP (.tok 7) .skip)) ⟨0, 0, 0, .warn⟩
    = (.ret .truthy, ⟨5, 5, 0, .warn⟩) := by decide +kernel
example : run [LP, 7, 9, 7, RP, 3] 7 (.both (.tok LP) (.optionLoop RP (.tok 7) .breakAfterRaise)) ⟨0, 0, 0, .warn⟩
    = (.ret .truthy, ⟨2, 2, 1, .warn⟩) := by decide +kernel

/-- shape 3 — `if option is None: self.raise_error(…)` with no `break` (the seeded `_parse_wrapped_options` regression) —
    never finishes at IGNORE / WARN / RAISE: raise_error only records the error, the cursor stays on the offending token -/
theorem option_loop_relying_on_raise_diverges (fuel errs : Nat) (lvl : Level) (hl : lvl ≠ .immediate) :
    (optionLoop [5] RP .relyOnRaise (fun s => (.ret .none, s)) fuel ⟨0, 0, errs, lvl⟩).1 = .diverged := by
  induction fuel generalizing errs with
  | zero => rfl
  | succ fuel ih =>
    unfold optionLoop
    simp only [curr, RP, failThen, failS, hl, Val.isTruthy]
    exact ih (errs + 1)

/-- … and is only saved by IMMEDIATE, where raise_error raises -/
theorem option_loop_relying_on_raise_immediate (fuel errs : Nat) :
    (optionLoop [5] RP .relyOnRaise (fun s => (.ret .none, s)) (fuel + 1) ⟨0, 0, errs, .immediate⟩).1 = .raised := by
  unfold optionLoop
  simp [curr, RP, failThen, failS, Val.isTruthy]

/-- every `while` loop of sqlglot/parser.py and sqlglot/parsers/*.py, classified by ast on this run: none continues after
    a `raise_error` without having consumed a token ("relies-on-raise"), except the audited chunk loop of
    `_parse_batch_statements` (its continuation test is `self._chunk_index < chunks_length` and `_advance_chunk` increments
    `_chunk_index` on every iteration).  The other classes are: progress on every continuing path, break / return after
    raise_error, or result-driven (no raise_error; covered by the run-time Consuming monitor and the step budget). -/
theorem parser_loops_progress_or_break :
    (SqlglotModel.Generated.C05.parserLoops.filter (fun l => l.2.2 == "relies-on-raise")).map (·.1)
        = ["parser._parse_batch_statements"] ∧
      SqlglotModel.Generated.C05.parserLoops.all
        (fun l => l.2.2 == "progress" || l.2.2 == "break-after-raise" || l.2.2 == "result-driven" || l.2.2 == "relies-on-raise")
        = true := by
  decide +kernel

/-- the generator side: the only places where a generator method reaches WITHOUT a guard into an arg that the node class
    declares OPTIONAL (`expression.args["x"]`, `expression.this.<attr>` chains) are the audited ones below (ast + live
    arg_types on this run; a new one breaks the build).  Unguarded reaches into REQUIRED args (listed in
    `generatorUnguardedRequired`) are what makes generation from an incomplete tree (IGNORE / WARN) leak — the recorded
    class-level finding; they are exercised by the incomplete-tree stage of the search and tallied by crash-site family. -/
theorem generator_unguarded_optional_accesses_known :
    SqlglotModel.Generated.C05.generatorUnguardedOptional =
      [("generator.Generator.drop_sql", "expression.args['kind']"),
       ("generator.Generator.interval_sql", "expression.this.is_string"),
       ("generator.Generator.lateral_sql", "expression.args['alias']"),
       ("generator.Generator.pivotalias_sql", "expression.args['alias']"),
       ("generator.Generator.tsordstodate_sql", "expression.args['format']"),
       ("generator.Generator.tsordstotime_sql", "expression.args['format']"),
       ("postgres.PostgresGenerator.interval_sql", "expression.args['unit']"),
       ("tsql.TSQLGenerator.drop_sql", "expression.args['kind']"),
       ("tsql._format_sql", "expression.args['format']")] := rfl

/-- a manual lookahead `self._tokens[self._index + k]` behind the strict guard `self._index + k < size` never raises
    IndexError and never moves the cursor — for every k, token list and state (also at the very end of a chunk) -/
theorem peek_guarded_no_index_error (toks : List Tok) (k : Nat) (t : Tok) (s : St) :
    (peekAt toks k t .strict s).1 ≠ .internal ∧ (peekAt toks k t .strict s).2 = s := by
  obtain ⟨v, e⟩ := peekAt_strict_ret toks k t s
  rw [e]
  exact ⟨nofun, rfl⟩

example : peekAt [5, 6, 7] 2 7 .strict ⟨0, 0, 0, .raise⟩ = (.ret .truthy, ⟨0, 0, 0, .raise⟩) := by decide +kernel
example : peekAt [5, 6, 7] 3 7 .strict ⟨0, 0, 0, .raise⟩ = (.ret .falsy, ⟨0, 0, 0, .raise⟩) := by decide +kernel

/-- the guard must be strict: with `index + k > size` as the bail-out test (i.e. `≤` to go on) a chunk that ends exactly
    k tokens after the cursor — `… WINDOW w AS` with the lookahead for `(` at k = 3 — reads one past the end -/
theorem peek_off_by_one_guard_index_error :
    (peekAt [5, 6, 7] 3 0 .offByOne ⟨0, 0, 0, .raise⟩).1 = .internal ∧
      (run [9, 5, 6, 7] 5 (.both (.tok 9) (.peekAt 3 0 .offByOne)) ⟨0, 0, 0, .immediate⟩).1 = .internal := by decide +kernel

/-- every forward lookahead into the token list found in sqlglot/parser.py and sqlglot/parsers/*.py on this run sits
    directly behind a strict bounds guard on the same index expression, and only the allow-listed methods have one
    (finite table, decided completely; a new or differently guarded lookahead breaks the build) -/
theorem parser_forward_lookaheads_guarded :
    SqlglotModel.Generated.C05.forwardLookaheadSites.all
        (fun x => x.2.2 == x.2.1 ++ " < len(self._tokens)" || x.2.2 == x.2.1 ++ " < size") = true ∧
      (SqlglotModel.Generated.C05.forwardLookaheadSites.map (·.1)).eraseDups =
        ["parser._advance", "parser._can_parse_named_window", "teradata._parse_function"] := by
  decide +kernel

namespace Find
open SqlglotModel.FindParser

/-- `" ".join(s.split(" ")) == s` for every text (any separator character) -/
theorem split_join_round_trip (sep : Char) (s : Str) : joinWith sep (splitOn sep s) = s := join_split sep s

/-- the two key functions agree on every list of token texts: joining the words the trie was walked with gives exactly
    the string the dict is indexed with -/
theorem find_parser_keys_agree (this : List Str) :
    joinWith ' ' (this.flatMap (splitOn ' ')) = joinWith ' ' this := join_flatMap_split ' ' this

/-- hence `_find_parser` never leaks KeyError: for every dict (its trie built with `key.split(" ")`), every list of token
    texts (quoted identifiers with leading / trailing / repeated blanks, tabs, newlines included) an EXISTS answer of the
    trie names a key the dict has -/
theorem find_parser_no_key_error (keys : List Str) (toks : List Str) (k : Str) :
    findParser (splitOn ' ') keys toks ≠ .keyError k := by
  unfold findParser
  cases toks with
  | nil => simp
  | cons t ts => exact walk_no_keyError (splitOn_pieces ' ') keys (t :: ts) [] [] rfl k

example : findParser (splitOn ' ') ["GLOBAL".toList, "TERSE TABLES".toList] ["TERSE TABLES".toList]
    = .found "TERSE TABLES".toList := by decide +kernel
example : findParser (splitOn ' ') ["GLOBAL".toList, "TERSE TABLES".toList] ["TERSE".toList, "TABLES".toList]
    = .found "TERSE TABLES".toList := by decide +kernel
example : findParser (splitOn ' ') ["GLOBAL".toList] ["GLOBAL ".toList, "X".toList] = .notFound := by decide +kernel

/-- the agreement is needed: with `str.split()` as the trie key function (whitespace-normalising) a quoted token
    `"GLOBAL "` or `TERSE  TABLES` walks the trie to EXISTS while the dict is asked for the raw text -/
theorem find_parser_whitespace_split_key_error :
    findParser splitWs ["GLOBAL".toList] ["GLOBAL ".toList, "X".toList] = .keyError "GLOBAL ".toList ∧
    findParser splitWs ["TERSE TABLES".toList] ["TERSE  TABLES".toList] = .keyError "TERSE  TABLES".toList ∧
    findParser splitWs ["GLOBAL".toList] ["\tGLOBAL".toList] = .keyError "\tGLOBAL".toList := by
  decide +kernel

/-- the key functions as the source has them on this run (ast): `_find_parser` walks the trie with `curr.split(' ')`,
    indexes the dict with `' '.join(this)`, and every SHOW_TRIE / SET_TRIE is built with `key.split(' ')` -/
theorem find_parser_key_functions_known :
    SqlglotModel.Generated.C05.findParserTrieKey = "curr.split(' ')" ∧
    SqlglotModel.Generated.C05.findParserDictKey = "' '.join(this)" ∧
    SqlglotModel.Generated.C05.trieBuilds.all (fun b => b.2 == "key.split(' ')") = true ∧
    SqlglotModel.Generated.C05.trieBuilds.length ≥ 2 := by
  decide +kernel

end Find

namespace Fmt
open SqlglotModel.FormatScan

/-- the guarded `%`-walk (`_has_time_specifier` as the source has it: `if i < length and s[i] in TIME_SPECIFIERS`) never
    indexes out of range and terminates within `len(s) + 1` iterations — for every string (empty, a single `%`, a trailing
    `%`, `%%`, …) and every specifier set -/
theorem format_walk_guarded_safe (spec : Char → Bool) (s : List Char) :
    hasTimeSpecifier spec s = .found ∨ hasTimeSpecifier spec s = .notFound :=
  walkGuarded_safe spec s (s.length + 1) 0 (Nat.lt_succ_self _)

example : hasTimeSpecifier (fun c => c = 'H') "%Y-%m-%".toList = .notFound := by decide +kernel
example : hasTimeSpecifier (fun c => c = 'H') "%Y %H".toList = .found := by decide +kernel

/-- the guard is needed: the find-based variant that looks at `s[i + 1]` without a bounds test raises IndexError on a
    format ending in an unpaired `%` (no time specifier earlier), and on a single `%` -/
theorem format_walk_find_index_error :
    hasTimeSpecifierFind (fun c => c = 'H') "%Y-%m-%".toList = .indexError ∧
    hasTimeSpecifierFind (fun c => c = 'H') "%d days, 100%".toList = .indexError ∧
    hasTimeSpecifierFind (fun c => c = 'H') "%".toList = .indexError ∧
    hasTimeSpecifierFind (fun c => c = 'H') "%Y %H".toList = .found := by decide +kernel

/-- every index-arithmetic lookup into a string / argument list inside the function builders and their helpers
    (parsers/*.py, dialects/dialect.py, parser.py, time.py, helper.py; ast on this run) with the bounds guard that dominates
    it — an allow-list decided completely, so a new or differently guarded lookup breaks the build.  Audited entries:
    `parser._advance tokens[index - 1]` sits behind `if index > 0` (not a length test); `parser.build_var_map args[i + 1]`
    is guarded only by `range(0, len(args), 2)`, which is NOT enough for an odd number of arguments — the recorded
    clean-tree finding `MAP(1` (IndexError in build_var_map). -/
theorem builder_string_lookaheads_guarded :
    SqlglotModel.Generated.C05.stringIndexSites =
      [("hive._build_named_struct", "args[i + 1]", "for i in range(0, len(args) - 1, 2)"),
       ("mysql._has_time_specifier", "date_format[i]", "i < length"),
       ("parser._advance", "tokens[index + 1]", "index + 1 < size"),
       ("parser._advance", "tokens[index - 1]", ""),
       ("parser.build_var_map", "args[i + 1]", "for i in range(0, len(args), 2)"),
       ("snowflake._build_round", "positional_keys[positional_idx]", "positional_idx < len(positional_keys)")] := rfl

/-- `xs[0]` behind a TRUTHINESS guard (`if xs and xs[0] …`) never raises, whatever the list is — None, empty or not -/
theorem index_first_truthy_guard_safe {α : Type} (xs : Option (List α)) :
    indexFirst .truthy xs ≠ .indexError ∧ indexFirst .truthy xs ≠ .typeError := by
  cases xs with
  | none => simp [indexFirst]
  | some l => cases l <;> simp [indexFirst]

/-- an `is not None` guard does not dominate the index: the empty list passes it (an identifier whose text tokenizes
    to zero tokens — empty, blanks, comment-only — in `_parse_types`) -/
theorem index_first_not_none_guard_index_error :
    indexFirst (α := Nat) .notNone (some []) = .indexError ∧ indexFirst (α := Nat) .truthy (some []) = .skipped := by
  decide +kernel

/-- every CONSTANT index into a local / attribute list in sqlglot/parser.py and sqlglot/parsers/*.py (ast on this run) sits
    behind a truthiness or length guard on that list (`is not None` does not count), except the audited sites below —
    an exact allow-list, decided completely, so a new unguarded `xs[0]` or a guard weakened to `is not None` breaks the
    build.  Audited: fixed-arity fast paths (`parts[k]` after a length dispatch on another variable), lists that are
    non-empty by construction (`chunks`, `tags`, `errors`, the token list in `_warn_unsupported`), and recorded clean-tree
    findings (`bigquery._builder args[1]` = REGEXP_EXTRACT(''), `clickhouse._parse_value expressions[-1]`). -/
theorem local_list_indexes_guarded :
    (SqlglotModel.Generated.C05.localListIndexSites.filter (fun x => x.2.2 == "")).map (fun x => (x.1, x.2.1)) =
    [("bigquery._builder", "args[1]"),
     ("clickhouse._parse_value", "expressions[-1]"),
     ("parser._parse", "chunks[-1]"),
     ("parser._parse_column_parts_fast", "parts[0]"),
     ("parser._parse_column_parts_fast", "parts[1]"),
     ("parser._parse_column_parts_fast", "parts[2]"),
     ("parser._parse_column_parts_fast", "parts[3]"),
     ("parser._parse_heredoc", "tags[-1]"),
     ("parser._parse_hint", "self._prev_comments[0]"),
     ("parser._parse_pipe_syntax_tablesample", "with_.expressions[-1]"),
     ("parser._parse_string_agg", "args[0]"),
     ("parser._parse_table_parts_fast", "parts[0]"),
     ("parser._parse_table_parts_fast", "parts[1]"),
     ("parser._parse_table_parts_fast", "parts[2]"),
     ("parser._parse_vector_expressions", "expressions[0]"),
     ("parser._replace_lambda", "column.parts[0]"),
     ("parser._warn_unsupported", "self._tokens[-1]"),
     ("parser._warn_unsupported", "self._tokens[0]"),
     ("parser.parse_into", "e.errors[0]"),
     ("parser.parse_into", "errors[-1]"),
     ("redshift._parse_projections", "projections[-1]"),
     ("singlestore._parse_vector_expressions", "expressions[0]"),
     ("singlestore._parse_vector_expressions", "expressions[1]")] := rfl

end Fmt

namespace Scan
open SqlglotModel.ScanProgress SqlglotModel.Generated.C05

/-- every iteration of the `_scan` loop whose sub-scanner never rewinds past the iteration's own `_advance(offset)`
    ends with `_current` strictly larger than it started -/
theorem scan_progress (current current' : Nat) (it : Iter) (h : stepIter current it = some current') :
    current < current' := stepIter_gt h

example : stepIter 4 ⟨0, suffixMoves 2 3 false⟩ = some 7 := by decide +kernel

/-- hence the loop runs at most `size - current` iterations, whatever the sub-scanners do -/
theorem scan_iterations_linear (size : Nat) (its : List Iter) (c c' n' : Nat)
    (h : scanLoop size its c 0 = some (c', n')) : n' ≤ size - c ∧ c + n' ≤ c' := by
  have := scanLoop_bound size its c 0 c' n' h
  omega

example : scanLoop 9 [⟨0, [.fwd 2]⟩, ⟨1, heredocMoves 3 3 false⟩, ⟨0, [.fwd 5]⟩, ⟨0, []⟩] 0 0 = some (10, 3) := by decide +kernel

/-- `_scan_number`'s `_advance(-len(numeric_literal))` undoes exactly the `_advance()` calls that built
    `numeric_literal`: never below the sub-scanner's entry point, for every digit run and suffix length -/
theorem suffix_rewind_disciplined (digits j : Nat) (keep : Bool) :
    rel (suffixMoves digits j keep) 0 = some (if keep then digits + j else digits) := by
  unfold suffixMoves
  simp only [rel]
  rw [rel_replicate_fwd]
  cases keep <;> simp [rel]

/-- `_scan_string`'s heredoc fallback (`_advance(-1)` unless at the end, `_advance(-len(tag))`) stays at or after the
    sub-scanner's entry point provided `_extract_string` moved at least `len(tag)` forward (one less when it hit the
    end of the input, where the returned tag includes the current character) -/
theorem heredoc_rewind_disciplined (e t : Nat) (atEnd : Bool) (h : t ≤ e + (if atEnd then 1 else 0)) :
    rel (heredocMoves e t atEnd) 0 = some (1 + e - (if atEnd then 0 else 1) - t) := by
  cases atEnd <;>
    simp only [heredocMoves, rel, List.nil_append, List.cons_append, Bool.false_eq_true, if_true, if_false] at h ⊢
  · rw [if_pos (by omega), if_pos (by omega)]
  · rw [if_pos (by omega)]; exact congrArg some (by omega)

example : rel (heredocMoves 4 5 true) 0 = some 0 := by decide +kernel

/-- discipline is needed: a rewind larger than what the sub-scanner advanced is rejected by the model (on the real
    tokenizer `_current` would fall back to text the loop already left: no progress) -/
theorem rewind_needs_discipline : stepIter 4 ⟨0, [.fwd 2, .back 3]⟩ = none ∧ rel (heredocMoves 2 4 false) 0 = none := by
  decide +kernel

/-- `lex_progress`: whatever the characters make the sub-scanners do (any function from `_current` to an iteration), the
    `_scan` loop never needs more than `size - current` iterations: with that much fuel it is never still running,
    and when it stops normally `_current ≥ size` -/
theorem lex_progress (size : Nat) (iterAt : Nat → Iter) (c : Nat) :
    scanRun size (fun c => stepIter c (iterAt c)) (size - c) c 0 ≠ .outOfFuel ∧
      ∀ c' n', scanRun size (fun c => stepIter c (iterAt c)) (size - c) c 0 = .done c' n' → size ≤ c' ∧ n' ≤ size - c := by
  have hp : ∀ c c', (fun c => stepIter c (iterAt c)) c = some c' → c < c' := fun c c' h => stepIter_gt h
  obtain ⟨h1, h2⟩ := scanRun_spec size _ hp (size - c) c 0 (Nat.le_refl _)
  refine ⟨h1, ?_⟩
  intro c' n' h
  have := h2 c' n' h
  omega

example : scanRun 6 (fun c => stepIter c ⟨0, [.fwd 1]⟩) 6 0 0 = .done 6 3 := by decide +kernel

/-- sub-scanners that only move forward (`_scan_var`, `_scan_comment`, `_scan_identifier`, `_extract_string`, the digit
    runs of `_scan_number`) are always disciplined -/
theorem forward_only_disciplined (blanks : Nat) (ms : List Move) (h : ms.all Move.isFwd = true) (c : Nat) :
    ∃ c', stepIter c ⟨blanks, ms⟩ = some c' ∧ c < c' := by
  obtain ⟨a, h1, _⟩ := rel_all_fwd ms 0 h
  have : stepIter c ⟨blanks, ms⟩ = some (c + (Iter.offset ⟨blanks, ms⟩) + a) := by simp [stepIter, h1]
  exact ⟨_, this, stepIter_gt this⟩

/-- the only syntactically negative `_advance` arguments are the three modelled rewinds; the `-1` sits under
    `if not self._end` -/
theorem tokenizer_rewind_sites_known :
    rewindSites.map (fun s => (s.fn, s.arg, s.guards.getLast?)) =
      [("_scan_number", "-len(numeric_literal)", some "self._peek.isidentifier()"),
       ("_scan_string", "-1", some "not self._end"),
       ("_scan_string", "-len(tag)",
        some "tag and self.heredoc_tag_is_identifier and (self._end or tag.isdigit() or any((c.isspace() for c in tag)))")] := rfl

/-- every other `_advance` argument that is not syntactically non-negative (`size - 1`, `delim_size - 1`, `offset`, …)
    sits under at least one enclosing `if` / `while` guard; whether the guard really keeps it non-negative is not
    decided statically — the run-time trace replay rejects any negative move from a site not listed above -/
theorem tokenizer_guarded_sites_guarded : guardedSites.all (fun s => !s.guards.isEmpty) = true := by
  decide +kernel

/-- `_current` is written only by `_advance` (`+= i`, alnum fast loop), by `_extract_string`'s find fast path, and
    zeroed by `__init__` / `reset` -/
theorem tokenizer_current_writes_known :
    currentWrites = [("__init__", "= 0"), ("_advance", "Add= i"), ("_advance", "= _current"),
      ("_extract_string", "= end + 1"), ("reset", "= 0")] := rfl

/-- the loop test and the offset expression the model's `Iter.offset` mirrors -/
theorem tokenizer_scan_loop_shape :
    scanWhileTest = "self.size and (not self._end)" ∧
      scanOffset = "current - self._current if current > self._current else 1" := ⟨rfl, rfl⟩

/-- the statements of the parser glue the cursor model mirrors -/
theorem parser_glue_shape :
    retreatBody = ["if index != self._index: self._advance(index - self._index)"] ∧
    tryParseFinally = ["if not this or retreat: self._retreat(index)", "self.error_level = error_level"] ∧
    tryParseHandlers = ["ParseError"] ∧
    csvWhileTest = "self._match(sep)" ∧
    wrappedBody = ["wrapped = self._match(TokenType.L_PAREN)",
      "if not wrapped and (not optional): self.raise_error('Expecting (')", "parse_result = parse_method()",
      "if wrapped: self._match_r_paren()", "return parse_result"] ∧
    matchRParenBody = ["if not self._match(TokenType.R_PAREN, expression=expression): self.raise_error('Expecting )')"] :=
  ⟨rfl, rfl, rfl, rfl, rfl, rfl⟩

/-- the error funnel of `TokenizerCore.tokenize` as the source has it on this run (ast): the `try` guards `self._scan()`,
    catches `Exception` (not a hand-picked tuple) and re-raises TokenError; the wrappers between the public API and the
    two funnels (`Tokenizer.tokenize`, `Dialect.tokenize`, `Dialect.parse`, `Parser.parse`) contain no `try` of their own -/
theorem tokenizer_funnel_catches_exception :
    tokenizeTryGuardsScan = true ∧ tokenizeHandlers.contains "Exception" = true ∧ tokenizeHandlerRaises = ["TokenError"] ∧
      wrapperTryCounts.all (fun p => p.2 == 0) = true := by
  decide +kernel

/-- `tokenize_outcome`: with a funnel that catches `Exception` and re-raises TokenError, whatever an iteration of the scan
    loop raises (KeyError, IndexError, RecursionError, …) and whatever the characters are, `tokenize` ends in the tokens
    or in TokenError — never in another exception, and never still running after `size - current` iterations -/
theorem tokenize_outcome (handlers raises : List String) (hb : handlers.contains "Exception" = true)
    (hr : raises = ["TokenError"]) (size : Nat) (step : Nat → Except Exc Nat)
    (hp : ∀ c c', step c = .ok c' → c < c') (c : Nat) :
    tokenizeModel handlers raises size step (size - c) c = .ok ∨
      tokenizeModel handlers raises size step (size - c) c = .tokenError :=
  (tokenizeModel_ends handlers raises size step hp (size - c) c (Nat.le_refl _)).imp_right fun ⟨e, h⟩ =>
    h.trans (funnel_broad handlers raises hb hr e)

/-- … instantiated with the handler list re-extracted from the source on this run -/
theorem tokenize_outcome_current_source (size : Nat) (step : Nat → Except Exc Nat)
    (hp : ∀ c c', step c = .ok c' → c < c') (c : Nat) :
    tokenizeModel tokenizeHandlers tokenizeHandlerRaises size step (size - c) c = .ok ∨
      tokenizeModel tokenizeHandlers tokenizeHandlerRaises size step (size - c) c = .tokenError :=
  tokenize_outcome _ _ tokenizer_funnel_catches_exception.2.1 tokenizer_funnel_catches_exception.2.2.1 size step hp c

example : tokenizeModel ["Exception"] ["TokenError"] 3 (fun c => if c = 1 then .error .keyError else .ok (c + 1)) 3 0
    = .tokenError := by decide +kernel

/-- the broad catch is needed: with `except (TokenError, IndexError)` a KeyError out of `_scan_keywords` (Dune: the trie
    matches `x'` case-insensitively, the format-string dict has only `X'`) or a RecursionError out of nested command
    scanning leaves `tokenize` as it is -/
theorem tokenize_funnel_needs_broad_catch :
    tokenizeModel ["TokenError", "IndexError"] ["TokenError"] 3 (fun _ => .error .keyError) 3 0 = .leaked .keyError ∧
    tokenizeModel ["TokenError", "IndexError"] ["TokenError"] 3 (fun _ => .error .recursionError) 3 0
      = .leaked .recursionError := by decide +kernel

end Scan

end SqlglotModel.Properties.C05
