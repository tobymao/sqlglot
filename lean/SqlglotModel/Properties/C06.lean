/-
  C06 — Simplification and normal forms preserve SQL three-valued logic exactly.
  Property theorems, non-vacuity examples and counter-example witnesses, with the conditions on the regenerated
  tables (`ComplementOK`, `InverseOK`, `SubFlipOK`, and that the second gives the third) and the definitions that only
  statements of this file need (`pkOfPKind`, `repOfPKind`, `iterate`); `isIcol` stands with its lemmas in Proofs/SimplifyTree.
  `eval` is 3-valued: NULL, TRUE and FALSE are distinct results (Sem/ThreeVL.lean).
-/
import SqlglotModel.Proofs.SimplifyNode
import SqlglotModel.Proofs.SimplifyChain
import SqlglotModel.Proofs.SimplifyTree
import SqlglotModel.Generated.C06

namespace SqlglotModel.Properties.C06
open SqlglotModel.ThreeVL SqlglotModel.Simplify

/-- what a COMPLEMENT_COMPARISONS table must satisfy for `NOT (a op b) → a op' b` -/
def ComplementOK (c : Cmp → Cmp) : Prop := ∀ op x y, (c op).test x y = !op.test x y
/-- what INVERSE_COMPARISONS (identity default) must satisfy for swapping the operands of a comparison -/
def InverseOK (c : Cmp → Cmp) : Prop := ∀ op x y, (c op).test y x = op.test x y

/-- the tables regenerated from the source on this run have the required properties (complete case analysis) -/
theorem generated_complement_ok : ComplementOK Generated.C06.complement := by
  intro op x y; cases op <;> simp [Generated.C06.complement, Cmp.test] <;> (rw [Bool.eq_iff_iff]; simp)
theorem generated_inverse_ok : InverseOK Generated.C06.inverseCmp := by
  intro op x y; cases op <;> simp [Generated.C06.inverseCmp, Cmp.test] <;> omega
theorem generated_inverse_ops_ok :
    Generated.C06.addInverseIsSub = true ∧ Generated.C06.subInverseIsAdd = true := by decide

/-- the rule pipeline of `Simplifier._simplify` extracted from the source on this run is the one the model and the
    observer were written for (in particular sort_comparison runs on the children before the parent's
    simplify_connectors, which is what puts the shared column of `_simplify_comparison` on the left) -/
theorem generated_pipeline_known :
    Generated.C06.preOrder = ["rewrite_between", "uniq_sort", "absorb_and_eliminate", "simplify_concat",
      "simplify_conditionals", "propagate_constants"] ∧
    Generated.C06.postOrder = ["simplify_not", "flatten", "simplify_connectors", "remove_complements", "simplify_coalesce",
      "simplify_literals", "simplify_equality", "simplify_parens", "simplify_datetrunc", "sort_comparison",
      "simplify_startswith"] := ⟨rfl, rfl⟩

/-- rewrite_between is exact (whatever the parent: the only thing the parent decides is a pair of parentheses) -/
theorem rewrite_between_sound (p : PK) (e : E) (env : Env) : eval env (rewriteBetween p e) = eval env e := by
  cases e with
  | between a lo hi => exact eval_ite env (fun _ => rfl) fun _ => rfl
  | _ => rfl

example : rewriteBetween .none (.between (.icol 0 false) (.int 1) (.int 3)) ≠ .between (.icol 0 false) (.int 1) (.int 3) := by
  decide

/-- text level (5af9b60): the AND that replaces a BETWEEN stays grouped under IS, a comparison, IN, arithmetic, unary
    minus and NOT; simplify_parens does not drop that Paren again; and it is needed — an AND is not `reparseSafe` in any of
    those operand slots.  Under a connector or at the top it is left bare (and that is safe). -/
theorem rewrite_between_keeps_grouping :
    ([PK.is, .cmp, .inList, .add, .sub, .mul, .neg, .not].all fun pk =>
      rewriteBetween pk (.between (.icol 0 false) (.int 1) (.int 2))
        == .paren (.and (.cmp .gte (.icol 0 false) (.int 1)) (.cmp .lte (.icol 0 false) (.int 2))) &&
      simplifyParens pk (.paren (.and (.cmp .gte (.icol 0 false) (.int 1)) (.cmp .lte (.icol 0 false) (.int 2))))
        == .paren (.and (.cmp .gte (.icol 0 false) (.int 1)) (.cmp .lte (.icol 0 false) (.int 2)))) = true ∧
    ([PKind.is, .eq, .rel, .add, .sub, .mul, .neg, .not].all fun p => [0, 1].all fun pos => !reparseSafe p pos .and) = true ∧
    reparseSafe .inList 0 .and = false ∧
    ([PK.none, .and, .or, .paren].all fun pk =>
      rewriteBetween pk (.between (.icol 0 false) (.int 1) (.int 2))
        == .and (.cmp .gte (.icol 0 false) (.int 1)) (.cmp .lte (.icol 0 false) (.int 2))) = true ∧
    reparseSafe .and 0 .and = true ∧ reparseSafe .or 1 .and = true := by decide +kernel

/-- why: rewrite_between as it was before 5af9b60 (snapshot `rewriteBetweenNotOnly`: parentheses under NOT only) puts a bare
    AND into the subject slot of IS — `x BETWEEN 1 AND 2 IS NULL → x >= 1 AND x <= 2 IS NULL` — which is not `reparseSafe` -/
theorem rewrite_between_not_only_witness :
    rewriteBetweenNotOnly .is (.between (.icol 0 false) (.int 1) (.int 2))
      = .and (.cmp .gte (.icol 0 false) (.int 1)) (.cmp .lte (.icol 0 false) (.int 2)) ∧
    reparseSafe .is 0 .and = false := by decide

/-- simplify_not (NOT NULL, comparison complement, De Morgan, constants, double negation behind the dialect flag and
    the boolean-type premise) is exact -/
theorem simplify_not_sound (c : Cmp → Cmp) (hc : ComplementOK c) (fl : Flags) (p : PK) (innerBool : Bool) (e : E)
    (hb : innerBool = true → ∀ x, e = .not (.not x) → boolish x = true) (env : Env) :
    eval env (simplifyNot c fl p innerBool e) = eval env e := by
  cases e with
  | not this =>
    cases this with
    | null => exact eval_notNull env p
    | cmp op a b => simp only [simplifyNot, eval, cmpVal_complement c hc]
    | paren x =>
      have hu : eval env (.not (.paren x)) = ofB3 (not3 (truth (eval env (unnest (.paren x))))) := by
        rw [eval_unnest]; rfl
      simp only [simplifyNot, simplifyNotParen]; rw [hu]
      split
      · rename_i h; rw [h]; simp only [eval, eval_mkOr, eval_mkNot, truth_ofB3, not3_and3]
      · rename_i h; rw [h]; simp only [eval, eval_mkAnd, eval_mkNot, truth_ofB3, not3_or3]
      · rename_i h; rw [h]; exact eval_notNull env p
      · exact hu
    | not inner =>
      simp only [simplifyNot, simplifyNotTail, alwaysTrue, isFalseE, Bool.false_eq_true, if_false]
      refine eval_ite env (fun h => ?_) fun _ => rfl
      simp only [eval, truth_ofB3, not3_not3]
      exact (boolish_val env inner (hb (Bool.and_eq_true _ _ ▸ h).2 inner rfl)).symm
    | bool v => cases v <;> rfl
    | int n =>
      simp only [simplifyNot, simplifyNotTail, alwaysTrue, isFalseE, Bool.false_eq_true, if_false]
      refine eval_ite env (fun h => ?_) fun h => ?_
      · simp only [eval, truth, h]; rfl
      · simp only [eval, truth, Bool.not_eq_true _ ▸ h]
    | _ => rfl
  | _ => rfl

example : simplifyNot Generated.C06.complement ⟨true, false⟩ .none true (.not (.not (.bcol 0 false))) = .bcol 0 false := by
  decide

/-- the constant part of the AND / OR pair table: the replacement has the same 3-valued truth value as the pair … -/
theorem conn_const_sound (isAnd : Bool) (l r x : E) (h : connConst isAnd l r = some x) (env : Env) :
    ofB3 (truth (eval env x)) = eval env (if isAnd then .and l r else .or l r) :=
  (congrArg ofB3 ((connConst_truth isAnd l r env).get h)).trans (eval_rawConn env isAnd l r).symm

/-- … and the same *value* when the replacement is boolean-valued (`A AND TRUE → A` for a boolean `A`) -/
theorem conn_const_exact (isAnd : Bool) (l r x : E) (h : connConst isAnd l r = some x) (hb : boolish x = true)
    (env : Env) : eval env x = eval env (if isAnd then .and l r else .or l r) := by
  rw [← conn_const_sound isAnd l r x h env, boolish_val env x hb]

example : connConst true (.bool true) (.bcol 0 false) = some (.bcol 0 false) := by decide

/-- literal folding (`_simplify_binary`) is exact -/
theorem bin_pair_sound (k : BinK) (pIf sp : Bool) (a b x : E) (h : binPair k pIf sp a b = some x) (env : Env) :
    eval env x = eval env (k.mk a b) := by
  refine Sound.get ?_ h
  unfold binPair
  split
  · refine .ite (fun hb => ?_) fun _ => binPairNum_sound _ sp a b env
    obtain rfl := isNullE_eq b hb
    refine .ite (fun hl => .some ?_) fun _ => .ite (fun ha => .some ?_) fun _ => binPairNum_sound _ sp a _ env
    · cases a with
      | int n => rfl
      | _ => cases hl
    · rw [isNullE_eq a ha]; rfl
  · rename_i hk
    refine .ite (fun hc => .some ?_) fun _ => binPairNum_sound k sp a b env
    exact (eval_binK_null env k (fun h => hk h) a b (Bool.and_eq_true _ _ ▸ hc).1).symm

example : binPair .sub false true (.int 2) (.int 5) = some (.neg (.int 3)) := by decide

/-- `- - x → x` keeps the numeric value -/
theorem simplify_neg_neg_sound (e : E) (env : Env) : toInt? (eval env (simplifyNegNeg e)) = toInt? (eval env e) := by
  unfold simplifyNegNeg
  split
  · simp only [eval, negVal]
    cases h : toInt? (eval env _) <;> simp [toInt?]
  · rfl

/-- property of INVERSE_COMPARISONS needed by `5 - x < 2 → x > 5 - 2` -/
def SubFlipOK (c : Cmp → Cmp) : Prop := ∀ op a x r, (c op).test x (a - r) = op.test (a - x) r
/-- a table that swaps the operands of a comparison also serves the subtraction rule -/
theorem subFlip_of_inverse (c : Cmp → Cmp) (hc : InverseOK c) : SubFlipOK c := fun op a x r =>
  (hc op (a - r) x).trans (cmp_flip_sub op x a r)
theorem generated_subflip_ok : SubFlipOK Generated.C06.inverseCmp :=
  subFlip_of_inverse _ generated_inverse_ok

/-- simplify_equality (`x + 1 = 3 → x = 3 - 1`, `5 - x < 2 → x > 5 - 2`) is exact over the (unbounded) integers -/
theorem simplify_equality_sound (c : Cmp → Cmp) (hc : SubFlipOK c) (ai si : Bool) (e : E) (env : Env) :
    eval env (simplifyEquality c ai si e) = eval env e := by
  cases e with
  | cmp op l r =>
    simp only [simplifyEquality]
    cases hrv : numVal? r with
    | none => rfl
    | some rv =>
      have er := numVal_eval env r rv hrv
      have num : ∀ {x y : E}, ((numVal? x).isNone && (numVal? y).isSome) = true → ∃ v, eval env y = .i v := fun h =>
        (Option.isSome_iff_exists.mp (Bool.and_eq_true _ _ ▸ h).2).imp fun v hv => numVal_eval env _ v hv
      simp only [Option.isNone_some, Bool.false_eq_true, if_false]
      cases l with
      | add a b =>
        refine eval_ite env (fun _ => rfl) fun _ => eval_ite env (fun h => ?_) fun _ => eval_ite env (fun h => ?_) fun _ => rfl
        · obtain ⟨bv, eb⟩ := num h; simp only [eval, er, eb]; exact val_shift_add op _ bv rv
        · obtain ⟨av, ea⟩ := num h; simp only [eval, er, ea]; exact val_shift_add_comm op _ av rv
      | sub a b =>
        refine eval_ite env (fun _ => rfl) fun _ => eval_ite env (fun h => ?_) fun _ => eval_ite env (fun h => ?_) fun _ => rfl
        · obtain ⟨bv, eb⟩ := num h; simp only [eval, er, eb]; exact val_shift_sub op _ bv rv
        · obtain ⟨av, ea⟩ := num h; simp only [eval, er, ea]; exact val_flip_sub c hc op _ av rv
      | _ => rfl
  | _ => rfl

example : simplifyEquality Generated.C06.inverseCmp true true (.cmp .lt (.sub (.int 5) (.icol 0 false)) (.int 2))
    = .cmp .gt (.icol 0 false) (.sub (.int 5) (.int 2)) := rfl

/-- TEXT LEVEL (complete decision table, decided exhaustively): wherever the guard list of simplify_parens — regenerated
    from the source on this run — drops the parentheses of a child of kind `c` under a parent of kind `p`, the printed SQL
    parses back with the same meaning in every operand slot (`reparseSafe`, the abstracted precedence ladder); no
    exception.  (BETWEEN parents are excluded: rewrite_between, earlier in the pipeline (`generated_pipeline_known`), removes them before
    simplify_parens runs.)  Dropping a guard atom such as `parent_is_predicate` breaks this. -/
theorem generated_parens_guard_reparse_safe :
    (parentKinds.all fun p => childKinds.all fun c => [0, 1, 2].all fun pos =>
      !Generated.C06.parensGuard c p || reparseSafe p pos c) = true := by decide +kernel

/-- … as a ∀-statement -/
theorem simplify_parens_text_safe (p c : PKind) (pos : Nat) (hp : p ∈ parentKinds) (hc : c ∈ childKinds) (hpos : pos ∈ [0, 1, 2])
    (h : Generated.C06.parensGuard c p = true) : reparseSafe p pos c = true := by
  have := generated_parens_guard_reparse_safe
  simp only [List.all_eq_true] at this
  simpa [h] using this p hp c hc pos hpos

/-- why the repaired guard atoms are needed: the guard list as it was before the fix (explicit snapshot `oldParensGuard`)
    dropped the parentheses in slots that are unsafe, and exactly the `knownUnsafeParens` slots were the unsafe ones -/
theorem parens_known_unsafe_witness :
    oldParensGuard .not .add = true ∧ reparseSafe .add 0 .not = false ∧
    oldParensGuard .inList .neg = true ∧ reparseSafe .neg 0 .inList = false ∧
    (parentKinds.all fun p => childKinds.all fun c => [0, 1, 2].all fun pos =>
      !oldParensGuard c p || reparseSafe p pos c || knownUnsafeParens p c) = true := by decide +kernel

def pkOfPKind : PKind → List PK
  | .none => [.none] | .func => [.coalesce, .case, .iff] | .paren => [.paren] | .or => [.or] | .and => [.and] | .not => [.not]
  | .eq => [.cmp] | .rel => [.cmp] | .is => [.is] | .between => [.between] | .inList => [.inList]
  | .add => [.add] | .sub => [.sub] | .mul => [.mul] | .neg => [.neg] | .atom => []

def repOfPKind : PKind → List E
  | .paren => [.paren (.icol 0 false)] | .or => [.or (.bcol 0 false) (.bcol 1 false)] | .and => [.and (.bcol 0 false) (.bcol 1 false)]
  | .not => [.not (.bcol 0 false)] | .eq => [.cmp .eq (.icol 0 false) (.int 1), .cmp .neq (.icol 0 false) (.int 1)]
  | .rel => [.cmp .lt (.icol 0 false) (.int 1), .cmp .gte (.icol 0 false) (.int 1)] | .is => [.is (.icol 0 false) .null]
  | .between => [.between (.icol 0 false) (.int 1) (.int 2)] | .inList => [.inList (.icol 0 false) (.cons (.int 1) .nil)]
  | .add => [.add (.icol 0 false) (.int 1)] | .sub => [.sub (.icol 0 false) (.int 1)] | .mul => [.mul (.icol 0 false) (.int 2)]
  | .neg => [.neg (.icol 0 false)] | .atom => [.icol 0 false, .int 1, .bool true, .null]
  | .func => [.coalesce (.cons (.icol 0 false) .nil), .case .nil .absent, .iff (.bcol 0 false) (.int 1) .absent]
  | .none => []

/-- the hand-written mirror `simplifyParens` and the regenerated guard list agree on every (parent kind, child kind)
    (complete table over representative terms; BETWEEN parents included) -/
theorem generated_parens_guard_matches_model :
    ((PKind.between :: parentKinds).all fun p => childKinds.all fun c => (pkOfPKind p).all fun pk => (repOfPKind c).all fun e =>
      (simplifyParens pk (.paren e) == e) == Generated.C06.parensGuard c p) = true := by decide +kernel

/-- simplify_parens only ever drops a pair of parentheses -/
theorem simplify_parens_sound (p : PK) (e : E) (env : Env) : eval env (simplifyParens p e) = eval env e := by
  cases e with
  | paren t =>
    refine eval_ite env (fun _ => rfl) fun _ => eval_ite env (fun _ => rfl) fun _ => eval_ite env (fun _ => rfl) fun _ => ?_
    split <;> rfl
  | _ => rfl

/-- flatten (`A AND (B AND C) → A AND B AND C`) is exact -/
theorem flatten_sound (e : E) (env : Env) : eval env (flatten1 e) = eval env e :=
  eval_flatten1 env e

/-- the IF branch of simplify_conditionals is exact -/
theorem simplify_conditionals_if_sound (pc : PK) (c t f : E) (env : Env) :
    eval env (simplifyConditionals pc (.iff c t f)) = eval env (.iff c t f) := by
  rw [simplifyConditionals]
  refine eval_ite env (fun _ => rfl) fun _ => eval_ite env (fun h => ?_) fun _ => eval_ite env (fun h => ?_) fun _ => rfl
  · simp only [eval_wrapForParent, eval, alwaysTrue_truth env c h, if_true]
  · rw [eval_wrapForParent]
    simp only [eval, alwaysFalse_truth env c h, if_false]
    exact eval_ite env (fun hf => by rw [hf]; rfl) fun _ => rfl

/-- simplify_conditionals (CASE loop as repaired by 9cbbc29, IF, and the parenthesised branch of a4faa75) is exact: a
    constant-TRUE condition collapses the CASE only when it is the first remaining branch; constant-FALSE/NULL branches
    are dropped; the branch that replaces the CASE / IF is wrapped in parentheses under a Binary / Unary / Predicate parent -/
theorem simplify_conditionals_sound (pc : PK) (e : E) (env : Env) :
    eval env (simplifyConditionals pc e) = eval env e := by
  cases e with
  | case ifs d => simp only [simplifyConditionals]; rw [caseLoop_sound]; rfl
  | iff c t f => exact simplify_conditionals_if_sound pc c t f env
  | _ => rfl

example : simplifyConditionals .none (.case (.cons (.iff (.bool false) (.int 1) .absent)
    (.cons (.iff (.bool true) (.int 2) .absent) .nil)) .absent)
    = .case (.cons (.iff (.bool true) (.int 2) .absent) .nil) .absent := by decide

-- the mirror iterates like the Python for-loop over the list it pops from: the branch right after a popped one is SKIPPED
-- (kept unexamined), which is why `WHEN TRUE` in third place does not collapse the CASE here …
example : simplifyConditionals .none (.case (.cons (.iff (.bool false) (.int 10) .absent) (.cons (.iff (.bcol 0 false) (.int 20) .absent)
    (.cons (.iff (.bool true) (.int 30) .absent) .nil))) .absent)
    = .case (.cons (.iff (.bcol 0 false) (.int 20) .absent) (.cons (.iff (.bool true) (.int 30) .absent) .nil)) .absent := by decide
-- … and a constant-false branch in the skipped position survives this pass (the fixpoint driver removes it next time)
example : simplifyConditionals .none (.case (.cons (.iff (.bool false) (.int 10) .absent) (.cons (.iff (.bool false) (.int 20) .absent)
    (.cons (.iff (.bcol 0 false) (.int 30) .absent) .nil))) .absent)
    = .case (.cons (.iff (.bool false) (.int 20) .absent) (.cons (.iff (.bcol 0 false) (.int 30) .absent) .nil)) .absent := by decide

/-- why the identity test `case is ifs[0]` cannot be replaced by a "some earlier branch was visited" flag: the loop pops from
    the list it iterates, so the branch after a popped one is never visited and never sets the flag (`caseLoopFlag`):
    `CASE WHEN FALSE THEN 10 WHEN b THEN 20 WHEN TRUE THEN 30 END → 30`, wrong when `b` is TRUE -/
theorem simplify_conditionals_flag_skips_after_pop :
    ∃ ifs env, caseLoopFlag .none .absent (listLen ifs + 1) false [] ifs = .int 30 ∧
      eval env (caseLoopFlag .none .absent (listLen ifs + 1) false [] ifs) ≠ eval env (.case ifs .absent) :=
  ⟨.cons (.iff (.bool false) (.int 10) .absent) (.cons (.iff (.bcol 0 false) (.int 20) .absent) (.cons (.iff (.bool true) (.int 30) .absent) .nil)),
   ⟨fun _ => some true, fun _ => none⟩, by decide, by decide⟩

/-- why the "first remaining branch" test is needed: the unrepaired loop (`firstOnly = false`, the code before
    9cbbc29) turns `CASE WHEN b THEN 1 WHEN TRUE THEN 2 END` into `2`, wrong when `b` is TRUE -/
theorem simplify_conditionals_needs_first_branch :
    ∃ ifs env, eval env (caseLoop false .none .absent (listLen ifs + 1) [] ifs) ≠ eval env (.case ifs .absent) :=
  ⟨.cons (.iff (.bcol 0 false) (.int 1) .absent) (.cons (.iff (.bool true) (.int 2) .absent) .nil),
   ⟨fun _ => some true, fun _ => none⟩, by decide⟩

/-- text level (a4faa75): the branch that replaces `IF(TRUE, a OR b, c)` under an AND keeps its grouping, and
    simplify_parens does not drop it again (an OR under an AND is not `reparseSafe`) -/
theorem simplify_conditionals_keeps_grouping :
    simplifyConditionals .and (.iff (.bool true) (.or (.bcol 0 false) (.bcol 1 false)) (.bcol 2 false))
      = .paren (.or (.bcol 0 false) (.bcol 1 false)) ∧
    simplifyParens .and (.paren (.or (.bcol 0 false) (.bcol 1 false))) = .paren (.or (.bcol 0 false) (.bcol 1 false)) ∧
    reparseSafe .and 0 .or = false := by decide

/-- the parentheses are necessary for same-operator nesting that is not associative: `x - IF(TRUE, a - b, 0)` becomes
    `x - (a - b)`, simplify_parens keeps that Paren, and a subtraction in the RIGHT slot of a subtraction is not
    `reparseSafe` (`x - a - b` parses as `(x - a) - b`); AND / OR / + / * in the same slot are.  The variant that skips the
    wrap for same-operator parents (`wrapForParentSkipSameOp`) leaves the bare `a - b` there. -/
theorem wrap_needed_for_same_op_subtraction :
    simplifyConditionals .sub (.iff (.bool true) (.sub (.icol 0 false) (.icol 1 false)) (.int 0))
      = .paren (.sub (.icol 0 false) (.icol 1 false)) ∧
    simplifyParens .sub (.paren (.sub (.icol 0 false) (.icol 1 false))) = .paren (.sub (.icol 0 false) (.icol 1 false)) ∧
    reparseSafe .sub 1 .sub = false ∧
    reparseSafe .add 1 .add = true ∧ reparseSafe .mul 1 .mul = true ∧ reparseSafe .and 1 .and = true ∧ reparseSafe .or 1 .or = true ∧
    wrapForParentSkipSameOp (.sub (.icol 0 false) (.icol 1 false)) .sub = .sub (.icol 0 false) (.icol 1 false) ∧
    (∃ env, eval env (.sub (.icol 2 false) (.sub (.icol 0 false) (.icol 1 false)))
          ≠ eval env (.sub (.sub (.icol 2 false) (.icol 0 false)) (.icol 1 false))) :=
  ⟨by decide, by decide, by decide, by decide, by decide, by decide, by decide, by decide,
   ⟨⟨fun _ => none, fun _ => some 1⟩, by decide⟩⟩

/-- `COALESCE(x) → x` and `COALESCE(<non-null constant>, …) → <that constant>` are exact -/
theorem simplify_coalesce_head_sound (fl : Flags) (p : PK) (first rest : E) (env : Env) :
    eval env (simplifyCoalesce fl p (.coalesce (.cons first rest))) = eval env (.coalesce (.cons first rest)) := by
  simp only [simplifyCoalesce]
  refine eval_ite env (fun h => ?_) fun _ => rfl
  rw [eval_wrapForParent]
  simp only [Bool.or_eq_true, decide_eq_true_eq] at h
  rcases h with h | h
  · subst h; exact (evalCoalesce_single env first).symm
  · cases first with
    | int | bool => rfl
    | _ => cases h

/-- the comparison branch of simplify_coalesce (operand order as repaired by daebc58):
    `COALESCE(x, …, c, …) op k  →  ((NOT this IS NULL AND COALESCE(x, …) op k) OR (this IS NULL AND c op k))`
    is exact (the argument that ends the COALESCE is a constant other than the NULL literal, e0979fa) -/
theorem simplify_coalesce_cmp_sound (op : Cmp) (left : Bool) (first rest other x : E)
    (h : coalesceRewrite true (some op) left first rest other = some x) (env : Env) :
    eval env x = eval env (if left then .cmp op (.coalesce (.cons first rest)) other
                           else .cmp op other (.coalesce (.cons first rest))) := by
  refine Sound.get ?_ h
  unfold coalesceRewrite
  refine .ite (fun _ => .none) fun _ => ?_
  cases hs : splitAtConst true rest with
  | none => exact .none
  | some pc =>
    obtain ⟨pre, c⟩ := pc
    refine .some ?_
    have hsplit := evalCoalesce_splitAtConst env true rest pre c hs
      (endsCoalesce_ne_null env c (splitAtConst_ends true rest pre c hs)) first
    have hthis : eval env (wrapNotSubject (if pre = .nil then first else .coalesce (.cons first pre))) = evalCoalesce env (.cons first pre) := by
      rw [eval_wrapNotSubject]
      split
      · rename_i hp; rw [hp]; exact (evalCoalesce_single env first).symm
      · rfl
    cases left <;>
      simp only [Bool.false_eq_true, if_false, if_true, mkCmpLike, eval, eval_mkOr, eval_mkAnd, hthis, hsplit, truth_ofB3]
    · exact coalesce_guard (cmpVal op (eval env other)) (ofB3_truth_cmpVal op _) _ _
    · exact coalesce_guard (cmpVal op · (eval env other)) (fun _ => ofB3_truth_cmpVal ..) _ _

example : coalesceRewrite true (some .lt) false (.icol 0 false) (.cons (.int 1) .nil) (.int 2)
    = some (.paren (mkOr (mkAnd (.not (.is (.icol 0 false) .null)) (.cmp .lt (.int 2) (.coalesce (.cons (.icol 0 false) .nil))))
                         (mkAnd (.is (.icol 0 false) .null) (.cmp .lt (.int 2) (.int 1))))) := by decide

-- `simplify_coalesce_cmp_sound` is for ANY number of arguments before the constant (`evalCoalesce_splitAtConst` is by
-- induction over the prefix); with two of them the guard subject is the truncated COALESCE(x, y), not x:
example : coalesceRewrite true (some .eq) true (.icol 0 false) (.cons (.icol 1 false) (.cons (.int 1) .nil)) (.int 2)
    = some (.paren (mkOr
        (mkAnd (.not (.is (.coalesce (.cons (.icol 0 false) (.cons (.icol 1 false) .nil))) .null))
               (.cmp .eq (.coalesce (.cons (.icol 0 false) (.cons (.icol 1 false) .nil))) (.int 2)))
        (mkAnd (.is (.coalesce (.cons (.icol 0 false) (.cons (.icol 1 false) .nil))) .null) (.cmp .eq (.int 1) (.int 2))))) := by decide

/-- text level (b0a036f): a NOT guard subject stays grouped — `COALESCE(NOT b, TRUE) = TRUE` builds `(NOT b) IS NULL`, and a NOT
    in the subject slot of IS is not `reparseSafe` -/
theorem simplify_coalesce_not_subject_grouped :
    coalesceRewrite true (some .eq) true (.not (.bcol 0 false)) (.cons (.bool true) .nil) (.bool true)
      = some (.paren (mkOr
          (mkAnd (.not (.is (.paren (.not (.bcol 0 false))) .null)) (.cmp .eq (.coalesce (.cons (.not (.bcol 0 false)) .nil)) (.bool true)))
          (mkAnd (.is (.paren (.not (.bcol 0 false))) .null) (.cmp .eq (.bool true) (.bool true))))) ∧
    reparseSafe .is 0 .not = false := by decide

/-- why the guard subject must be the whole truncated COALESCE: with the first argument alone
    (`coalesceRewriteFirstArgGuard`) `COALESCE(x, y, 1) = 2` is FALSE for x NULL, y = 2 where the input is TRUE -/
theorem simplify_coalesce_guard_subject_needed :
    ∃ x env, coalesceRewriteFirstArgGuard (some .eq) (.icol 0 false) (.cons (.icol 1 false) (.cons (.int 1) .nil)) (.int 2) = some x ∧
      eval env x ≠ eval env (.cmp .eq (.coalesce (.cons (.icol 0 false) (.cons (.icol 1 false) (.cons (.int 1) .nil)))) (.int 2)) :=
  ⟨_, ⟨fun _ => none, fun k => if k = 1 then some 2 else none⟩, rfl, by decide⟩

/-- why the NULL literal must not end the COALESCE: the earlier rule (`skipNull = false`, before e0979fa) loses the
    arguments after it — `COALESCE(x, NULL, y) = 1` became `(NOT x IS NULL AND x = 1) OR (x IS NULL AND NULL = 1)` -/
theorem simplify_coalesce_needs_nonnull_constant :
    ∃ first rest other x env, coalesceRewrite false (some .eq) true first rest other = some x ∧
      eval env x ≠ eval env (.cmp .eq (.coalesce (.cons first rest)) other) :=
  ⟨.icol 0 false, .cons .null (.cons (.icol 1 false) .nil), .int 1, _,
   ⟨fun _ => none, fun k => if k = 1 then some 1 else none⟩, rfl, by decide⟩

example : simplifyCoalesce ⟨false, false⟩ .none (.cmp .eq (.coalesce (.cons (.icol 0 false) (.cons .null (.cons (.icol 1 false) .nil)))) (.int 1))
    = .cmp .eq (.coalesce (.cons (.icol 0 false) (.cons .null (.cons (.icol 1 false) .nil)))) (.int 1) := by decide

/-- the step checker is sound: an accepted step has the same 3-valued truth value under every assignment … -/
theorem checkStep_sound (c : Cmp → Cmp) (hc : InverseOK c) (r : Rule) (a b : E) (h : checkStep c r a b = true)
    (env : Env) : truth (eval env a) = truth (eval env b) := by
  have tt : (a == b || ttCheck a b) = true → truth (eval env a) = truth (eval env b) := by
    intro h
    simp only [Bool.or_eq_true, beq_iff_eq] at h
    rcases h with h | h
    · rw [h]
    · exact ttCheck_sound a b h env
  cases r <;> simp only [checkStep] at h <;> try exact tt h
  simp only [checkSortComparison, Bool.or_eq_true, beq_iff_eq] at h
  rcases h with h | h
  · rw [h]
  · split at h
    · rename_i op l r'
      simp only [beq_iff_eq] at h; subst h
      exact (congrArg truth (cmpVal_inverse c hc op _ _)).symm
    · cases h

/-- … and the same value (NULL, TRUE, FALSE distinct) when both sides are boolean-valued expressions -/
theorem checkStep_exact (c : Cmp → Cmp) (hc : InverseOK c) (r : Rule) (a b : E) (h : checkStep c r a b = true)
    (ha : boolish a = true) (hb : boolish b = true) (env : Env) : eval env a = eval env b := by
  rw [← boolish_val env a ha, ← boolish_val env b hb, checkStep_sound c hc r a b h env]

-- the checker accepts the rewrites it is meant for (non-vacuity) and rejects the NULL-unsafe ones
example : checkStep Generated.C06.inverseCmp .absorbAndEliminate
    (.and (.bcol 0 false) (.paren (.or (.bcol 0 false) (.bcol 1 false)))) (.bcol 0 false) = true := by decide
example : checkStep Generated.C06.inverseCmp .removeComplements
    (.and (.bcol 0 false) (.not (.bcol 0 false))) (.bool false) = false := by decide
example : checkStep Generated.C06.inverseCmp .removeComplements
    (.and (.bcol 0 true) (.not (.bcol 0 true))) (.bool false) = true := by decide
example : checkStep Generated.C06.inverseCmp .distributiveLaw
    (.or (.paren (.and (.bcol 0 false) (.bcol 1 false))) (.bcol 2 false))
    (.and (.paren (.or (.bcol 0 false) (.bcol 2 false))) (.paren (.or (.bcol 1 false) (.bcol 2 false)))) = true := by decide +kernel

/-- why the `nonnull` gate of remove_complements / absorb_and_eliminate exists: `A AND NOT A` is NULL, not FALSE, for A NULL -/
theorem nonnull_needed : ∃ env, eval env (.and (.bcol 0 false) (.not (.bcol 0 false))) ≠ .b false :=
  ⟨⟨fun _ => none, fun _ => none⟩, by decide⟩
theorem nonnull_needed_absorb :
    ∃ env, eval env (.and (.bcol 0 false) (.paren (.or (.not (.bcol 0 false)) (.bcol 1 false))))
      ≠ eval env (.and (.bcol 0 false) (.bcol 1 false)) :=
  ⟨⟨fun k => if k = 0 then none else some false, fun _ => none⟩, by decide⟩

/-- the range rules of `_simplify_comparison` on two upper bounds (LT/LTE) or two lower bounds (GT/GTE) of the same
    term `c` (as repaired by a8389e4: on equal constants AND keeps the strict bound, OR the inclusive one) are exact in
    3-valued logic — for every value of `c` including NULL, for both operand orders, for AND and OR -/
theorem simplify_comparison_bounds_sound (or_ : Bool) (opl opr : Cmp) (c l r x : E) (lv rv : Int)
    (hl : numVal? l = some lv) (hr : numVal? r = some rv)
    (hops : ((isLtLte (some opl) && isLtLte (some opr)) || (isGtGte (some opl) && isGtGte (some opr))) = true)
    (h : cmpDecide true or_ (.cmp opl c l) (.cmp opr c r) (some opl) lv (some opr) rv = .res x) (env : Env) :
    eval env x = eval env (if or_ then .or (.cmp opl c l) (.cmp opr c r) else .and (.cmp opl c l) (.cmp opr c r)) := by
  refine simplify_comparison_sound or_ opl opr c l r x lv rv hl hr h env (fun hx => ?_)
  subst hx
  -- two upper bounds, or two lower bounds, always have an integer in common, so the result is not FALSE
  have key : ∀ k, opl.test k lv = true → opr.test k rv = true → False := by
    intro k h1 h2
    rcases cmpDecide_spec _ _ _ _ _ _ _ _ h k with ⟨hx, -⟩ | ⟨hx, -⟩ | ⟨-, -, hk⟩
    · cases hx
    · cases hx
    · rw [h1, h2] at hk; cases hk
  simp only [Bool.or_eq_true, Bool.and_eq_true] at hops
  rcases hops with ⟨h1, h2⟩ | ⟨h1, h2⟩
  · exact (key (min lv rv - 1) (ltLte_test opl h1 _ _ (by omega)) (ltLte_test opr h2 _ _ (by omega))).elim
  · exact (key (max lv rv + 1) (gtGte_test opl h1 _ _ (by omega)) (gtGte_test opr h2 _ _ (by omega))).elim

example : cmpDecide true false (.cmp .lte (.icol 0 false) (.int 1)) (.cmp .lt (.icol 0 false) (.int 1)) (some .lte) 1 (some .lt) 1
    = .res (.cmp .lt (.icol 0 false) (.int 1)) := by decide

/-- why the tie rule is needed: before a8389e4 (`tie = false`) the first operand won on equal constants, so
    `x <= 1 AND x < 1` (which `NOT x > 1 AND x < 1` reaches unsorted) became `x <= 1`: TRUE at x = 1, the input is FALSE -/
theorem simplify_comparison_tie_needed :
    ∃ x env, cmpDecide false false (.cmp .lte (.icol 0 false) (.int 1)) (.cmp .lt (.icol 0 false) (.int 1)) (some .lte) 1 (some .lt) 1 = .res x ∧
      eval env x ≠ eval env (.and (.cmp .lte (.icol 0 false) (.int 1)) (.cmp .lt (.icol 0 false) (.int 1))) :=
  ⟨_, ⟨fun _ => none, fun _ => some 1⟩, rfl, by decide⟩

/-- every result of `_simplify_comparison` on `c opl l`, `c opr r` (either bound merged, `a` kept, or FALSE) is exact when the
    shared term `c` is not NULL — all 36 operator pairs, AND and OR -/
theorem simplify_comparison_nonnull_sound (or_ : Bool) (opl opr : Cmp) (c l r x : E) (lv rv k : Int)
    (hl : numVal? l = some lv) (hr : numVal? r = some rv)
    (h : cmpDecide true or_ (.cmp opl c l) (.cmp opr c r) (some opl) lv (some opr) rv = .res x) (env : Env)
    (hv : toInt? (eval env c) = some k) :
    eval env x = eval env (if or_ then .or (.cmp opl c l) (.cmp opr c r) else .and (.cmp opl c l) (.cmp opr c r)) :=
  simplify_comparison_sound or_ opl opr c l r x lv rv hl hr h env (fun _ hn => by simp [hv] at hn)

/-- … and WHERE-equivalent always: the result is TRUE exactly when the input is TRUE (NULL and FALSE may be confused) -/
theorem simplify_comparison_where_sound (or_ : Bool) (opl opr : Cmp) (c l r x : E) (lv rv : Int)
    (hl : numVal? l = some lv) (hr : numVal? r = some rv)
    (h : cmpDecide true or_ (.cmp opl c l) (.cmp opr c r) (some opl) lv (some opr) rv = .res x) (env : Env) :
    (truth (eval env x) = some true ↔
      truth (eval env (if or_ then .or (.cmp opl c l) (.cmp opr c r) else .and (.cmp opl c l) (.cmp opr c r))) = some true) := by
  by_cases hx : x = .bool false ∧ toInt? (eval env c) = none
  · obtain ⟨rfl, hv⟩ := hx
    rw [eval_conn_null env or_ _ _ (eval_cmp_null env opl c l hv) (eval_cmp_null env opr c r hv)]
    simp [eval, truth]
  · rw [simplify_comparison_sound or_ opl opr c l r x lv rv hl hr h env (fun h1 h2 => hx ⟨h1, h2⟩)]

/-- the known finding's exact boundary, for the `→ FALSE` results: the input is FALSE whenever the shared term is not NULL -/
theorem simplify_comparison_false_nonnull (opl opr : Cmp) (c l r : E) (lv rv k : Int)
    (hl : numVal? l = some lv) (hr : numVal? r = some rv)
    (h : cmpDecide true false (.cmp opl c l) (.cmp opr c r) (some opl) lv (some opr) rv = .res (.bool false)) (env : Env)
    (hv : toInt? (eval env c) = some k) :
    eval env (.and (.cmp opl c l) (.cmp opr c r)) = .b false := by
  have := simplify_comparison_nonnull_sound false opl opr c l r (.bool false) lv rv k hl hr h env hv
  simpa [eval] using this.symm

/-- … and under NOT the rewrite is not even WHERE-equivalent: `NOT (x = 5 AND x < 3)` is NULL (row dropped) for x NULL,
    `NOT FALSE` is TRUE (row kept) -/
theorem simplify_comparison_not_where_counterexample :
    ∃ env, truth (eval env (.not (.paren (.and (.cmp .eq (.icol 0 false) (.int 5)) (.cmp .lt (.icol 0 false) (.int 3)))))) ≠ some true ∧
      truth (eval env (.not (.bool false))) = some true :=
  ⟨⟨fun _ => none, fun _ => none⟩, by decide, by decide⟩

/-- every result other than FALSE is exact for every value of the shared term, NULL included -/
theorem simplify_comparison_nonfalse_sound (or_ : Bool) (opl opr : Cmp) (c l r x : E) (lv rv : Int)
    (hl : numVal? l = some lv) (hr : numVal? r = some rv)
    (h : cmpDecide true or_ (.cmp opl c l) (.cmp opr c r) (some opl) lv (some opr) rv = .res x) (hx : x ≠ .bool false)
    (env : Env) :
    eval env x = eval env (if or_ then .or (.cmp opl c l) (.cmp opr c r) else .and (.cmp opl c l) (.cmp opr c r)) :=
  simplify_comparison_sound or_ opl opr c l r x lv rv hl hr h env (fun hf => absurd hf hx)

/-- the exact part of the pair table of simplify_connectors preserves the 3-valued truth value of the pair -/
theorem exact_pair_sound (isAnd : Bool) (a b r : E) (h : exactPair isAnd a b = some r) (env : Env) :
    (if isAnd then and3 else or3) (truth (eval env a)) (truth (eval env b)) = truth (eval env r) := by
  refine (Sound.get (sem := envAssign env) ?_ h).symm
  unfold exactPair
  cases hc : connConst isAnd a b with
  | some x => exact .some ((connConst_truth isAnd a b env).get hc)
  | none =>
    cases a with
    | cmp opl c l =>
      cases b with
      | cmp opr c' r' =>
        refine .ite (fun hcc => ?_) fun _ => .none
        subst hcc
        cases hl : numVal? l with
        | none => exact .none
        | some lv =>
          cases hr : numVal? r' with
          | none => exact .none
          | some rv =>
            simp only []
            cases hd : cmpDecide true (!isAnd) (.cmp opl c l) (.cmp opr c r') (some opl) lv (some opr) rv with
            | res x =>
              refine .ite (fun _ => .none) fun hx => .some <| (congrArg truth
                (simplify_comparison_nonfalse_sound (!isAnd) opl opr c l r' x lv rv hl hr hd hx env)).trans ?_
              cases isAnd <;> exact truth_ofB3 _
            | _ => exact .none
      | _ => exact .none
    | _ => exact .none

/-- `_flat_simplify` (queue algorithm) is sound for any pair function that is sound w.r.t. a commutative monoid on the
    semantics — the design's `flat_simplify_sound`, generic form (`CommMonoid.flatSimplify_sound` in Proofs/SimplifyChain
    takes the three laws as one argument) -/
theorem flat_simplify_sound {α : Type} (op : α → α → α) (u : α) (sem : E → α)
    (hassoc : ∀ a b c, op (op a b) c = op a (op b c)) (hcomm : ∀ a b, op a b = op b a) (hunit : ∀ a, op u a = a)
    (k : FK) (hmk : ∀ a b, sem (k.mk a b) = op (sem a) (sem b))
    (pair : E → E → Option E) (hp : ∀ a b r, pair a b = some r → op (sem a) (sem b) = sem r) (gate : Bool) (e : E) :
    sem (flatSimplify k pair gate e) = sem e :=
  flatSimplify_sound op u sem hassoc hcomm hunit k hmk pair hp gate e

/-- end to end for simplify_connectors on the exact sub-table (constant table + every non-FALSE `_simplify_comparison`
    result): the whole queue run over an AND / OR chain of any length keeps the 3-valued truth value -/
theorem simplify_connectors_exact_sound (isAnd gate : Bool) (e : E) (env : Env) :
    truth (eval env (flatSimplify (if isAnd then .and else .or) (exactPair isAnd) gate e)) = truth (eval env e) := by
  refine (conn3_monoid isAnd).flatSimplify_sound (sem := envAssign env) _ (fun a b => ?_) _
    (fun a b r h => exact_pair_sound isAnd a b r h env) gate e
  -- the node of this polarity means `conn3 isAnd` of its operands
  cases isAnd <;> exact truth_ofB3 _

/-- simplify_literals on a sum / product chain of any length (queue algorithm over `_simplify_binary`) keeps the numeric value -/
theorem simplify_literals_add_sound (pif gate : Bool) (e : E) (env : Env) :
    toInt? (eval env (flatSimplify .add (binPair .add pif true) gate e)) = toInt? (eval env e) :=
  (liftO_monoid ⟨Int.add_assoc, Int.add_comm, Int.zero_add⟩).flatSimplify_sound (sem := fun e => toInt? (eval env e)) .add
    (fun _ _ => toInt_arith ..) _
    (fun a b r h => by rw [bin_pair_sound .add pif true a b r h env]; exact (toInt_arith ..).symm) gate e

theorem simplify_literals_mul_sound (pif gate : Bool) (e : E) (env : Env) :
    toInt? (eval env (flatSimplify .mul (binPair .mul pif true) gate e)) = toInt? (eval env e) :=
  (liftO_monoid ⟨Int.mul_assoc, Int.mul_comm, Int.one_mul⟩).flatSimplify_sound (sem := fun e => toInt? (eval env e)) .mul
    (fun _ _ => toInt_arith ..) _
    (fun a b r h => by rw [bin_pair_sound .mul pif true a b r h env]; exact (toInt_arith ..).symm) gate e

example : flatSimplify .and (exactPair true) true
    (.and (.and (.cmp .lt (.icol 0 false) (.int 3)) (.bcol 0 false)) (.and (.bool true) (.cmp .lte (.icol 0 false) (.int 5))))
    = .and (.cmp .lt (.icol 0 false) (.int 3)) (.bcol 0 false) := by decide

/-- KNOWN FINDING (clean tree; the repo's fixtures expect it): `_simplify_comparison` rewrites `x = 5 AND x < 3` to FALSE.
    For `x` NULL the input is NULL, not FALSE, and under NOT the difference reaches a WHERE filter. -/
theorem simplify_comparison_and_false_counterexample :
    cmpPair false (.cmp .eq (.icol 0 false) (.int 5)) (.cmp .lt (.icol 0 false) (.int 3)) = .res (.bool false) ∧
    ∃ env, eval env (.and (.cmp .eq (.icol 0 false) (.int 5)) (.cmp .lt (.icol 0 false) (.int 3))) ≠ eval env (.bool false) ∧
      eval env (.not (.paren (.and (.cmp .eq (.icol 0 false) (.int 5)) (.cmp .lt (.icol 0 false) (.int 3)))))
        ≠ eval env (.not (.bool false)) :=
  ⟨by decide, ⟨fun _ => none, fun _ => none⟩, by decide, by decide⟩

/-- `distributive_law` (children first, then `_distribute` at OR-over-AND / AND-over-OR nodes, both polarities, the
    same-polarity cross product included) is exact in 3-valued logic, for any sound `uniq_sort` -/
theorem distributive_law_sound (us : E → E) (hus : ∀ e env, eval env (us e) = eval env e) (dnf : Bool) (e : E) (env : Env) :
    eval env (distLaw us dnf e) = eval env e :=
  (distLaw_evals us hus dnf env e).1.expr

/-- `_distribute(a, b)` alone: exact Kleene distributivity -/
theorem distribute_exact (us : E → E) (hus : ∀ e env, eval env (us e) = eval env e) (toAnd : Bool) (a b : E) (env : Env) :
    eval env (distribute us toAnd a b) = eval env (rawConn (!toAnd) a b) := by
  rw [distribute_sound us hus, eval_rawConn]

example : distLaw id false (.or (.paren (.and (.bcol 0 false) (.bcol 1 false))) (.bcol 2 false))
    = .and (.paren (.or (.bcol 2 false) (.bcol 0 false))) (.paren (.or (.bcol 2 false) (.bcol 1 false))) := by decide

/-- OBJECT LEVEL (complete decision over the regenerated use table): `_distribute` as it is in the source never moves one
    operand object into two places of its output — every operand that is used more than once (`b.left` / `b.right` once per
    child of `a`, the loop variable `c` and `a` once per clause) is deep-copied for all uses but at most one -/
theorem generated_distribute_no_sharing : noSharing Generated.C06.distributeUses = true := by decide

/-- why: building the second clause with `copy=False` (snapshot `distributeUsesCopyFalse`) moves `b.right` once per child of
    `a`, so one subtree object sits in two clauses and the next in-place distribution step rewrites both -/
theorem distribute_copy_false_shares :
    noSharing distributeUsesCopyFalse = false ∧ hasDup [(DOp.bRight, 0), (DOp.bRight, 0)] = true ∧
    (movedObjects distributeUsesCopyFalse).contains (DOp.bRight, 0) = true := by decide

/-- what `normalize` returns, as checked on every run: from the Boolean check alone — nothing assumed — the result is in
    the requested normal form (mirrored `normalized`) or is the input (possibly with BETWEEN rewritten), and it has the
    same 3-valued truth value as the input under every assignment -/
theorem normalize_result (c : Cmp → Cmp) (hc : InverseOK c) (dnf : Bool) (e e' : E)
    (h : checkNormalize c dnf e e' = true) :
    (normalizedM dnf e' = true ∨ e' = e ∨ e' = rbAll e) ∧ ∀ env, truth (eval env e') = truth (eval env e) := by
  simp only [checkNormalize, Bool.and_eq_true, Bool.or_eq_true, beq_iff_eq] at h
  exact ⟨or_assoc.mp h.2, fun env => (checkStep_sound c hc .normalize e e' h.1 env).symm⟩

/-- propagate_constants (conjunct-only harvesting, 9e10c4d) is WHERE-equivalent: the rewritten AND is TRUE exactly when
    the input is (for integer-typed bound columns; `none` = two conjuncts bind the same column, not modelled) -/
theorem propagate_constants_where_sound (gate : Bool) (e e' : E) (h : propagateConstants gate e = some e')
    (hI : ∀ c n, (c, n) ∈ conjBindings e → isIcol c = true) (env : Env) :
    (truth (eval env e') = some true ↔ truth (eval env e) = some true) := by
  rcases propagateConstants_cases gate e e' h with rfl | ⟨a, b, rfl, rfl⟩
  · exact Iff.rfl
  · exact substSpine_where env _ hI

/-- … and exact (NULL, TRUE, FALSE distinct) under every assignment in which no bound column is NULL -/
theorem propagate_constants_nonnull_sound (gate : Bool) (e e' : E) (h : propagateConstants gate e = some e')
    (hI : ∀ c n, (c, n) ∈ conjBindings e → isIcol c = true) (env : Env)
    (hnn : ∀ c n, (c, n) ∈ conjBindings e → eval env c ≠ .null) :
    eval env e' = eval env e := by
  rcases propagateConstants_cases gate e e' h with rfl | ⟨a, b, rfl, rfl⟩
  · rfl
  · exact substSpine_nonnull env a b hI hnn

/-- KNOWN FINDING (by design of the rule): for a NULL column the rewrite turns NULL into FALSE:
    `x = 5 AND x < 3 → x = 5 AND 5 < 3` -/
theorem propagate_constants_null_counterexample :
    ∃ e e' env, propagateConstants true e = some e' ∧ eval env e' ≠ eval env e :=
  ⟨.and (.cmp .eq (.icol 0 false) (.int 5)) (.cmp .lt (.icol 0 false) (.int 3)),
   .and (.cmp .eq (.icol 0 false) (.int 5)) (.cmp .lt (.int 5) (.int 3)),
   ⟨fun _ => none, fun _ => none⟩, by decide, by decide⟩

/-- uniq_sort as a mirrored function (the operand order of the result is a parameter; the real one comes from sorting
    `gen()` texts): every duplicate-free rearrangement of the operands keeps the 3-valued truth value -/
theorem uniq_sort_sound (order : List E) (gate : Bool) (e : E) (env : Env) :
    truth (eval env (uniqSortWith order gate e)) = truth (eval env e) :=
  uniqSortWith_sound order gate e env

example : uniqSortWith [.bcol 0 false, .bcol 1 false] true (.and (.bcol 1 false) (.and (.bcol 0 false) (.bcol 1 false)))
    = .and (.bcol 0 false) (.bcol 1 false) := by decide

/-- remove_complements as a mirrored function is exact under its `nonnull` gate -/
theorem remove_complements_sound (gate nonnull : Bool) (e : E) (hn : nonnull = true → nonNullE e = true) (env : Env) :
    eval env (removeComplements gate nonnull e) = eval env e :=
  removeComplements_sound gate nonnull e hn env

example : removeComplements true true (.and (.bcol 0 true) (.not (.bcol 0 true))) = .bool false := by decide

/-- the fixpoint driver (`while_changing`): iterating a sound pass any number of times is sound -/
def iterate (f : E → E) : Nat → E → E
  | 0, e => e
  | n + 1, e => iterate f n (f e)
theorem while_changing_sound (f : E → E) (hf : ∀ e env, eval env (f e) = eval env e) (n : Nat) (e : E) (env : Env) :
    eval env (iterate f n e) = eval env e := by
  induction n generalizing e with
  | zero => rfl
  | succ n ih => simp [iterate, ih, hf]

end SqlglotModel.Properties.C06
