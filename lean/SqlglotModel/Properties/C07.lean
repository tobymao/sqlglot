/-
  C07 — Formatting options never change the meaning (the modelled helpers of sqlglot/generator.py).
  Only property theorems, non-vacuity examples and counter-example witnesses live here.
  Proved for ALL pad / indent / max_text_width (unbounded naturals), leading_comma and skip flags; the per-node
  `*_sql` methods that call the helpers are covered by the search oracle only.
-/
import SqlglotModel.Proofs.Pretty
import SqlglotModel.Proofs.PrettySentinel
import SqlglotModel.Generated.C07

namespace SqlglotModel.Properties.C07
open SqlglotModel.Pretty

/-- `indent` only adds whitespace: with all whitespace stripped the text is unchanged -/
theorem indent_ws_only (o : Opts) (sql : Str) (level : Nat) (pad : Option Nat) (skipFirst skipLast : Bool) :
    stripWs (indent o sql level pad skipFirst skipLast) = stripWs sql :=
  stripWs_indent o sql level pad skipFirst skipLast

example : indent ⟨true, 2, 2, 80, false⟩ "a\nb".toList 1 none true false = "a\n    b".toList := by decide_chars

/-- `sep` / `seg`: pretty and plain variants differ only in whitespace -/
theorem sep_seg_ws_only (o o' : Opts) (sql s : Str) : stripWs (seg o sql s) = stripWs (seg o' sql s) := by
  rw [stripWs_seg, stripWs_seg]

/-- `wrap`: pretty and plain variants differ only in whitespace -/
theorem wrap_ws_only (o o' : Opts) (sql : Str) : stripWs (wrap o sql) = stripWs (wrap o' sql) := by
  rw [stripWs_wrap, stripWs_wrap]

/-- `expressions(...)`: whatever the options (plain / pretty / leading_comma / dynamic + too_wide / new_line, any pad,
    indent, max_text_width, skip flags), the output with whitespace stripped is the same: with `flat` the options are
    not looked at, otherwise it is the items with their prefix, separated by the separator
    (`stripWs_expressions_nonflat`) — so any two option sets differ only in whitespace.  Hypothesis: no item is the
    empty string (`expressions` skips empty items but keeps their index, so with an empty FIRST item leading_comma emits
    a leading separator and with an empty LAST item the other styles emit a trailing one — see the example below). -/
theorem expressions_ws_only (o o' : Opts) (items : List Str) (hne : ∀ s ∈ items, s ≠ [])
    (flat doIndent skipFirst skipLast : Bool) (sepS pre : Str) (dynamic newLine : Bool) :
    stripWs (expressions o items flat doIndent skipFirst skipLast sepS pre dynamic newLine)
      = stripWs (expressions o' items flat doIndent skipFirst skipLast sepS pre dynamic newLine) := by
  cases items with
  | nil => simp [expressions]
  | cons x xs =>
    cases flat with
    | true => simp [expressions]
    | false =>
      rw [stripWs_expressions_nonflat o (x :: xs) hne (by simp), stripWs_expressions_nonflat o' (x :: xs) hne (by simp)]

example : expressions ⟨true, 2, 2, 5, false⟩ ["a".toList, "b + 1".toList] false true false false ", ".toList [] true false
    = "  a,\n  b + 1".toList := by decide_chars

/-- the hypothesis of `expressions_ws_only` is needed: with an empty first item the leading-comma style differs from
    the plain one in a non-whitespace character -/
theorem expressions_empty_item_witness :
    expressions ⟨true, 0, 0, 80, true⟩ [[], ['a']] false false false false [','] [] false false = [',', 'a'] ∧
    expressions ⟨false, 0, 0, 80, false⟩ [[], ['a']] false false false false [','] [] false false = ['a'] := by
  decide +kernel

/-- the replace chain extracted from `Generator.generate` (the `sql = sql.replace(<pattern>, "\n")` calls under
    `if self.pretty`) is the chain the model's `finish` runs: the sentinel, then its lower-cased form -/
theorem generated_sentinel_chain_ok : SqlglotModel.Generated.C07.sentinelChain = sentinelChain := by decide +kernel

/-- whatever reaches the end of `generate()` under pretty=True, the returned text contains no occurrence of the
    sentinel NOR of its lower-cased form (no suffix of the output starts with either) — for every input text.
    SCOPE: the modelled TAIL of generate() (strip + the replace chain). Other case-variants (mixed case) are not claimed
    by this theorem; the search oracle checks "no case-variant of the sentinel in any output". -/
theorem sentinel_absent_in_output (o : Opts) (hp : o.pretty = true) (sql : Str) (k : Nat) :
    isPrefix SENTINEL ((finish o sql).drop k) = false ∧ isPrefix SENTINEL_LOWER ((finish o sql).drop k) = false :=
  have h := @noOcc_finishWith sentinelChain (by decide) o hp sql
  ⟨h (q := SENTINEL) (by decide) k, h (q := SENTINEL_LOWER) (by decide) k⟩

/-- the single-replace tail (the source before the lower-cased sentinel was handled) removes the sentinel as spelled -/
theorem sentinel_absent_in_output_old (o : Opts) (hp : o.pretty = true) (sql : Str) (k : Nat) :
    isPrefix SENTINEL ((finishOld o sql).drop k) = false :=
  noOcc_finishWith [SENTINEL] (by decide) o hp sql (List.mem_singleton.mpr rfl) k

/-- every generator method that does position-dependent string surgery on rendered text (found by ast, re-extracted every
    run) is on the audited allow-list (finite table, decided completely) -/
theorem generated_surgery_sites_audited :
    ∀ s ∈ SqlglotModel.Generated.C07.surgerySites, s ∈ auditedSurgerySites := by decide +kernel

/-- every method whose rendering path branches on `self.pretty` outside the whitespace helpers (found by ast, re-extracted
    every run) is on the audited allow-list (finite table, decided completely): a NEW pretty-only rendering path is not
    covered by the whitespace theorems above and must be audited and given a corpus statement first -/
theorem pretty_only_structural_branches_audited :
    ∀ s ∈ SqlglotModel.Generated.C07.prettyBranchSites, s ∈ auditedPrettyBranches := by decide +kernel

/-! ### Athena: generator options are applied by the engine the GENERATOR picks, the output is re-read by the engine the
TOKENIZER picks (shared model: Model/Engine.lean, also used by C01) -/

/-- FINITE TABLE, decided completely: on every enumerated statement shape the model's two predicates give what the real
    `_tokenize_as_hive` / `_generate_as_hive` give on the shape's sample statement (re-evaluated every run) -/
theorem athena_engine_model_matches_source :
    ∀ r ∈ SqlglotModel.Generated.C07.athenaShapes,
      SqlglotModel.Engine.tokHive r.2.1 = r.2.2.1 ∧ SqlglotModel.Engine.genHive r.2.1 = r.2.2.2 := by decide +kernel

/-- every enumerated `CREATE TABLE … AS <query>` sample (plain, set operation, parenthesised, WITH, over a subquery) is
    generated and re-tokenized by the same engine — otherwise `identify` / `pretty` output written by Hive (backticks) is
    re-read by Trino and falls back to a Command -/
theorem generated_athena_ctas_engines_agree :
    ∀ r ∈ SqlglotModel.Generated.C07.athenaShapes, r.2.1.first = .create → r.2.1.kind = .table →
      SqlglotModel.Engine.bodyIsQuery r.2.1.body = true → r.2.2.1 = r.2.2.2 := by decide +kernel

/-- a generator-side guard that accepts only unwrapped queries sends a parenthesised CTAS body to Hive while the tokenizer
    sends the text to Trino -/
theorem athena_unwrapped_only_variant_witness :
    SqlglotModel.Engine.tokHive ⟨.create, .table, false, .paren, false⟩ = false ∧
    SqlglotModel.Engine.genHiveWith .unwrappedOnly ⟨.create, .table, false, .paren, false⟩ = true ∧
    SqlglotModel.Engine.genHiveWith .unwrappedOnly ⟨.create, .table, false, .setop, false⟩ = false ∧
    SqlglotModel.Engine.genHive ⟨.create, .table, false, .paren, false⟩ = false := by decide

/-- `_embed_ignore_nulls` as the source does it (render the call WITHOUT comments, drop its closing parenthesis, append
    the modifier and `)`, then attach the comments): the modifier lands directly before the call's own closing
    parenthesis and the comments follow the call — whatever characters the comment texts contain -/
theorem embed_before_paren_comment_independent (o : Opts) (body text : Str) (cs : List Str) :
    embedSlice o ⟨body, cs⟩ text = (body ++ ' ' :: text ++ [')']) ++ renderComments o cs := by
  simp only [embedSlice, renderComments, List.dropLast_concat]
  rw [maybeComment_append]

example : embedSlice ⟨false, 2, 2, 80, false⟩ ⟨"ARRAY_AGG(x".toList, ["a) b".toList]⟩ "IGNORE NULLS".toList
    = "ARRAY_AGG(x IGNORE NULLS) /* a) b */".toList := by decide_chars

/-- the variant that renders WITH comments and inserts before the LAST `)` of the text: a `)` inside the trailing comment
    is taken for the call's closing parenthesis and the modifier moves into the comment -/
theorem embed_rfind_counterexample :
    embedRfind ⟨false, 2, 2, 80, false⟩ ⟨"ARRAY_AGG(x".toList, ["non-null values (sorted)".toList]⟩ "IGNORE NULLS".toList
      = "ARRAY_AGG(x) /* non-null values (sorted IGNORE NULLS) */".toList ∧
    embedSlice ⟨false, 2, 2, 80, false⟩ ⟨"ARRAY_AGG(x".toList, ["non-null values (sorted)".toList]⟩ "IGNORE NULLS".toList
      = "ARRAY_AGG(x IGNORE NULLS) /* non-null values (sorted) */".toList := by decide_chars

/-- Doc view of the modelled printer (C01 `gen`): render every soft break `sp` as ANY whitespace string (space, or
    newline + indentation of any width, chosen per position): the text without whitespace is the same — pretty and
    plain renderings of a Doc differ only in whitespace, for unbounded pad / indent / width -/
theorem doc_render_ws_only (tbl : SqlglotModel.Expr.Tables) (ws ws' : Nat → Str)
    (h : ∀ i, stripWs (ws i) = []) (h' : ∀ i, stripWs (ws' i) = []) (ps : List SqlglotModel.Gen.Piece) (i j : Nat) :
    stripWs (renderDoc tbl ws i ps) = stripWs (renderDoc tbl ws' j ps) :=
  (stripWs_renderDoc tbl ws h ps i).trans (stripWs_renderDoc tbl ws' h' ps j).symm

/-- the sentinel round trip is the identity on texts without an underscore (a sufficient condition: no character of
    the text can take part in an occurrence of the sentinel) -/
theorem sentinel_roundtrip (s : Str) (hs : '_' ∉ s) :
    replace SENTINEL ['\n'] (replace ['\n'] SENTINEL s) = s :=
  replace_roundtrip '_' _ s hs

example : replace SENTINEL ['\n'] (replace ['\n'] SENTINEL "a\nb c\n".toList) = "a\nb c\n".toList :=
  sentinel_roundtrip _ (by rw [String.toList_ofList]; decide)

/-- KNOWN FINDING (DESIGN §6): the sentinel is in-band. `SELECT '__SQLGLOT__LB__'` under pretty=True: the literal's
    value is replaced by a newline -/
theorem sentinel_in_literal_changes_value :
    literalOut ⟨true, 2, 2, 80, false⟩ "__SQLGLOT__LB__".toList = "'\n'".toList ∧
    literalOut ⟨false, 2, 2, 80, false⟩ "__SQLGLOT__LB__".toList = "'__SQLGLOT__LB__'".toList := by decide_chars

/-- the value need not even contain the sentinel — a proper prefix of it followed by a newline is enough,
    so `sentinel_roundtrip` really needs a hypothesis stronger than "the sentinel does not occur in the text" -/
theorem sentinel_overlap_changes_value :
    literalOut ⟨true, 2, 2, 80, false⟩ "__SQLGLOT__LB_\n_".toList = "'\n_SQLGLOT__LB___'".toList := by decide_chars

/-- SNAPSHOT WITNESS (finding fixed in the source since): `SELECT "a\nB"(1)` with pretty=True,
    normalize_functions="lower": the rendered quoted name `"a__SQLGLOT__LB__B"` is lower-cased before the tail of
    generate() runs; under the OLD single-replace tail the lower-cased sentinel survived, the current chain restores
    the line break -/
theorem sentinel_lowercased_survives :
    finishOld ⟨true, 2, 2, 80, false⟩
        (lowerAscii ('"' :: 'a' :: (replaceLineBreaks ⟨true, 2, 2, 80, false⟩ ['\n'] ++ ['B', '"', '(', '1', ')'])))
      = "\"a__sqlglot__lb__b\"(1)".toList ∧
    finish ⟨true, 2, 2, 80, false⟩
        (lowerAscii ('"' :: 'a' :: (replaceLineBreaks ⟨true, 2, 2, 80, false⟩ ['\n'] ++ ['B', '"', '(', '1', ')'])))
      = "\"a\nb\"(1)".toList := by decide_chars

/-- `sanitize_comment` on `*/` and `/*` (finite examples, labelled as such): no comment terminator survives -/
theorem sanitize_comment_examples :
    sanitizeComment "a */ b".toList = " a * / b ".toList ∧ sanitizeComment "/*x*/".toList = " / *x* / ".toList := by
  decide_chars

end SqlglotModel.Properties.C07
