/-
  C08 — Syntax trees stay structurally consistent under any sequence of edits.
  Only property theorems, non-vacuity examples and witnesses live here (model: Model/Tree.lean, lemmas: Proofs/Tree*.lean).

  Modelled: `Expression.set` (every index branch, incl. the removal `set(k, None, i)` with its sibling renumbering and the
  negative-index variant), `append`, `replace`, `pop`, `_set_parent`, the invalidation loop with its early exit,
  `__hash__` / `__eq__`, construction, the iterative `__deepcopy__` / `copy()`, `transform(fun, copy)` and
  `replace_children` (parametric in the user function), the simplifier's pointer repair loop.
  The invariant `Inv` is over the WHOLE heap (attached trees, detached sub-trees and garbage alike) in local form; the API
  precondition `Adm` is that an inserted node is not currently stored anywhere (fresh, copied or popped — what the
  builders guarantee with copy=True), that a node being replaced is attached where its own pointers say, and that a copy
  goes into unused cells.  All theorems are partial-correctness statements ("if the operation returns a heap"): `none`
  covers fuel exhaustion, Python exceptions and the one unmodelled path.
  NOT modelled here: the optimizer rules, builders, `comments / _type / _meta`; the "replace a node by its own descendant"
  idiom is outside `Adm` (witness `replace_by_own_child_leaves_husk`) — covered by the root-relative invariant checker on
  the real code only.
-/
import SqlglotModel.Proofs.TreeRun
import SqlglotModel.Proofs.TreeNorm
import SqlglotModel.Proofs.TreeWalk
import SqlglotModel.Proofs.TreeRepair
import SqlglotModel.Proofs.TreeOrder
import SqlglotModel.Proofs.TreeIter
import SqlglotModel.Generated.C08

namespace SqlglotModel.Properties.C08
open SqlglotModel.Tree

variable {H : Type}

/-- the empty heap satisfies the invariant -/
theorem inv_init (F : HashFns H) : Inv F (empty : Heap H) := inv_empty F

/-- `cls()` on an unused id -/
theorem inv_new (F : HashFns H) (h : Heap H) (id : Id) (cls : String) (raw : Bool) (hI : Inv F h)
    (hf : Fresh h id) : Inv F (opNew h id cls raw) := inv_opNew F hI hf

/-- `self.set(k, v, index, overwrite)` — all branches, including the early returns after the invalidation -/
theorem inv_set (F : HashFns H) (fuel : Nat) (h h' : Heap H) (self : Id) (k : String) (v : Value)
    (idx : Option Nat) (ow : Bool) (hI : Inv F h) (hv : ValueOk h v)
    (he : opSet fuel h self k v idx ow = some h') : Inv F h' := inv_opSet F hI hv he

theorem inv_append (F : HashFns H) (fuel : Nat) (h h' : Heap H) (self : Id) (k : String) (it : Item)
    (hI : Inv F h) (hv : ItemOk h it) (he : opAppend fuel h self k it = some h') : Inv F h' :=
  inv_opAppend F hI hv he

theorem inv_replace (F : HashFns H) (fuel : Nat) (h h' : Heap H) (self : Id) (v : Value) (hI : Inv F h)
    (hv : ValueOk h v) (hat : Attached h self) (he : opReplace fuel h self v = some h') : Inv F h' :=
  inv_opReplace F hI hv hat he

theorem inv_pop (F : HashFns H) (fuel : Nat) (h h' : Heap H) (self : Id) (hI : Inv F h)
    (hat : Attached h self) (he : opPop fuel h self = some h') : Inv F h' := inv_opPop F hI hat he

/-- `hash(n)`: the bottom-up cache fill keeps the invariant, changes nothing but `_hash` fields, and caches `n` -/
theorem inv_hash (F : HashFns H) (fuel : Nat) (h h' : Heap H) (n : Id) (hI : Inv F h)
    (he : fill F fuel h n = some h') : Inv F h' ∧ HashOnly h h' ∧ ((h' n).hash).isSome := inv_fill F hI he

theorem inv_eq [DecidableEq H] (F : HashFns H) (fuel : Nat) (h h' : Heap H) (a b : Id) (r : Bool) (hI : Inv F h)
    (he : opEq F fuel h a b = some (h', r)) : Inv F h' ∧ HashOnly h h' := inv_opEq F hI he

/-- every admissible operation history, of any length, from any state satisfying the invariant -/
theorem inv_reachable [DecidableEq H] (F : HashFns H) (fuel : Nat) (ops : List Op) (h h' : Heap H) (hI : Inv F h)
    (ha : AdmRun F fuel h ops) (he : run F fuel h ops = some h') : Inv F h' := inv_run F ops hI ha he

/-- … in particular from the empty heap -/
theorem inv_reachable_from_empty [DecidableEq H] (F : HashFns H) (fuel : Nat) (ops : List Op) (h' : Heap H)
    (ha : AdmRun F fuel empty ops) (he : run F fuel empty ops = some h') : Inv F h' :=
  inv_run F ops (inv_empty F) ha he

/-- `copy()` — the iterative `__deepcopy__` — keeps the invariant: in particular the `_hash` values it carries over to the
    copies are the hashes of the copies (sound because exactly the nodes on which the loop performs no `set`/`append`
    keep them, and those have identical scalar args); the copy lives in the cells from `base` on, which stay unused
    above the returned counter. -/
theorem inv_copy (F : HashFns H) (fuel : Nat) (h h' : Heap H) (n c : Id) (base nx : Nat) (hI : Inv F h)
    (hf : FreshFrom h base) (hn : base > n) (he : opDeepcopy fuel h n base = some (h', nx, c)) :
    Inv F h' ∧ FreshFrom h' nx :=
  let ⟨_, d⟩ := deepcopy_spec hI hf hn he
  ⟨d.inv, d.fresh⟩

/-- `transform(fun, copy=False)`, for any user function whose calls keep the invariant and hand back either the node
    itself or an unattached node / list (`TransformAdm`, stated along the run) -/
theorem inv_transform (F : HashFns H) (fuel : Nat) (fn : UserFun H) (h h' : Heap H) (nx nx' : Nat) (root : Id)
    (r : Value) (hI : Inv F h) (ha : TransformAdm F fuel fn h nx root)
    (he : opTransform fuel fn h nx root = some (h', nx', r)) : Inv F h' := inv_opTransform F hI ha he

/-- `replace_children(self, fun)`: every user-function call keeps the invariant, and what is written back over each
    argument consists of unattached nodes or of nodes already living in that argument, without repetition (`RcAdm`) -/
theorem inv_replace_children (F : HashFns H) (fuel : Nat) (fn : UserFun H) (self : Id) (h h' : Heap H) (nx nx' : Nat)
    (hI : Inv F h) (ha : RcAdm F fuel fn self h nx (h self).args)
    (he : opReplaceChildren fuel fn h nx self = some (h', nx')) : Inv F h' :=
  inv_replaceChildrenLoop F _ h nx hI ha he

/-- the simplifier's manual pointer repair (`for k, v in tuple(original.args.items()): … original._set_parent(k, v)`):
    from a state where only the back pointers of `self`'s own children may be stale, it restores the whole invariant,
    and dropping `None` args without invalidating any hash is sound -/
theorem inv_simplify_repair (F : HashFns H) (h : Heap H) (self : Id)
    (hl : ∀ p k i c, p ≠ self → Stored h p k i c → ptrs (h c) = (some p, some k, i))
    (hown : ∀ k i c, Stored h self k i c → ∀ p k' i', Stored h p k' i' c → p = self ∧ k' = k ∧ i' = i)
    (hc : Cache F h) (hk : Keys h) : Inv F (simplifyRepair h self) := inv_simplifyRepair F hl hown hc hk

/-- no node is stored in two places -/
theorem no_node_stored_twice (F : HashFns H) (h : Heap H) (hI : Inv F h) (p p' : Id) (k k' : String)
    (i i' : Option Nat) (c : Id) (h1 : Stored h p k i c) (h2 : Stored h p' k' i' c) : p = p' ∧ k = k' ∧ i = i' :=
  no_sharing hI.links h1 h2

/-- a child records exactly the parent, arg key and index under which it is stored -/
theorem child_records_its_slot (F : HashFns H) (h : Heap H) (hI : Inv F h) (p : Id) (k : String) (i : Option Nat)
    (c : Id) (hs : Stored h p k i c) : (h c).parent = some p ∧ (h c).argKey = some k ∧ (h c).index = i := by
  have := hI.links p k i c hs
  simpa [ptrs] using this

/-- the closure clause: an uncached child has an uncached parent (why the invalidation loop may stop early) -/
theorem uncached_child_uncached_parent (F : HashFns H) (h : Heap H) (hI : Inv F h) (p : Id) (k : String)
    (i : Option Nat) (c : Id) (hs : Stored h p k i c) (hn : (h c).hash = none) : (h p).hash = none :=
  closure F hI hs hn

/-- the cached hash of every node equals the hash recomputed from scratch (ignoring all caches) -/
theorem cached_hash_is_recomputed (F : HashFns H) (h : Heap H) (hI : Inv F h) (fuel : Nat) (n : Id) (x y : H)
    (hx : (h n).hash = some x) (hr : recompute F fuel h n = some y) : x = y := cache_eq_recompute F hI fuel n x y hx hr

/-- `a == b` (for distinct nodes of the same class) holds exactly when the from-scratch hashes of the two
    normalised structures agree; with a collision-free hash (A-hash; `freeHash` below is one) that is structural
    equality modulo the documented normalisation (dropped None/False args, lower-cased strings). -/
theorem eq_iff_recomputed [DecidableEq H] (F : HashFns H) (fuel fuel' : Nat) (h h' : Heap H) (a b : Id) (r : Bool)
    (xa xb : H) (hI : Inv F h) (hab : a ≠ b) (hcls : (h a).cls = (h b).cls)
    (he : opEq F fuel h a b = some (h', r))
    (ra : recompute F fuel' h a = some xa) (rb : recompute F fuel' h b = some xb) : (r = true ↔ xa = xb) := by
  rcases opEq_spec F hI he with ⟨_, e | e⟩ | ⟨hI', ho, x, y, hx, hy, rfl⟩
  · exact (hab e).elim
  · exact (e hcls).elim
  -- the two cached values the answer compares are the from-scratch hashes
  obtain rfl := cache_eq_recompute F hI' fuel' a x xa hx (by rw [recompute_hashOnly F ho]; exact ra)
  obtain rfl := cache_eq_recompute F hI' fuel' b y xb hy (by rw [recompute_hashOnly F ho]; exact rb)
  exact decide_eq_true_iff

/-- A-hash: the hash algebra is collision-free on normal forms -/
def CollisionFree (F : HashFns H) : Prop := ∀ s t : Norm, HT.eval F s = HT.eval F t → s = t

/-- "Two trees compare equal exactly when they have the same structure and leaf values": for distinct nodes of the same
    class, `a == b` holds iff their explicit normal forms `absNorm` (sorted keys; None/False args dropped, strings
    lower-cased, list elements in order with None/False holding their position; raw-arg classes keep truthy values
    verbatim) are identical — under A-hash (`CollisionFree F`). Caches in any state, as long as `Inv` holds. -/
theorem eq_iff_structure [DecidableEq H] (F : HashFns H) (hF : CollisionFree F) (fuel fuel' : Nat) (h h' : Heap H)
    (a b : Id) (r : Bool) (na nb : Norm) (hI : Inv F h) (hab : a ≠ b) (hcls : (h a).cls = (h b).cls)
    (he : opEq F fuel h a b = some (h', r))
    (ha : absNorm F.lower fuel' h a = some na) (hb : absNorm F.lower fuel' h b = some nb) :
    (r = true ↔ na = nb) := by
  have ra : recompute F fuel' h a = some (HT.eval F na) := by rw [recompute_eval, ha]; rfl
  have rb : recompute F fuel' h b = some (HT.eval F nb) := by rw [recompute_eval, hb]; rfl
  rw [eq_iff_recomputed F fuel fuel' h h' a b r _ _ hI hab hcls he ra rb]
  exact ⟨hF na nb, fun e => by rw [e]⟩

/-- the free term algebra interprets every normal form as itself, so it is collision-free (A-hash is satisfiable) -/
theorem freeHash_eval (t : Norm) : HT.eval freeHash t = t := by
  induction t with
  | init c => rfl
  | mixS t k s ih => show HT.mixS (HT.eval freeHash t) k s = HT.mixS t k s; rw [ih]
  | mixH t k x ih1 ih2 => show HT.mixH (HT.eval freeHash t) k (HT.eval freeHash x) = HT.mixH t k x; rw [ih1, ih2]
  | mixK t k ih => show HT.mixK (HT.eval freeHash t) k = HT.mixK t k; rw [ih]

example : CollisionFree freeHash := fun s t e => by rwa [freeHash_eval, freeHash_eval] at e

/-- nodes of different classes are never equal, and no cache is touched -/
theorem eq_different_class [DecidableEq H] (F : HashFns H) (fuel : Nat) (h : Heap H) (a b : Id) (hab : a ≠ b)
    (hcls : (h a).cls ≠ (h b).cls) : opEq F fuel h a b = some (h, false) := by
  simp [opEq, hab, hcls]

/-- A-hash is satisfiable: the free term algebra is a collision-free hash -/
theorem freeHash_collision_free :
    (∀ a b, freeHash.init a = freeHash.init b → a = b) ∧
    (∀ h k s h' k' s', freeHash.mixS h k s = freeHash.mixS h' k' s' → h = h' ∧ k = k' ∧ s = s') ∧
    (∀ h k x h' k' x', freeHash.mixH h k x = freeHash.mixH h' k' x' → h = h' ∧ k = k' ∧ x = x') ∧
    (∀ h k h' k', freeHash.mixK h k = freeHash.mixK h' k' → h = h' ∧ k = k') := by
  refine ⟨?_, ?_, ?_, ?_⟩ <;> intros <;> simp_all [freeHash]

/-- structural facts re-extracted from sqlglot/expressions/core.py on every run (ast): `set` and `append` start with
    the invalidation loop that walks up the parents, `replace` clears the three back pointers of the replaced node,
    `__eq__` is type identity + hash equality — the shapes the model mirrors. A change breaks this build. -/
theorem generated_structure_ok :
    SqlglotModel.Generated.C08.setInvalidatesUpParents = true ∧
    SqlglotModel.Generated.C08.appendInvalidatesUpParents = true ∧
    SqlglotModel.Generated.C08.replaceClearsPointers = true ∧
    SqlglotModel.Generated.C08.eqIsHashEquality = true ∧
    SqlglotModel.Generated.C08.transformWalkShape = true ∧
    SqlglotModel.Generated.C08.deepcopyLoopShape = true ∧
    SqlglotModel.Generated.C08.replaceChildrenShape = true ∧
    SqlglotModel.Generated.C08.simplifyRepairShape = true ∧
    SqlglotModel.Generated.C08.hashIteratesSortedKeys = true ∧
    SqlglotModel.Generated.C08.iteratorShapes = true ∧
    SqlglotModel.Generated.C08.rawClasses = ["identifier", "literal"] := by decide +kernel

/-- `Expr.__init__` skips `_set_parent` for `is_primitive` classes (the model's `cls()` + `set` does not have that
    shortcut). The shortcut is sound only while no primitive class has a child-valued argument: every argument of every
    primitive class, re-extracted from the live classes on every run, is one of the known scalar payload args. A class
    gaining `is_primitive = True` with another argument (e.g. a child expression) breaks this build. -/
theorem primitive_classes_scalar_only :
    SqlglotModel.Generated.C08.primitiveClasses.all (fun e => e.2.all (fun a =>
      ["this", "quoted", "global_", "temporary", "is_string", "is_bytes", "is_integer"].contains a)) = true := by
  decide +kernel

/-! ### non-vacuity: a concrete admissible history (And(this=Column, expression=Literal); hash; edit the grandchild) -/

def demoOps : List Op :=
  [.new 0 "and" false, .new 1 "column" false, .new 2 "identifier" true, .new 3 "literal" true,
   .set 2 "this" (.leaf (.str "x")) none true, .set 1 "this" (.node 2) none true,
   .set 0 "this" (.node 1) none true, .set 0 "expression" (.node 3) none true, .hash 0,
   .set 2 "this" (.leaf (.str "y")) none true, .eq 0 1, .pop 1]

/-- the history runs to completion in the model -/
example : (run freeHash 8 empty demoOps).isSome = true := by decide +kernel

/-- after `hash(root)` then editing the grandchild, the root's cache has been evicted (`_hash is None`) -/
example : ((run freeHash 8 empty (demoOps.take 10)).map (fun h => (h 0).hash.isNone)) = some true := by
  decide +kernel

/-- witness for the closure clause: in a state where a cached parent sits above an UNcached child (links fine),
    `set` on the child stops at once and the parent keeps a stale hash — so `Inv` cannot drop the clause. -/
def staleHeap : Heap HT :=
  setHash (setArgs (setPtr (opNew (opNew empty 0 "not" false) 1 "identifier" true) 1 (some 0) (some "this") none)
    0 [("this", .one 1)]) 0 (some (.init "stale"))

theorem closure_needed :
    ((opSet 4 staleHeap 1 "this" (.leaf (.str "z")) none true).map (fun h => (h 0).hash)) =
      some (some (HT.init "stale")) := by decide +kernel

/-- non-vacuity of `inv_transform` / `inv_replace_children` / `inv_copy`: the runs exist in the model (the driver's user
    functions on the demo tree) -/
example : ((run freeHash 8 empty (demoOps.take 9)).bind (fun h => opTransform 8 (builtinFun 8 "wrap") h 4 0)).isSome = true := by
  decide +kernel
example : ((run freeHash 8 empty (demoOps.take 9)).bind (fun h => opReplaceChildren 8 (builtinFun 8 "lit") h 4 0)).isSome = true := by
  decide +kernel
example : ((run freeHash 8 empty (demoOps.take 9)).bind (fun h => opDeepcopy 8 h 0 4)).map (fun r => (r.2.1, r.2.2)) =
    some (8, 4) := by decide +kernel

/-! ### negative list indexes: `set(k, None, index=-j)`

  `Expression.set` accepts a negative `index` (`seq_get` and `list.pop` do), but its renumbering loop
  `for v in expressions[index:]` then visits the last `j` elements of the shortened list. Witness on
  `Select(expressions=[c1, c2, c3])` with `index=-1`: `c3` is removed and `c2`, still stored at position 1, is renumbered
  to 0 — `Inv.links` is broken by one public call (known finding `C08-set-none-negative-index`). With the index
  normalised first (`index += len(expressions)`, the proposed repair) the call is an ordinary `set(k, None, i)`. -/

def negDemo : List Op :=
  [.new 0 "select" false, .new 1 "column" false, .new 2 "column" false, .new 3 "column" false,
   .set 0 "expressions" (.list [.node 1, .node 2, .node 3]) none true]

theorem negative_index_breaks_links :
    ((run freeHash 8 empty negDemo).bind (fun h => opSetNoneNeg 8 h 0 "expressions" 1 false)).map
      (fun h => (getKey "expressions" (h 0).args, (h 2).index)) =
      some (some (.many [.node 1, .node 2]), some 0) := by decide +kernel

/-- the same call on the repaired code keeps position and index together -/
theorem negative_index_normalised_witness :
    ((run freeHash 8 empty negDemo).bind (fun h => opSetNoneNeg 8 h 0 "expressions" 1 true)).map
      (fun h => (getKey "expressions" (h 0).args, (h 2).index)) =
      some (some (.many [.node 1, .node 2]), some 1) := by decide +kernel

/-- with the index normalised first, a negative index preserves the invariant (it is `inv_set`) -/
theorem negative_index_normalised_ok (F : HashFns H) (fuel : Nat) (h h' : Heap H) (self : Id) (k : String)
    (back : Nat) (hI : Inv F h) (he : opSetNoneNeg fuel h self k back true = some h') : Inv F h' := by
  rcases opSetNoneNeg_normalised he with hinv | ⟨pos, hset⟩
  · exact (inval_inv F hI hinv).1
  · exact inv_set F fuel h h' self k .none (some pos) true hI trivial hset

/-! ### the "replace a node by its own child" idiom (`paren.replace(paren.this)`)

  It is outside `Adm` (the value is still stored — under the node being replaced). Witness: on `Not(this=Paren(this=Lit))`
  the call leaves the LIVE tree consistent (`Not.this = Lit`, `Lit.parent = Not`) while the replaced-out `Paren` husk still
  holds `Lit` in its args: the whole-heap `Links` fails at the husk only. So `Inv` as stated (whole heap) cannot cover the
  idiom; on the real code it is covered by the root-relative invariant checker of the search stage. -/

def huskDemo : List Op :=
  [.new 0 "paren" false, .new 1 "literal" true, .new 2 "not" false, .set 1 "this" (.leaf (.str "1")) none true,
   .set 0 "this" (.node 1) none true, .set 2 "this" (.node 0) none true]

theorem replace_by_own_child_leaves_husk :
    ((run freeHash 8 empty huskDemo).bind (fun h => opReplace 8 h 0 (.node 1))).map
      (fun h => (getKey "this" (h 2).args, (h 1).parent, (h 1).argKey, getKey "this" (h 0).args, (h 0).parent)) =
      some (some (.one 1), some 2, some "this", some (.one 1), none) := by decide +kernel

/-- `opReplaceRec` extends `opReplace` (it agrees wherever `opReplace` returns a heap) -/
theorem replaceRec_extends_replace (f : Nat) (h h' : Heap H) (self : Id) (v : Value)
    (he : opReplace (f + 1) h self v = some h') : opReplaceRec (f + 1) h self v = some h' := by
  simp only [opReplace] at he
  simp only [opReplaceRec]
  cases hp : (h self).parent with
  | none => simp only [hp] at he ⊢; exact he
  | some p =>
    simp only [hp] at he ⊢
    by_cases hv : v = .node p
    · rw [if_pos hv] at he ⊢; exact he
    · rw [if_neg hv] at he ⊢
      cases hk : (h self).argKey with
      | none => simp only [hk] at he ⊢; exact he
      | some k =>
        simp only [hk] at he ⊢
        by_cases hb : (isListValue v && isOne (getKey k (h p).args)) = true
        · rw [if_pos hb] at he; cases he
        · rw [if_neg hb] at he ⊢; exact he

/-- `replace(list)` on a node that sits in a SCALAR slot replaces the node's parent instead and then clears the node's own
    pointers — while the replaced-out parent still holds it. Witness: `Tuple([Paren(this=Lit)])`, `Lit.replace([])`:
    the live tree is consistent (`Tuple.expressions = []`), the `Paren` husk still stores `Lit`, whose `parent` is now
    `None`: the whole-heap `Links` fails at the husk (exactly as for replace-by-own-child). This is why the branch is
    outside the theorems (`opReplace` returns `none` there, `Adm` is about `opReplace`); the model function
    `opReplaceRec` mirrors it and is tied by correspondence; on the real code the root-relative checker covers it. -/
def huskDemo2 : List Op :=
  [.new 0 "tuple" false, .new 1 "paren" false, .new 2 "literal" true, .set 2 "this" (.leaf (.str "1")) none true,
   .set 1 "this" (.node 2) none true, .set 0 "expressions" (.list [.node 1]) none true]

theorem replace_list_in_scalar_slot_leaves_husk :
    ((run freeHash 8 empty huskDemo2).bind (fun h => opReplaceRec 8 h 2 (.list []))).map
      (fun h => (getKey "expressions" (h 0).args, getKey "this" (h 1).args, (h 2).parent, (h 1).parent)) =
      some (some (.many []), some (.one 2), none, none) := by decide +kernel

/-! ### `__hash__` / `==` do not depend on the insertion order of `args` -/

/-- two nodes of the same class whose `args` dicts hold the same entries in ANY order (a permutation of the association
    list) hash alike — because `__hash__` iterates `sorted(node.args)` -/
theorem hash_insertion_order_independent (F : HashFns H) (nd nd' : Node H) (ch : Id → Option H)
    (hc : nd'.cls = nd.cls) (hr : nd'.raw = nd.raw) (hp : nd.args.Perm nd'.args) (hu : KeysUnique nd.args) :
    hashNode F nd' ch = hashNode F nd ch := by
  unfold hashNode
  rw [hc, hr, sortArgs_perm hp hu]

/-- witness: iterating the dict in insertion order instead (no `sorted`) makes the hash of a raw-args leaf depend on the
    order in which its two args were set -/
def litA : Node HT :=
  { cls := "literal", raw := true, args := [("this", .leaf (.str "1")), ("is_string", .leaf (.bool true))],
    parent := none, argKey := none, index := none, hash := none }
def litB : Node HT :=
  { cls := "literal", raw := true, args := [("is_string", .leaf (.bool true)), ("this", .leaf (.str "1"))],
    parent := none, argKey := none, index := none, hash := none }

theorem unsorted_hash_depends_on_insertion_order :
    hashNodeUnsorted freeHash litA (fun _ => none) ≠ hashNodeUnsorted freeHash litB (fun _ => none) ∧
    hashNode freeHash litA (fun _ => none) = hashNode freeHash litB (fun _ => none) := by decide +kernel

/-! ### iterators and finders the optimizer relies on -/

/-- `dfs` / `bfs` / `walk` with `prune` enumerate EXACTLY the nodes reachable from the start node through non-pruned
    nodes (soundness and completeness as sets; that each node is yielded once additionally needs the no-sharing clause
    and is checked by correspondence, not proved) -/
theorem walk_enumerates_reachable (bfs : Bool) (prune : Id → Bool) (h : Heap H) (fuel : Nat) (root : Id) (res : List Id)
    (he : opWalk bfs prune fuel h root = some res) (x : Id) : x ∈ res ↔ ReachP h prune root x := walk_exact he x

/-- `find_all(types)` yields exactly the reachable nodes of the wanted classes -/
theorem find_all_exact (bfs : Bool) (P : String → Bool) (h : Heap H) (fuel : Nat) (root : Id) (res : List Id)
    (he : opFindAll bfs P fuel h root = some res) (x : Id) :
    x ∈ res ↔ ReachP h (fun _ => false) root x ∧ P (h x).cls = true := findAll_exact he x

/-- `find_ancestor(types)` returns the NEAREST ancestor of a wanted class on the parent chain (or None) -/
theorem find_ancestor_nearest (P : String → Bool) (f : Nat) (h : Heap H) (n : Id) (anc : List Id)
    (ha : ancestors f h n = some anc) : opFindAncestor P f h n = some (anc.find? (fun a => P (h a).cls)) :=
  findAncestor_nearest P f h n anc ha

/-- `root()` is the end of the parent chain and has no parent; `depth` is the length of the parent chain -/
theorem root_and_depth (f : Nat) (h : Heap H) (n : Id) (anc : List Id) (ha : ancestors f h n = some anc) :
    (∃ r, rootOf f h n = some r ∧ (h r).parent = none ∧ r = (n :: anc).getLast (by simp)) ∧
    depthOf f h n = some anc.length := ⟨root_spec f h n anc ha, depth_eq_length f h n anc ha⟩

/-- under the invariant, the parent pointer followed by `root` / `depth` / `find_ancestor` from a stored node IS its
    storage parent: the chain they climb is the chain of slots the node is stored under -/
theorem parent_chain_is_storage_chain (F : HashFns H) (h : Heap H) (hI : Inv F h) (p c : Id) (k : String)
    (i : Option Nat) (hs : Stored h p k i c) : (h c).parent = some p :=
  (child_records_its_slot F h hI p k i c hs).1

/-- `unnest()` never returns a `Paren` -/
theorem unnest_strips_parens (f : Nat) (h : Heap H) (n r : Id) (he : unnestOf f h n = some (some r)) :
    (h r).cls ≠ "paren" := unnest_not_paren f h n r he

/-- the "move instead of copy" discipline of the optimizer rules: a node that was installed in a tree must not afterwards be
    handed to a `copy=False` builder (the builder would re-parent it under a throwaway wrapper: stale links). A conservative
    syntactic scan (ast, every run) lists each function in which one variable is both installed (`replace` / `set` /
    `append`) and moved (`…(var, copy=False)`) later or inside the same loop, with the exact installing expression. The two
    reviewed sites: `_merge_expressions` moves the expression only on the LAST reference (`if i < last`), `_expand_using`
    builds a fresh replacement per iteration. Any new site, or a change of an installing expression, breaks this build. -/
theorem optimizer_moves_reviewed :
    SqlglotModel.Generated.C08.optimizerPlaceThenMove =
      ["merge_subqueries.py:_merge_expressions:expression | placed: column.replace(expression.copy() if i < last else expression) | moved: exp.paren(expression, copy=False)",
       "qualify_columns.py:_expand_using:replacement | placed: scope.replace(column, replacement) | moved: alias(replacement, alias=column.name, copy=False)"] := rfl

end SqlglotModel.Properties.C08
