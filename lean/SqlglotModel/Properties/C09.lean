/-
  C09 — Non-mutating APIs leave their arguments untouched and copies are independent (modelled fragment).
  Only property theorems and non-vacuity examples live here (model: Model/Tree.lean; lemmas: Proofs/Tree*.lean).

  What is proved about the model of `Expression`:
    * footprints: `set` / `append` / `replace` / `pop` write only (i) `_hash` along the parent chain of the node they are
      called on, (ii) that node's `args`, (iii) the pointer fields of inserted nodes and of old occupants of the slot;
      `hash()` / `==` write only `_hash` fields;
    * the frame theorem: a region closed under parent pointers and children is never left by an edit made inside it,
      so editing one of two disjoint trees leaves every cell of the other (args, pointers AND caches) unchanged;
    * `copy_equal_disjoint` for the REAL iterative `__deepcopy__`: the copy's abstraction (`shape`: classes, arg keys in
      dict order, scalars, list order — no ids, pointers or caches) equals the original's, the original keeps its own
      abstraction and every one of its cells, the two node sets are disjoint, and the new cells form a region;
    * `transform(fun, copy=True)` leaves every pre-existing cell untouched (frame corollary), for a user function that
      works inside the copy.
  NOT modelled: the generator / optimizer / diff / lineage code paths — the frame theorem is parametric in them ("a callee
  that only applies these primitives inside the copy's region"), and that premise is what the write monitor checks;
  the deep copies of `comments`, `_type`, `_meta`.
-/
import SqlglotModel.Proofs.TreeCopyShape
import SqlglotModel.Proofs.TreeWalk
import SqlglotModel.Proofs.TreeBuilders
import SqlglotModel.Generated.C09

namespace SqlglotModel.Properties.C09
open SqlglotModel.Tree

variable {H : Type}

/-- footprint of `self.set(k, v, index, overwrite)` -/
theorem set_frame (fuel : Nat) (h h' : Heap H) (self : Id) (k : String) (v : Value) (idx : Option Nat) (ow : Bool)
    (he : opSet fuel h self k v idx ow = some h') (m : Id)
    (hm : ¬ (OnChain h (some self) m ∨ SetFoot h self k v m)) : h' m = h m := opSet_frame he m hm

/-- footprint of `self.append(k, item)` -/
theorem append_frame (fuel : Nat) (h h' : Heap H) (self : Id) (k : String) (it : Item)
    (he : opAppend fuel h self k it = some h') (m : Id)
    (hm : ¬ (OnChain h (some self) m ∨ it = .node m)) : h' m = h m := opAppend_frame he m hm

/-- footprint of `self.replace(v)` (and of `self.pop()` = `replace(None)`) -/
theorem replace_frame (fuel : Nat) (h h' : Heap H) (self : Id) (v : Value)
    (he : opReplace fuel h self v = some h') (m : Id)
    (hm : ¬ (OnChain h (some self) m ∨
      ∃ p k, (h self).parent = some p ∧ (h self).argKey = some k ∧ SetFoot h p k v m)) : h' m = h m :=
  opReplace_frame he m hm

/-- `hash(n)` changes nothing but `_hash` fields (class, args and the three back pointers of every node stay) -/
theorem hash_touches_only_caches (F : HashFns H) (fuel : Nat) (h h' : Heap H) (n : Id) (hI : Inv F h)
    (he : fill F fuel h n = some h') : HashOnly h h' := (inv_fill F hI he).2.1

/-- `a == b` changes nothing but `_hash` fields -/
theorem eq_touches_only_caches [DecidableEq H] (F : HashFns H) (fuel : Nat) (h h' : Heap H) (a b : Id) (r : Bool)
    (hI : Inv F h) (he : opEq F fuel h a b = some (h', r)) : HashOnly h h' := (inv_opEq F hI he).2

/-- THE FRAME THEOREM for `set`: an edit made inside a region (target and inserted nodes in it) writes no cell
    outside it — neither args, nor pointers, nor hash caches. -/
theorem frame_set (fuel : Nat) (h h' : Heap H) (R : Id → Prop) (hR : Region h R) (self : Id) (k : String)
    (v : Value) (idx : Option Nat) (ow : Bool) (hs : R self) (hv : ∀ c, Item.node c ∈ itemOfValue v → R c)
    (he : opSet fuel h self k v idx ow = some h') (m : Id) (hm : ¬ R m) : h' m = h m :=
  opSet_region_frame hR hs hv he m hm

theorem frame_append (fuel : Nat) (h h' : Heap H) (R : Id → Prop) (hR : Region h R) (self : Id) (k : String)
    (it : Item) (hs : R self) (hv : ∀ c, it = .node c → R c)
    (he : opAppend fuel h self k it = some h') (m : Id) (hm : ¬ R m) : h' m = h m :=
  opAppend_region_frame hR hs hv he m hm

/-- the frame theorem for `replace` / `pop` -/
theorem frame_replace (fuel : Nat) (h h' : Heap H) (R : Id → Prop) (hR : Region h R) (self : Id) (v : Value)
    (hs : R self) (hv : ∀ c, Item.node c ∈ itemOfValue v → R c)
    (he : opReplace fuel h self v = some h') (m : Id) (hm : ¬ R m) : h' m = h m :=
  opReplace_region_frame hR hs hv he m hm

theorem frame_pop (fuel : Nat) (h h' : Heap H) (R : Id → Prop) (hR : Region h R) (self : Id) (hs : R self)
    (he : opPop fuel h self = some h') (m : Id) (hm : ¬ R m) : h' m = h m :=
  frame_replace fuel h h' R hR self .none hs (fun c hc => by simp [itemOfValue] at hc) he m hm

/-- **`copy_equal_disjoint`** for the iterative `__deepcopy__`: a copy has the same abstraction as the original, the
    original keeps its abstraction, and the two trees share no node (the copy's nodes are exactly new cells). -/
theorem copy_equal_disjoint (F : HashFns H) (fuel fuel' : Nat) (h h' : Heap H) (n c : Id) (base nx : Nat)
    (hI : Inv F h) (hf : FreshFrom h base) (hn : base > n) (he : opDeepcopy fuel h n base = some (h', nx, c)) :
    shape fuel' h' c = shape fuel' h n ∧ shape fuel' h' n = shape fuel' h n ∧
    (∀ m, Reach h' c m → ¬ Reach h' n m) := by
  obtain ⟨s1, s2⟩ := deepcopy_shape hI hf hn he fuel'
  obtain ⟨rfl, d⟩ := deepcopy_spec hI hf hn he
  exact ⟨s1, s2, fun m => reach_disjoint hI hf d.same d.region (Nat.le_refl _) hn⟩

/-- `copy()` writes only fresh cells: every existing cell keeps its args, pointers and caches; the copy's root is the
    first fresh cell, and the new cells are closed under parent pointers and children (a region: so by `frame_*` later
    edits of the copy never touch the original, and edits of the original never touch the copy) -/
theorem copy_original_untouched (F : HashFns H) (fuel : Nat) (h h' : Heap H) (n c : Id) (base nx : Nat)
    (hI : Inv F h) (hf : FreshFrom h base) (hn : base > n) (he : opDeepcopy fuel h n base = some (h', nx, c)) :
    (∀ m, m < base → h' m = h m) ∧ c = base ∧ Region h' (fun m => base ≤ m) := by
  obtain ⟨hc, d⟩ := deepcopy_spec hI hf hn he
  exact ⟨d.frame, hc, d.region⟩

/-- `transform(fun, copy=True)` — the default — leaves the argument untouched: every cell that existed before the call
    is unchanged (structure, pointers and caches), the invariant holds afterwards, and the RESULT SHARES NO NODE WITH THE
    ARGUMENT; for any user function that works inside the copy (`TransformFr`) and hands back admissible values
    (`TransformAdm`). -/
theorem transform_copy_pure (F : HashFns H) (fuel : Nat) (fn : UserFun H) (h h' : Heap H) (base nx' : Nat) (root : Id)
    (r : Value) (hI : Inv F h) (hf : FreshFrom h base) (hn : base > root)
    (hfn : ∀ h1 nx1 c, opDeepcopy fuel h root base = some (h1, nx1, c) →
      TransformFr (fun m => base ≤ m) fuel fn h1 nx1 c ∧ TransformAdm F fuel fn h1 nx1 c)
    (he : opTransformCopy fuel fn h base root = some (h', nx', r)) :
    (∀ m, m < base → h' m = h m) ∧ Inv F h' ∧
    (∀ c m, Item.node c ∈ itemOfValue r → Reach h' c m → ¬ Reach h' root m) := opTransformCopy_pure F hI hf hn hfn he

/-- `exp.expand(tree, sources, copy=True)` IS `tree.transform(_expand, copy=True)` (pinned by `expand_returns_through_the_copy`),
    with `_expand` replacing a Table that names a source by a fresh subquery. For EVERY source map (any admissible user
    function) the result shares no node with the argument and the argument is untouched. -/
theorem expand_result_disjoint (F : HashFns H) (fuel : Nat) (expandFn : UserFun H) (h h' : Heap H) (base nx' : Nat)
    (root : Id) (r : Value) (hI : Inv F h) (hf : FreshFrom h base) (hn : base > root)
    (hfn : ∀ h1 nx1 c, opDeepcopy fuel h root base = some (h1, nx1, c) →
      TransformFr (fun m => base ≤ m) fuel expandFn h1 nx1 c ∧ TransformAdm F fuel expandFn h1 nx1 c)
    (he : opTransformCopy fuel expandFn h base root = some (h', nx', r)) :
    (∀ m, m < base → h' m = h m) ∧ (∀ c m, Item.node c ∈ itemOfValue r → Reach h' c m → ¬ Reach h' root m) :=
  let x := opTransformCopy_pure F hI hf hn hfn he
  ⟨x.1, x.2.2⟩

/-- the "nothing to expand" case (empty sources, or no Table names a source: `_expand` returns every node unchanged):
    the result is still the fresh copy — a different root, no shared node, the argument untouched. A fast path that
    returns the input is therefore a refutation of the modelled code, not an optimisation of it. -/
theorem expand_nothing_to_do_still_copies (F : HashFns H) (fuel : Nat) (h h' : Heap H) (base nx' : Nat) (root : Id)
    (r : Value) (hI : Inv F h) (hf : FreshFrom h base) (hn : base > root)
    (he : opTransformCopy fuel (idFun (H := H)) h base root = some (h', nx', r)) :
    r = .node base ∧ r ≠ .node root ∧ (∀ m, m < base → h' m = h m) ∧ (∀ m, Reach h' base m → ¬ Reach h' root m) := by
  obtain ⟨a, b, c⟩ := opTransformCopy_id F hI hf hn he
  refine ⟨a, ?_, b, c⟩
  rw [a]
  intro e
  simp only [Value.node.injEq] at e
  rw [e] at hn
  exact Nat.lt_irrefl _ hn

/-- **The builder layer under copy=True** (`_apply_builder` … `_apply_cte_builder`, `_apply_set_operation`, for the shape
    in which `copy` is threaded to the receiver copy AND to the argument parse): for every heap, every receiver tree and
    every argument tree, and whatever fresh wrapper nodes the builder assembles (`Where`, `And`, `CTE`, `With`, a set
    operation …) — every pre-existing cell is unchanged (receiver, argument, any other tree: args, pointers, caches), the
    invariant holds, and the result shares no node with the receiver or with the argument. -/
theorem builder_copy_both_pure (F : HashFns H) (fuel : Nat) (h h3 : Heap H) (base nx : Nat) (inst arg c : Id)
    (assemble : Nat → Id → Id → List BOp) (hI : Inv F h) (hf : FreshFrom h base) (hi : base > inst) (ha : base > arg)
    (hreg : ∀ nx2 c a, base ≤ c → base ≤ a → base ≤ nx2 → ∀ op, op ∈ assemble nx2 c a → InRegionB (fun m => base ≤ m) op)
    (hadm : ∀ h2 nx2 c a, Inv F h2 → FreshFrom h2 nx2 → AdmRunB fuel h2 (assemble nx2 c a))
    (he : builderCopyBoth fuel h base inst arg assemble = some (h3, nx, c)) :
    (∀ m, m < base → h3 m = h m) ∧ Inv F h3 ∧ (∀ m, Reach h3 c m → ¬ Reach h3 inst m ∧ ¬ Reach h3 arg m) :=
  builderCopyBoth_pure F hI hf hi ha hreg hadm he

/-- the two concrete assemblies (`q.where(cond)` on a query without WHERE; `q.with_(alias, as_=expr)`) stay inside the
    fresh region, as `builder_copy_both_pure` requires -/
theorem where_and_cte_assemblies_in_region (base nx : Nat) (c a : Id) (hc : base ≤ c) (ha : base ≤ a) (hn : base ≤ nx) :
    (∀ op, op ∈ whereAssembly nx c a → InRegionB (fun m => base ≤ m) op) ∧
    (∀ op, op ∈ cteAssembly nx c a → InRegionB (fun m => base ≤ m) op) := by
  have hn1 : base ≤ nx + 1 := Nat.le_succ_of_le hn
  constructor
  · intro op hop
    simp only [whereAssembly, List.mem_cons, List.mem_nil_iff, or_false] at hop
    rcases hop with rfl | rfl | rfl
    · exact hn
    · exact inRegionB_set_node _ hn ha
    · exact inRegionB_set_node _ hc hn
  · intro op hop
    simp only [cteAssembly, List.mem_cons, List.mem_nil_iff, or_false] at hop
    rcases hop with rfl | rfl | rfl | rfl | rfl
    · exact hn
    · exact inRegionB_set_node _ hn ha
    · exact hn1
    · exact inRegionB_set_node (a := nx) "expressions" hn1 hn  -- a one-element list inserts the same node as the node itself
    · exact inRegionB_set_node _ hc hn1

/-- which copy decisions each `_apply_*` helper makes, re-extracted (ast) on every run: the receiver is always
    `maybe_copy(instance, copy)`; `_apply_builder` / `_apply_list_builder` / `_apply_child_list_builder` use an Expr
    argument as-is (documented); the conjunction, CTE and set-operation builders thread `copy=copy` into the argument
    parse; and every public method that calls a helper passes `copy=copy` on. A dropped `copy=copy` (C09-6) breaks this
    build. -/
theorem builders_thread_copy :
    SqlglotModel.Generated.C09.builderCopyDecisions =
      ["_apply_builder: maybe_copy(instance;copy=copy), maybe_parse(expression;copy=-)",
       "_apply_child_list_builder: maybe_copy(instance;copy=copy), maybe_parse(expression;copy=-)",
       "_apply_conjunction_builder: and_(*filtered;copy=copy), maybe_copy(instance;copy=copy), maybe_copy(instance;copy=copy)",
       "_apply_cte_builder: _apply_child_list_builder(cte;copy=copy), maybe_parse(alias;copy=-), maybe_parse(as_;copy=copy)",
       "_apply_list_builder: maybe_copy(instance;copy=copy), maybe_parse(expression;copy=-)",
       "_apply_set_operation: maybe_parse(e;copy=copy)"] ∧
    SqlglotModel.Generated.C09.builderCallSitesNotThreadingCopy = [] := ⟨rfl, rfl⟩

/-- dialect generators that override `generate` (Athena today, which picks the Hive or the Trino printer per statement):
    the override does not reassign its tree parameter and hands THAT SAME object, with the caller's own `copy` flag, to
    every delegate — so the one copy made downstream is the copy that gets printed. Re-extracted (ast) on every run; an
    override that copies into one variable and delegates another (C09-7) breaks this build. -/
theorem generate_overrides_pass_same_object :
    SqlglotModel.Generated.C09.generateOverrides =
      ["sqlglot/generators/athena.py:AthenaGenerator.generate(expression) | assigns: - | delegates: self._hive_generator.generate(expression, copy=copy); self._trino_generator.generate(expression, copy=copy)"] := rfl

/-- every `return` of `exp.expand` (its own body, not the nested `_expand`) goes through the copying transform, and
    `lineage` hands `maybe_parse` the caller's `copy` flag unconditionally — re-extracted (ast) on every run. A new
    return path (a fast path returning the input) or a conditional copy breaks this build. -/
theorem expand_returns_through_the_copy :
    SqlglotModel.Generated.C09.expandReturnSites = ["return expression.transform(_expand, copy=copy)"] ∧
    SqlglotModel.Generated.C09.lineageCopiesInput = true := ⟨rfl, rfl⟩

/-- the copy defaults the property rests on, re-extracted (ast) from the source on every run: `Generator.generate`
    copies its argument by default before preprocessing/printing, `Expression.sql(copy=True)`, `transform` copies when
    asked (default), `optimize` parses with `copy=True`, `__deepcopy__` carries `_hash` over before the arg loop (so
    that the copy's own `set`/`append` calls evict it wherever structure is rebuilt). A change breaks this build. -/
theorem generated_copy_defaults_ok :
    SqlglotModel.Generated.C09.generateCopiesByDefault = true ∧
    SqlglotModel.Generated.C09.sqlCopiesByDefault = true ∧
    SqlglotModel.Generated.C09.transformCopiesWhenAsked = true ∧
    SqlglotModel.Generated.C09.optimizeCopiesInput = true ∧
    SqlglotModel.Generated.C09.deepcopyCarriesHashBeforeArgs = true ∧
    SqlglotModel.Generated.C09.deepcopyUsesSetAndAppend = true := ⟨rfl, rfl, rfl, rfl, rfl, rfl⟩

/-- `generate(copy=True)` is the only barrier between the in-place rewrites of the `*_sql` methods
    (`Generated.C09.printingMutates`) and the caller's tree. Every call of `.sql` / `.generate` inside sqlglot that does
    not pass the default is on this reviewed allow-list: `transpile` (both) print trees they parsed themselves;
    `Expression.sql`, `Dialect.generate` and the Athena generator forward the caller's own `copy` flag; `table_name`
    prints bare identifiers of a Table. A new `copy=False` call site (e.g. inside `diff`) breaks this build. -/
theorem copy_false_sites_allowed :
    SqlglotModel.Generated.C09.copyFalseSites =
      ["sqlglot/__init__.py:transpile:generate:False",
       "sqlglot/dialects/dialect.py:generate:generate:copy",
       "sqlglot/dialects/dialect.py:transpile:generate:False",
       "sqlglot/expressions/builders.py:table_name:sql:False",
       "sqlglot/expressions/core.py:sql:generate:copy",
       "sqlglot/generators/athena.py:generate:generate:copy"] := rfl

/-- non-vacuity of `expand_nothing_to_do_still_copies`: the identity run exists in the model and returns the copy's root -/
example : ((run freeHash 8 empty [.new 0 "paren" false, .new 1 "literal" true, .set 1 "this" (.leaf (.str "1")) none true,
      .set 0 "this" (.node 1) none true]).bind (fun h => opTransformCopy 8 idFun h 2 0)).map (fun r => (r.2.1, r.2.2)) =
    some (4, Value.node 2) := by decide +kernel

/-- non-vacuity of `builder_copy_both_pure`: `q.where(cond)` in the model — Select(0; expressions=[col 1]) and a condition
    Literal 2; receiver copy in cells 3,4, argument copy in cell 5, the fresh `Where` in cell 6 -/
example : ((run freeHash 8 empty [.new 0 "select" false, .new 1 "column" false, .new 2 "literal" true,
      .set 2 "this" (.leaf (.str "1")) none true, .set 0 "expressions" (.list [.node 1]) none true]).bind
      (fun h => builderCopyBoth 8 h 3 0 2 whereAssembly)).map
      (fun r => (r.2.1, r.2.2, getKey "where" (r.1 3).args, getKey "this" (r.1 6).args, getKey "where" (r.1 0).args)) =
    some (6, 3, some (.one 6), some (.one 5), none) := by decide +kernel

/-- the whole id space is a region -/
example (h : Heap H) : Region h (fun _ => True) := ⟨fun _ _ _ _ => trivial, fun _ _ _ _ _ _ => trivial⟩

/-- a concrete copy in the model: Paren(this=Literal) copied into the fresh cells 2, 3; the Literal's carried hash stays -/
def demo : List Op :=
  [.new 0 "paren" false, .new 1 "literal" true, .set 1 "this" (.leaf (.str "1")) none true,
   .set 0 "this" (.node 1) none true, .hash 0]

example : ((run freeHash 8 empty demo).bind (fun h => opDeepcopy 8 h 0 2)).map
    (fun r => (r.2.1, r.2.2, (r.1 2).hash.isNone, (r.1 3).hash.isSome, (r.1 0).hash.isSome)) =
    some (4, 2, true, true, true) := by decide +kernel

end SqlglotModel.Properties.C09
