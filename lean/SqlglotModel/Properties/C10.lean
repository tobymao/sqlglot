/-
  C10 — Qualification is complete, idempotent and faithful to dialect identifier rules.
  Only property theorems, non-vacuity examples and counter-example witnesses live here.
-/
import SqlglotModel.Proofs.Ident
import SqlglotModel.Proofs.QualifyIdent
import SqlglotModel.Proofs.QualifyIdem
import SqlglotModel.Proofs.QualifyNames
import SqlglotModel.Generated.C10

namespace SqlglotModel.Properties.C10
open SqlglotModel.Ident SqlglotModel.Qualify

/-- normalisation is idempotent (for any case maps that are idempotent, as CPython's are) -/
theorem normalize_idempotent (f : CaseFns) (hf : f.Ok) (s : Strategy) (i : Ident) :
    normalize f s (normalize f s i) = normalize f s i := normalize_idem f hf s i

example : CaseFns.Ok ⟨id, id⟩ := ⟨fun _ => rfl, fun _ => rfl⟩

/-- an identifier that is case-sensitive under the strategy (quoted, except under the two CASE_INSENSITIVE
    strategies; anything under CASE_SENSITIVE) is never altered — no hypothesis on the case maps needed -/
theorem normalize_preserves_case_sensitive (f : CaseFns) (s : Strategy) (i : Ident)
    (h : caseSensitiveUnder s i = true) : normalize f s i = i := by
  -- `caseSensitiveUnder s i` is `!folds s i.quoted`: `normalize` takes its `else` branch
  unfold normalize
  exact if_neg (Bool.not_eq.mp h)

example : caseSensitiveUnder .lowercase ⟨"Foo", true⟩ = true := by decide
example : caseSensitiveUnder .caseSensitive ⟨"Foo", false⟩ = true := by decide
example : caseSensitiveUnder .caseInsensitive ⟨"Foo", true⟩ = false := by decide

/-- after `quote_identifiers(identify=True)` every identifier is quoted; normalising the quoted version of an
    already-normalised name changes nothing (why the normalisation stage is the identity on the second pass) -/
theorem normalize_requote_stable (f : CaseFns) (hf : f.Ok) (s : Strategy) (i : Ident) :
    (normalize f s ⟨(normalize f s i).name, true⟩).name = (normalize f s i).name :=
  normalize_name_stable f hf s i true (folds_of_quoted _)

/-- finite decision table, decided completely: the live `Dialect.normalize_identifier`, probed by the translator
    for every (strategy, quoted), acts exactly as `folds` / `foldsUpper` say (0 keep, 1 lower, 2 upper) -/
theorem generated_fold_table_ok :
    Generated.C10.foldTable.all (fun (s, q, a) =>
      a == (if folds s q then (if foldsUpper s then 2 else 1) else 0)) = true
    ∧ Generated.C10.foldTable.length = 10 := by
  decide

/-- the order of the stages in qualify() and of the per-scope steps in qualify_columns() is the modelled one -/
theorem generated_pipeline_ok :
    Generated.C10.pipeline = ["normalize_identifiers", "qualify_tables", "isolate_table_selects",
      "qualify_columns_func", "quote_identifiers_func", "validate_qualify_columns_func"]
    ∧ Generated.C10.scopeSteps = ["_expand_using", "_qualify_columns", "_expand_alias_refs", "_expand_stars",
      "qualify_outputs", "_expand_group_by", "_expand_order_by_and_distinct_on"] :=
  ⟨rfl, rfl⟩

/-! ## table-sensitive dialects and the default db / catalog -/

/-- **default_qualifier_case_preserved.**  Under a table-sensitive dialect (BigQuery: the override is present and
    the strategy is CASE_INSENSITIVE) the default `db` / `catalog` handed to `qualify` / `qualify_tables` keeps its
    spelling exactly — because the `is_table` tag is set BEFORE normalisation (`tagFirst`), for any case maps. -/
theorem default_qualifier_case_preserved (f : CaseFns) (i : Ident) :
    defaultQualifier f true .caseInsensitive true i = i := by
  simp [defaultQualifier, normalizeT, tableCaseSensitive, TableCtx.plain]

/-- the order the source uses today (re-extracted each run) is that one -/
theorem generated_default_qualifier_ok : Generated.C10.defaultQualifierTagFirst = true := by decide

/-- and it matters: with the tag set only after normalising, `MyDs` becomes `myds` (the schema lookup then misses) -/
theorem default_qualifier_needs_tag_first :
    (defaultQualifier asciiFns true .caseInsensitive false ⟨"MyDs", false⟩).name = "myds" := by decide +kernel

/-- for every other dialect the tag is irrelevant: `normalizeT` is `Ident.normalize` -/
theorem normalizeT_base (f : CaseFns) (s : Strategy) (c : TableCtx) (i : Ident) :
    normalizeT f false s c i = normalize f s i := by
  simp [normalizeT]

/-- table parts stay as written, everything else is folded whatever its quoting (BigQuery's rule), and folding is idempotent -/
theorem normalizeT_table_sensitive (f : CaseFns) (hf : f.Ok) (c : TableCtx) (i : Ident) :
    (tableCaseSensitive c = true → normalizeT f true .caseInsensitive c i = i)
    ∧ normalizeT f true .caseInsensitive c (normalizeT f true .caseInsensitive c i) = normalizeT f true .caseInsensitive c i := by
  constructor
  · intro h; simp [normalizeT, h]
  · by_cases h : tableCaseSensitive c = true
    · simp [normalizeT, h]
    · simp [normalizeT, h, hf.lower_idem]

/-! ## generated output names -/

/-- **generated_name_is_fixpoint.**  The name `qualify_outputs` gives an unaliased, unnamed projection — `_col_<i>` passed
    through the dialect's normalisation as an unquoted identifier, which is what the model's `Gen.colName` is instantiated
    with — is a fixpoint of that normalisation, for every strategy and any idempotent case maps: re-normalising it (as
    on the second pass, or when an enclosing query mentions it unquoted) gives the same name. -/
theorem generated_name_is_fixpoint (f : CaseFns) (hf : f.Ok) (s : Strategy) (i : Nat) :
    (normalize f s ⟨(normalize f s ⟨"_col_" ++ toString i, false⟩).name, false⟩).name
      = (normalize f s ⟨"_col_" ++ toString i, false⟩).name :=
  normalize_name_stable f hf s _ false id

/-- every `_col_<i>` construction in `qualify_outputs` has its `normalize_identifier` call (counted by ast each run) -/
theorem generated_col_name_sites_ok :
    0 < Generated.C10.colNameSites.1 ∧ Generated.C10.colNameSites.1 ≤ Generated.C10.colNameSites.2 := by decide

/-- the un-normalised lower-case name is NOT a fixpoint under an upper-casing strategy: it becomes `_COL_0`, so an
    enclosing query's unquoted `_col_0` no longer matches it, and under CASE_INSENSITIVE_UPPERCASE the second pass rewrites it -/
theorem unnormalised_generated_name_witness :
    (normalize asciiFns .uppercase ⟨"_col_0", false⟩).name = "_COL_0"
    ∧ (normalize asciiFns .caseInsensitiveUpper ⟨"_col_0", true⟩).name = "_COL_0"
    ∧ (normalize asciiFns .lowercase ⟨"_col_0", false⟩).name = "_col_0" := by decide +kernel

/-! ## the schema's memo of normalised names -/

/-- **schema_name_memo_sound.**  `MappingSchema._normalize_name` with its memo answers exactly what the un-memoised
    normalisation answers — for every call history — provided the memo key contains the role (`is_table`) OR the
    dialect's normalisation does not depend on the role (every dialect except the table-sensitive ones). -/
theorem schema_name_memo_sound (hasRole : Bool) (f : CaseFns) (ts : Bool) (s : Strategy) (h : hasRole = true ∨ ts = false)
    (memo : NameMemo) (hm : MemoOk hasRole f ts s memo) (k : NKey) :
    (normMemo hasRole f ts s memo k).1 = normName f ts s k ∧ MemoOk hasRole f ts s (normMemo hasRole f ts s memo k).2 :=
  normMemo_sound hasRole f ts s h memo hm k

example (f : CaseFns) (s : Strategy) : MemoOk true f true s [] := by intro e he; simp at he

/-- the memo key the source uses today (re-read each run) contains every input: name, quoting, dialect, role, normalize -/
theorem generated_schema_memo_key_ok :
    ["name_str", "quoted", "dialect", "is_table", "normalize"].all (fun x => Generated.C10.schemaNameMemoKey.contains x) = true := by
  decide +kernel

/-- and the role is needed: under a table-sensitive dialect (BigQuery) a memo keyed without it answers the COLUMN `Tbl`
    with what it stored for the TABLE `Tbl` (`Tbl` instead of `tbl`); keyed with the role both are right; for a
    role-insensitive dialect the key without the role is harmless -/
theorem schema_name_memo_without_role_witness :
    normMemoRun false asciiFns true .caseInsensitive [] [⟨"Tbl", false, true⟩, ⟨"Tbl", false, false⟩] = ["Tbl", "Tbl"]
    ∧ normMemoRun true asciiFns true .caseInsensitive [] [⟨"Tbl", false, true⟩, ⟨"Tbl", false, false⟩] = ["Tbl", "tbl"]
    ∧ normMemoRun false asciiFns false .caseInsensitive [] [⟨"Tbl", false, true⟩, ⟨"Tbl", false, false⟩] = ["tbl", "tbl"] := by
  decide +kernel

/-! ## lexical visibility of CTE names -/

/-- **cte_sibling_independence.**  With `Scope.branch` building a new `cte_sources` mapping (what the source does;
    re-read each run), take any scope store, any parent scope `p`, branch an inner scope from it (with any extra CTEs),
    let that inner scope process a nested WITH (`_traverse_ctes`: in-place update with any definitions), then branch a
    LATER sibling from `p`: every name resolves in the later sibling exactly as the parent's mapping resolved it before —
    the names defined inside one branch are invisible in another, and cannot shadow an outer CTE or a schema table there. -/
theorem cte_sibling_independence (st : CState) (p : Nat) (extra defs : CteEnv) (n : String) (ps : CScope)
    (hp : st.scopes[p]? = some ps) (href : ps.ref < st.envs.length) :
    cresolve (cbranch true (cupdate (cbranch true st p extra) st.scopes.length defs) p []) (st.scopes.length + 1) n
      = (st.env ps.ref).lookup n :=
  sibling_independent st p extra defs n ps hp href

/-- the source does copy (Scope.branch passes `{**self.cte_sources, **…}`), and `_traverse_ctes` updates in place -/
theorem generated_cte_scoping_ok :
    Generated.C10.branchCopiesCteSources = true ∧ Generated.C10.traverseCtesUpdatesInPlace = true := by decide

/-- the shared-mapping variant leaks: `WITH o AS (…) SELECT … FROM (WITH c AS (…) SELECT … FROM c) AS s1, (SELECT … FROM c) AS s2`
    — the root defines o (0); s1 is branched, defines its private c (1); s2 is branched afterwards and looks up c: with a
    shared mapping it finds s1's c, with a copied one it finds nothing (the schema table c); o is visible either way -/
theorem cte_shared_dict_leak_witness :
    let ops := [COp.update 0 [("o", 0)], .branch 0 [], .update 1 [("c", 1)], .branch 0 [], .resolve 2 "c", .resolve 2 "o"]
    crun false CState.root ops = [some 1, some 0] ∧ crun true CState.root ops = [none, some 0] := by
  decide +kernel

/-! ## the scope model -/

/-- **qualify_complete** (one scope).  If qualification of a scope succeeds then every source has an alias, the
    pushed-down column list is consumed, and — `validate` spelled out — every column in the projections, WHERE and
    GROUP BY names one of those aliases, every column in ORDER BY names one or is a bare output name, and every
    QUALIFIED column in HAVING names one.  (Bare names in HAVING escape: see `having_bare_counterexample`.) -/
theorem qualify_complete (g : Gen) (σ : Schema) (outs : List (List String)) (s s' : Scope)
    (h : qualifyScope g σ outs s = .ok s') :
    (∀ src ∈ s'.srcs, src.alias.isSome = true) ∧ s'.outer = []
    ∧ ∃ names : List String, validate names s' = true ∧ ∀ n ∈ names, some n ∈ s'.srcs.map (·.alias) :=
  qualifyScope_complete h

/-- the same for every scope of a whole (flattened) query, any number of scopes -/
theorem qualify_complete_all (g : Gen) (σ : Schema) (q q' : List Scope) (h : qualifyModel g σ q = .ok q') :
    q'.length = q.length ∧ ∀ s' ∈ q', Complete s' :=
  qualifyFrom_complete q [] q' h

def g0 : Gen := { colName := fun i => "_col_" ++ toString i, refold := id }
def σ0 : Schema := [(["t"], ["a", "b"]), (["u"], ["b", "c"])]
def isOptErr : Except Err Scope → Bool
  | .error .optimize => true
  | _ => false
def sc1 (srcs : List Src) (w : Expr) : Scope :=
  { outer := [], joins := [], srcs := srcs, projs := [.item (.lit 1) none], whr := some w, group := [], having := none, order := [] }
def tSrc : Src := ⟨.table ["t"], none⟩
def uSrc : Src := ⟨.table ["u"], none⟩

/-- non-vacuity: `SELECT a + 1 AS x, x * 2 AS y, * FROM t WHERE x > 1 ORDER BY y` qualifies -/
example : (match qualifyModel g0 σ0 [{ outer := [], joins := [], srcs := [tSrc], projs := [.item (.bin .add (.col none "a") (.lit 1)) (some "x"), .item (.bin .mul (.col none "x") (.lit 2)) (some "y"), .star none []], whr := some (.bin .gt (.col none "x") (.lit 1)), group := [], having := none, order := [.col none "y"] }] with
    | .ok [s'] => s'.projs.length == 4 && s'.whr == some (.bin .gt (.paren (.bin .add (.col (some "t") "a") (.lit 1))) (.lit 1))
    | _ => false) = true := by decide +kernel

/-! ## join-context resolution of bare names in JOIN … ON -/

/-- **join_context_within_prefix.**  A bare name in the ON condition of a join that no source of the whole scope owns
    alone is bound — if at all — to a source among those AVAILABLE at that join (`pre`: the FROM source and the joins up to
    and including this one, in definition order), and that source has the column; never to a table joined later. -/
theorem join_context_within_prefix (env pre : Env) (n t : String) (hu : unique env n = none)
    (h : qcolOn env pre (.col none n) = .ok (.col (some t) n)) :
    ∃ cols, (t, cols) ∈ pre ∧ cols.contains n = true :=
  qcolOn_prefix env pre n t hu h

/-- the source collects the available sources by name in FROM/JOIN definition order (re-read each run) -/
theorem generated_join_context_ok : Generated.C10.joinContextDefinitionOrder = true := by decide

def σ4 : Schema := [(["x"], ["a"]), (["y"], ["d"]), (["z"], ["c", "e"])]
/-- `SELECT q.c FROM (scope 0: outputs c) AS q JOIN y ON y.d = c JOIN z ON z.e = y.d` -/
def qyz : Scope :=
  { outer := [], srcs := [⟨.scope 0 true, some "q"⟩, ⟨.table ["y"], none⟩, ⟨.table ["z"], none⟩],
    joins := [⟨false, [], some (.bin .eq (.col (some "y") "d") (.col none "c"))⟩,
              ⟨false, [], some (.bin .eq (.col (some "z") "e") (.col (some "y") "d"))⟩],
    projs := [.item (.col (some "q") "c") none], whr := none, group := [], having := none, order := [] }

/-- `c` is ambiguous scope-wide (q and z) but unique among q, y: with the definition-order prefix it is `q.c`; with the
    prefix of the cached mapping (plain tables y, z first, the derived table q last) it is bound to `z.c`, a table joined
    LATER — the seeded regression, reproduced by the model when the generated flag is flipped -/
theorem join_context_cached_order_witness :
    (match qualifyScope g0 σ4 [["c"]] qyz, qualifyScope { g0 with joinCtxDefOrder := false } σ4 [["c"]] qyz with
     | .ok s1, .ok s2 =>
       (s1.joins.map (·.on)).head? == some (some (.bin .eq (.col (some "y") "d") (.col (some "q") "c")))
       && (s2.joins.map (·.on)).head? == some (some (.bin .eq (.col (some "y") "d") (.col (some "z") "c")))
     | _, _ => false) = true := by decide +kernel

/-- **star_expansion_schema_order.**  `SELECT *` over sources whose columns are known, distinct and star-free
    becomes, after `_expand_stars` and `qualify_outputs`, exactly the sources' columns — sources in
    `Scope.references` order, columns in schema order — each as `alias.column AS column`. -/
theorem star_expansion_schema_order (cn : Nat → String) (env : Env) (hg : ∀ e ∈ env, GoodSrc e)
    (hne : ∀ e ∈ env, ∀ c ∈ e.2, c ≠ "") :
    expandStarTables [] env = .ok ((env.flatMap (fun e => e.2.map (fun c => (e.1, c)))).map
        (fun p => Proj.item (.col (some p.1) p.2) none))
    ∧ qualifyOutputs cn 0 [] ((env.flatMap (fun e => e.2.map (fun c => (e.1, c)))).map
        (fun p => Proj.item (.col (some p.1) p.2) none))
      = (env.flatMap (fun e => e.2.map (fun c => (e.1, c)))).map
        (fun p => Proj.item (.col (some p.1) p.2) (some p.2)) := by
  constructor
  · rw [(expandStarTables_ok_iff [] env _).mpr ⟨hg, rfl⟩]
    simp only [starCols, List.contains_nil, Bool.not_false, List.filter_eq_self.mpr fun _ _ => rfl,
      List.map_flatMap, List.map_map, Function.comp_def]
  · apply qualifyOutputs_cols
    intro p hp
    simp only [List.mem_flatMap, List.mem_map] at hp
    obtain ⟨e, he, c, hc, rfl⟩ := hp
    exact hne e he c hc

example : ∀ e ∈ ([("t", ["a", "b"]), ("u", ["b", "c"])] : Env), GoodSrc e := by
  intro e he; simp at he; rcases he with rfl | rfl <;> simp [GoodSrc, hasDup]

/-- **star_expansion_using** (the merge-membership test of `_expand_stars`).  With USING / NATURAL merges recorded
    in `ct` (merged column ↦ tables merged over it), the star over a table `t` that takes no part in the merge of any
    of its columns — e.g. a table joined with ON that merely has a column named like a USING column — expands to
    exactly `t`'s own columns in schema order, provided no earlier star of the select already coalesced one of them
    (that proviso is real: see `star_using_drops_later_column_witness`, a known finding). -/
theorem star_expansion_using (ct : ColTables) (t : String) (exc cols coal : List String)
    (hout : ∀ c ∈ cols, ∀ e, ct.find? (fun e => e.1 == c) = some e → e.2.contains t = false)
    (hco : ∀ c ∈ cols, coal.contains c = false) :
    starColsU ct t exc coal cols = (starCols t exc cols, coal) :=
  starColsU_outside ct t exc cols coal hout hco

/-- and a table that does take part gets the merged column once, as COALESCE over the merge tables, named like the column -/
theorem star_expansion_using_merged (ct : ColTables) (t c : String) (exc cs coal ts : List String)
    (hx : exc.contains c = false) (hc : coal.contains c = false)
    (hf : ct.find? (fun e => e.1 == c) = some (c, ts)) (ht : ts.contains t = true) :
    starColsU ct t exc coal (c :: cs)
      = (.item (.coalesce (ts.map (fun x => (x, c)))) (some c) :: (starColsU ct t exc (coal ++ [c]) cs).1,
         (starColsU ct t exc (coal ++ [c]) cs).2) := by
  rw [starColsU, hx, hc, hf]
  exact if_pos ht

def σ3 : Schema := [(["x"], ["a", "b"]), (["y"], ["b", "c"]), (["z"], ["b", "c"])]
def xyz (projs : List Proj) : Scope :=
  { outer := [], srcs := [⟨.table ["x"], none⟩, ⟨.table ["y"], none⟩, ⟨.table ["z"], none⟩],
    joins := [⟨false, ["b"], none⟩, ⟨false, [], some (.bin .eq (.col (some "y") "c") (.col (some "z") "c"))⟩],
    projs := projs, whr := none, group := [], having := none, order := [] }

/-- `SELECT z.* FROM x JOIN y USING (b) JOIN z ON y.c = z.c`: z's own b and c (seeded regression B gave COALESCE(x.b, y.b));
    the USING join became `ON x.b = y.b`; `SELECT b …` becomes `COALESCE(x.b, y.b) AS b` -/
theorem star_expansion_using_witness :
    (match qualifyScope g0 σ3 [] (xyz [.star (some "z") []]), qualifyScope g0 σ3 [] (xyz [.item (.col none "b") none]) with
     | .ok s1, .ok s2 =>
       s1.projs == [.item (.col (some "z") "b") (some "b"), .item (.col (some "z") "c") (some "c")]
       && (s1.joins.map (·.on)) == [some (.bin .eq (.col (some "x") "b") (.col (some "y") "b")),
                                    some (.bin .eq (.col (some "y") "c") (.col (some "z") "c"))]
       && s2.projs == [.item (.coalesce [("x", "b"), ("y", "b")]) (some "b")]
     | _, _ => false) = true := by decide +kernel

/-- known finding C10-star-using-drops-later-same-named-column, reproduced by the model: in `SELECT * …` over the same
    joins the set of coalesced names is per select, so z.b is dropped: a, COALESCE(x.b, y.b) AS b, y.c, z.c -/
theorem star_using_drops_later_column_witness :
    (match qualifyScope g0 σ3 [] (xyz [.star none []]) with
     | .ok s1 => outNames s1.projs == ["a", "b", "c", "c"]
     | _ => false) = true := by decide +kernel

/-- the order is `references` order: derived tables after tables, whatever the FROM order (known finding
    C10-star-order-derived-after-tables): `SELECT * FROM (scope 0) AS d, t` lists t's columns first -/
theorem star_order_tables_first_witness :
    (match qualifyScope g0 σ0 [["c"]] { outer := [], joins := [], srcs := [⟨.scope 0 true, some "d"⟩, tSrc], projs := [.star none []], whr := none, group := [], having := none, order := [] } with
     | .ok s' => outNames s'.projs == ["a", "b", "c"]
     | _ => false) = true := by decide +kernel

/-- **unresolved_raises** (via the final validation).  A scope is never returned with a column in its projections,
    WHERE or GROUP BY that lacks a source, or that names a source which is not one of the scope's aliases:
    if such a column would remain, the outcome is an error.  (Contrapositive of `qualify_complete`, spelled out
    for WHERE.) -/
theorem unresolved_raises (g : Gen) (σ : Schema) (outs : List (List String)) (s s' : Scope) (e : Expr)
    (h : qualifyScope g σ outs s = .ok s') (hw : s'.whr = some e) :
    ∃ names : List String, visible names [] e = true ∧ ∀ n ∈ names, some n ∈ s'.srcs.map (·.alias) := by
  obtain ⟨_, _, names, hv, hn⟩ := qualifyScope_complete h
  exact ⟨names, validate_whr hv hw, hn⟩

/-- concretely: an unknown name in WHERE, an ambiguous name, an unknown qualified column and a duplicate alias
    all raise (finite witnesses, decided by evaluation) -/
theorem unresolved_raises_witnesses :
    (isOptErr (qualifyScope g0 σ0 [] (sc1 [tSrc] (.col none "zzz")))
    && isOptErr (qualifyScope g0 σ0 [] (sc1 [tSrc, uSrc] (.col none "b")))
    && isOptErr (qualifyScope g0 σ0 [] (sc1 [tSrc] (.col (some "t") "c")))
    && isOptErr (qualifyScope g0 σ0 [] (sc1 [tSrc] (.col (some "u") "c")))
    && isOptErr (qualifyScope g0 σ0 [] (sc1 [⟨.table ["t"], some "x"⟩, ⟨.table ["u"], some "x"⟩] (.lit 1)))) = true := by
  decide +kernel

/-- **qualify_idempotent** (one scope, whole pipeline A–G).  If qualification returns `s'`, the stars of `s'` were
    expanded and no bare name is left under its HAVING, then qualifying `s'` again (same schema, same child
    outputs) returns exactly `s'`.  The two premises are stated on the RESULT and are the complement of
    (i) the documented "source with unknown / duplicate columns: keep the star" case — not covered by the proof,
    checked by correspondence — (i') a first pass over USING / NATURAL joins (`hasMerge`; the generated ON
    conditions are not re-checked by the code on that pass, see known finding
    C10-using-column-missing-on-left-not-checked-first-pass; covered by correspondence, second application) and (ii) known findings C10-having-bare-name-unvalidated / -not-idempotent
    (`having_bare_not_idempotent_counterexample` below shows (ii) is needed).
    The name-level model identifies `Column` nodes that differ only in quoted flags, which is what the code sees
    on every second pass (all identifiers quoted) and on a first pass over uniformly quoted text; the
    quoted-flag-dependent ORDER BY rewrite (known finding C10-order-by-alias-quoted-source-not-idempotent) is
    outside what a name-level model can express and is excluded from the correspondence stream. -/
theorem qualify_idempotent_scope (g : Gen) (σ : Schema) (outs : List (List String)) (s s' : Scope)
    (h : qualifyScope g σ outs s = .ok s') (hm : hasMerge s.joins = false) (hr : Resolved s') :
    qualifyScope g σ outs s' = .ok s' :=
  qualifyScope_fixed h hm hr

/-- **qualify_idempotent** for a whole flattened query (any number of scopes): the child outputs seen by each
    scope are the same on the second pass because each scope is returned unchanged. -/
theorem qualify_idempotent (g : Gen) (σ : Schema) (q q' : List Scope)
    (h : qualifyModel g σ q = .ok q') (hm : ∀ s ∈ q, hasMerge s.joins = false) (hr : ∀ s' ∈ q', Resolved s') :
    qualifyModel g σ q' = .ok q' :=
  qualifyFrom_fixed q [] q' h hm hr

/-- non-vacuity: the result of `SELECT a + 1 AS x, * FROM t WHERE x > 1 GROUP BY 1 HAVING a > 0 ORDER BY 2` is `Resolved` -/
example : (match qualifyModel g0 σ0 [{ outer := [], joins := [], srcs := [tSrc], projs := [.item (.bin .add (.col none "a") (.lit 1)) (some "x"), .star none []], whr := some (.bin .gt (.col none "x") (.lit 1)), group := [.lit 1], having := some (.bin .gt (.col none "a") (.lit 0)), order := [.lit 2] }] with
    | .ok [s'] => !hasStar s'.projs && (match s'.having with | some e => noBare e | none => true)
    | _ => false) = true := by decide +kernel

/-- premise (ii) is needed: `SELECT a + 1 FROM t GROUP BY a HAVING _col_0 > 1` is returned with the bare name
    `_col_0` under HAVING (nothing validates it), and the second pass — where `_col_0` has become a projection
    alias — expands it: the model is NOT idempotent there, exactly as the real code. -/
theorem having_bare_not_idempotent_counterexample :
    (match qualifyModel g0 σ0 [{ outer := [], joins := [], srcs := [tSrc], projs := [.item (.bin .add (.col none "a") (.lit 1)) none], whr := none, group := [.col none "a"], having := some (.bin .gt (.col none "_col_0") (.lit 1)), order := [] }] with
    | .ok q' => (match qualifyModel g0 σ0 q' with
        | .ok q'' => q'' != q' && (q''.map (·.having)) == [some (.bin .gt (.paren (.bin .add (.col (some "t") "a") (.lit 1))) (.lit 1))]
        | _ => false)
    | _ => false) = true := by decide +kernel

/-- **what `validate_qualify_columns` sees.**  Every column of the projections, WHERE and GROUP BY must name one
    of the scope's aliases; in ORDER BY bare names equal to an output name are exempt; under HAVING only QUALIFIED
    references are seen at all — a bare name there is invisible to validation (and to `_qualify_columns`). -/
theorem validate_sees (names : List String) (s : Scope) :
    validate names s = true ↔
      (∀ p ∈ s.projs, projVisible names p = true)
      ∧ (∀ e, s.whr = some e → visible names [] e = true)
      ∧ (∀ e ∈ s.group, visible names [] e = true)
      ∧ (∀ e, s.having = some e → visibleHaving names e = true)
      ∧ (∀ e ∈ s.order, visible names (namedSelects s.projs) e = true)
      ∧ (∀ j ∈ s.joins, ∀ e, j.on = some e → visible names [] e = true) :=
  validate_iff names s

/-- HAVING is checked strictly less than WHERE: whatever passes the WHERE test passes the HAVING test, and a bare
    name — which the WHERE test rejects — always passes it -/
theorem validate_having_blind_to_bare_names (names : List String) (n : String) :
    visibleHaving names (.col none n) = true ∧ visible names [] (.col none n) = false
    ∧ ∀ e, visible names [] e = true → visibleHaving names e = true :=
  ⟨rfl, rfl, fun e h => ((visible_iff_having names e).mp h).1⟩

/-- **qualify_idempotent, partial.**  On a fully aliased projection list (what the first pass leaves when its stars
    were expanded: `qualify_idempotent_all_partial`) and on an expression without a bare column (what `validate`
    demands outside ORDER BY and HAVING) the second pass's alias expansion (C), star expansion (D) and output
    qualification (E) are identities.  The same for column resolution (B: needs that every `t.c` kept by the first
    pass has `c` among `t`'s columns) and positional / ORDER BY rewriting (F) rests on what the first pass
    establishes: `qualify_idempotent_scope`. -/
theorem qualify_idempotent_partial (cn : Nat → String) (env : Env) (m : AMap) (cl : Clause) (names : List String)
    (ps : List Proj) (hps : AllAliased ps) :
    (∀ (e : Expr) (ctx : Ctx), visible names [] e = true → expand env m cl ctx e = e)
    ∧ expandStars env ps = .ok ps
    ∧ qualifyOutputs cn 0 [] ps = ps :=
  ⟨fun e ctx h => expand_fixed env m cl names e ctx h, expandStars_fixed env ps hps, qualifyOutputs_fixed cn ps hps 0⟩

/-- and the first pass does produce that form: after `qualify_outputs`, a star-free projection list is fully aliased -/
theorem qualify_idempotent_all_partial (cn : Nat → String) (ps : List Proj) (outer : List String)
    (h : hasStar ps = false) : AllAliased (qualifyOutputs cn 0 outer ps) :=
  qualifyOutputs_allAliased cn ps 0 outer h

/-- concrete second application (decided by evaluation): the result of the non-vacuity example re-qualifies to itself -/
example : (match qualifyModel g0 σ0 [{ outer := [], joins := [], srcs := [tSrc], projs := [.item (.bin .add (.col none "a") (.lit 1)) (some "x"), .star none []], whr := some (.bin .gt (.col none "x") (.lit 1)), group := [.lit 1], having := none, order := [.lit 2] }] with
    | .ok q' => (match qualifyModel g0 σ0 q' with | .ok q'' => q'' == q' | _ => false)
    | _ => false) = true := by decide +kernel

/-- **output_names_preserved** (one scope, whole pipeline).  Independent SPEC of the output names: replace each star
    by its sources' columns (minus its EXCEPT list; `references` × schema order), take the alias if there is one, else
    the name of the expression (a column's name, a literal's text), else `_col_i` by position; an outer column list
    (CTE / derived-table alias columns) overrides position by position.  If qualification succeeds with its stars
    expanded, the output names are exactly that — provided no UNALIASED projection is headed by a bare name that
    resolves to no source (`NamesStable`; such a projection can only be a reference to an earlier alias, which the code
    replaces by the aliased expression and renames: `alias_ref_projection_renamed_counterexample`, a known finding).
    Scopes with USING / NATURAL joins are not covered by this proof (checked by correspondence and the search oracle). -/
theorem output_names_preserved (g : Gen) (σ : Schema) (outs : List (List String)) (s s' : Scope)
    (h : qualifyScope g σ outs s = .ok s') (hm : hasMerge s.joins = false) (hstar : hasStar s'.projs = false) :
    ∃ srcs' env0, mkEnv g σ outs s.srcs = some (srcs', env0) ∧
      (NamesStable (refOrder env0) s.projs →
        outNames s'.projs = overlay s.outer (nameAll g.colName 0 (expandSpec (refOrder env0) s.projs))) := by
  obtain ⟨env0, hme, hb, -⟩ := qualifyScope_run h
  exact ⟨_, env0, hme, buildCore_names ((buildScope_noMerge_ok_iff _ _ _ s s' hm).mp hb).2 hstar⟩

/-- non-vacuity: `SELECT a AS x, *, b + 1, u.c FROM t, u` with outer column list (p) over t(a,b), u(b,c) is `NamesStable` and
    gets the names p, a, b, b, c, _col_5, c -/
example : (match qualifyScope g0 σ0 [] { outer := ["p"], joins := [], srcs := [tSrc, uSrc], projs := [.item (.col none "a") (some "x"), .star none [], .item (.bin .add (.col (some "t") "b") (.lit 1)) none, .item (.col (some "u") "c") none], whr := none, group := [], having := none, order := [] } with
    | .ok s' => outNames s'.projs == ["p", "a", "b", "b", "c", "_col_5", "c"]
        && overlay ["p"] (nameAll g0.colName 0 (expandSpec [("t", ["a", "b"]), ("u", ["b", "c"])] [.item (.col none "a") (some "x"), .star none [], .item (.bin .add (.col (some "t") "b") (.lit 1)) none, .item (.col (some "u") "c") none])) == ["p", "a", "b", "b", "c", "_col_5", "c"]
    | _ => false) = true := by decide +kernel

/-- **output names, partial.**  `qualify_outputs` names a projection by its alias if it has one, else by its column
    name, else `_col_i`; an outer column list overrides position by position. -/
theorem output_names_partial (cn : Nat → String) (e : Expr) (a : String) (i : Nat) (ps : List Proj) :
    qualifyOutputs cn i [] (.item e (some a) :: ps) = .item e (some a) :: qualifyOutputs cn (i + 1) [] ps
    ∧ qualifyOutputs cn i [] (.item (.col (some "t") a) none :: ps)
        = .item (.col (some "t") a) (some (if a == "" then cn i else a)) :: qualifyOutputs cn (i + 1) [] ps
    ∧ ∀ o os, qualifyOutputs cn i (o :: os) (.item e none :: ps) = .item e (some o) :: qualifyOutputs cn (i + 1) os ps :=
  ⟨rfl, rfl, fun _ _ => rfl⟩

/-- counter-example to the FULL statement (known finding C10-alias-ref-projection-renamed): in
    `SELECT a AS x, x FROM t` the second projection is a bare reference to the alias `x`; alias expansion replaces it
    by `t.a` and `qualify_outputs` then names it `a`: the output names change from [x, x] to [x, a]. -/
theorem alias_ref_projection_renamed_counterexample :
    (match qualifyScope g0 σ0 [] { outer := [], joins := [], srcs := [tSrc], projs := [.item (.col none "a") (some "x"), .item (.col none "x") none], whr := none, group := [], having := none, order := [] } with
     | .ok s' => outNames s'.projs == ["x", "a"]
     | _ => false) = true := by decide +kernel

/-- counter-example to the FULL statement (known finding C10-having-bare-name-unvalidated): a bare name in HAVING
    that resolves to nothing survives qualification (`SELECT a FROM t GROUP BY a HAVING zzz > 1`) -/
theorem having_bare_counterexample :
    (match qualifyScope g0 σ0 [] { outer := [], joins := [], srcs := [tSrc], projs := [.item (.col none "a") none], whr := none, group := [.col none "a"], having := some (.bin .gt (.col none "zzz") (.lit 1)), order := [] } with
     | .ok s' => s'.having == some (.bin .gt (.col none "zzz") (.lit 1))
     | _ => false) = true := by decide +kernel

end SqlglotModel.Properties.C10
