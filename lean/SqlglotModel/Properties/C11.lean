/-
  C11 — The Python executor returns what a reference SQL engine returns (modelled fragment: the algorithmic core).
  Only property theorems, non-vacuity examples and witnesses live here; lemmas are in Proofs/ExecBase,
  ExecOrder, ExecLogic, ExecAgg, ExecJoin, Exec, ExecStep and ExecPlan, stated for any configuration that is `Cfg.Ok`.
  Every theorem is about the configuration `Generated.C11.cfg` that vf/props/c11.py re-extracts from
  sqlglot/executor/env.py and python.py on every run; it is `stdCfg` (`generated_cfg_ok`), hence `Cfg.Ok`
  (`generated_cfg_std`), and that is the one place where the extracted constants enter.  Seven of the theorems
  (`ordered_key_spec`, `sort_step_spec`, `subquery_comparison_spec`, `nested_loop_join_spec`, `aggregate_runs_spec`,
  `aggregate_empty_spec`, `agg_functions_spec`) also stand in Proofs/ under the same names in the namespace `Exec`, as
  the instances at `stdCfg` of the same lemmas: nothing here goes through those, and a bare name below is the theorem
  of this file.
  Partial: the planner / executor composition is modelled and proved only for the single-table fragment
  (`single_table_query_spec`); joins, set operations, subqueries as plans, PythonGenerator beyond the predicate
  fragment, Context and optimize() are checked end-to-end against SQLite and DuckDB by the search oracle only.
-/
import SqlglotModel.Proofs.ExecPlan
import SqlglotModel.Proofs.ExecJoin
import SqlglotModel.Generated.C11

namespace SqlglotModel.Properties.C11
open SqlglotModel.Sem SqlglotModel.Exec
open SqlglotModel.Generated.C11 (cfg envIdentity widenForm subqueryEnv subqCmpWrapped subqueryArgs)

/-- finite table fact (decided completely): the constants, index offsets, side sets, empty_null flags and operator
    lambdas extracted from the current source are the ones the theorems below are proved for -/
theorem generated_cfg_ok : cfg = stdCfg := rfl

/-- so they are the constants the proofs ask of a configuration -/
theorem generated_cfg_std : cfg.Ok := generated_cfg_ok ▸ stdCfg_ok

/-- finite table fact: ENV binds AND/OR/NOT/IN/ORDERED/SUM/MIN/MAX/COUNT to the mirrored functions -/
theorem generated_env_identity_ok :
    envIdentity = [("AND", "sql_and"), ("COUNT", "count_lambda"), ("IN", "sql_in"), ("MAX", "max"), ("MIN", "min"),
      ("NOT", "sql_not"), ("OR", "sql_or"), ("ORDERED", "ordered"), ("SUM", "sum")] := rfl

/-- finite decision table (all 9 + 3 entries, decided completely): on None/True/False sql_and, sql_or, sql_not
    are Kleene's connectives -/
theorem and_or_not_kleene_table :
    (∀ x y : Tri, sqlAnd (triVal x) (triVal y) = triVal (and3 x y) ∧ sqlOr (triVal x) (triVal y) = triVal (or3 x y))
    ∧ (∀ x : Tri, sqlNot (triVal x) = triVal (not3 x)) := by
  decide

/-- for ALL Python values (any int / str / bool / None operands): sql_and / sql_or / sql_not / sql_in compute the
    Kleene connectives of the operands' truth values, and IN is the disjunction of equalities -/
theorem and_or_not_in_kleene (a b : Val) (cs : List Val) (hcs : cs ≠ []) :
    toTri (sqlAnd a b) = and3 (toTri a) (toTri b)
    ∧ toTri (sqlOr a b) = or3 (toTri a) (toTri b)
    ∧ toTri (sqlNot a) = not3 (toTri a)
    ∧ toTri (sqlIn a cs) = in3 a cs :=
  ⟨sqlAnd_spec a b, sqlOr_spec a b, sqlNot_spec a, sqlIn_spec a cs hcs⟩

example : toTri (sqlIn (.int 1) [.int 2, .null]) = none := by decide
/-- `NULL IN ()` would be NULL in the executor and FALSE as an empty disjunction: not SQL, excluded by `cs ≠ []` -/
theorem sql_in_empty_list_witness : toTri (sqlIn .null []) ≠ in3 .null [] := by decide

/-- null_if_any(lambda a, b: a OP b) for the six comparison entries of ENV is SQL's three-valued comparison -/
theorem null_if_any_cmp_spec (op : CmpOp) (a b : Val) :
    envBin cfg (cmpName op) a b = some (triVal (cmp3 op a b)) :=
  envBin_cmp generated_cfg_std op a b

example : envBin cfg "EQ" .null (.int 1) = some .null := by decide +kernel

/-- the Python expression PythonGenerator emits for a predicate of the fragment evaluates to its SQL value -/
theorem eval_kleene (row : Row) (e : Expr) (h : wfExpr e) : SqlglotModel.Exec.eval cfg row e = some (Sem.eval row e) :=
  eval_spec generated_cfg_std row e h

example : wfExpr (.and (.cmp .lt (.col 0) (.lit (.int 3))) (.not (.inList (.col 1) [.null, .int 2]))) :=
  ⟨⟨trivial, trivial⟩, trivial, by simp⟩

/-- filter_nulls + SUM/COUNT/MIN/MAX: NULLs ignored; COUNT of nothing 0; SUM/MIN/MAX of nothing NULL; MIN/MAX extremal -/
theorem agg_functions_spec (vs : List Val) :
    envCount cfg vs = aggCount vs
    ∧ envSum cfg vs = aggSum vs
    ∧ (nonNull vs = [] → envMin cfg vs = .null ∧ envMax cfg vs = .null)
    ∧ (nonNull vs ≠ [] → IsExtremum .lt (nonNull vs) (envMin cfg vs) ∧ IsExtremum .gt (nonNull vs) (envMax cfg vs)) :=
  env_aggs_spec generated_cfg_std vs

example : envSum cfg [.null, .null] = .null ∧ envCount cfg [.null, .null] = .int 0 := by decide +kernel

/-- comparing two `ordered(v, desc, nulls_first)` tuples the way Python compares tuples never raises and is the
    ORDER BY comparison (NULLS FIRST/LAST, DESC through reverse_key) -/
theorem ordered_key_spec (a b : Val) (desc nf : Bool) :
    tupleCmp (ordered cfg a desc nf) (ordered cfg b desc nf) = some (cmpKey desc nf a b) :=
  ordered_key_cmp cfg generated_cfg_std.first_lt_last a b desc nf

/-- nested_loop_join = the reference join, for all four sides, all row lists (empty ones included), same order.
    Hypotheses: rows have their table's width (what `Table.append` asserts). -/
theorem nested_loop_join_spec (side : Side) (m : Row → Row → Bool) (wS wJ : Nat) (L R : List Row)
    (hL : ∀ l ∈ L, l.length = wS) (hR : ∀ r ∈ R, r.length = wJ) :
    nestedLoopJoin cfg (sideStr side) (wS + wJ) m L R = join side m wS wJ L R :=
  nestedLoopJoin_eq_join generated_cfg_std side m wS wJ L R hL hR

example : (∀ l ∈ ([[.int 1], [.null]] : List Row), l.length = 1) := by simp

/-- hash_join (buckets keyed by the non-NULL key tuples, product per bucket, residual condition, unmatched rows)
    is a permutation of nested_loop_join on `keys equal AND residual`, for every side string and all row lists -/
theorem hash_join_perm_nested (side : String) (width : Nat) (ks kj : Row → Key) (cond : Option (Row → Val))
    (L R : List Row) :
    List.Perm (hashJoin cfg side width ks kj cond L R)
      (nestedLoopJoin cfg side width (fun l r => keyMatch ks kj l r && joinMatches cond (l ++ r)) L R) :=
  SqlglotModel.Exec.hash_join_perm_nested cfg side width ks kj cond L R

/-- hence hash_join returns the reference join's bag of rows -/
theorem hash_join_spec (side : Side) (ks kj : Row → Key) (cond : Option (Row → Val)) (wS wJ : Nat) (L R : List Row)
    (hL : ∀ l ∈ L, l.length = wS) (hR : ∀ r ∈ R, r.length = wJ) :
    List.Perm (hashJoin cfg (sideStr side) (wS + wJ) ks kj cond L R)
      (join side (fun l r => keyMatch ks kj l r && joinMatches cond (l ++ r)) wS wJ L R) := by
  rw [← nested_loop_join_spec side _ wS wJ L R hL hR]
  exact hash_join_perm_nested _ _ ks kj cond L R

/-- aggregate()'s index loop (start/end arithmetic of the current source) emits each maximal run of equal keys
    exactly once, in order, with the aggregates of exactly that run's rows; all non-empty row lists -/
theorem aggregate_runs_spec (keyOf : Row → Key) (agg : List Row → Row) (rows : List Row) (hne : rows ≠ [])
    (hasGroupBy : Bool) (limit : Option Nat) :
    aggregateSorted cfg keyOf agg hasGroupBy none limit rows = emitRuns agg (runs keyOf rows) :=
  aggregateSorted_runs generated_cfg_std keyOf agg rows hne hasGroupBy none limit

/-- … and over the empty input: one row of aggregates without GROUP BY, none with GROUP BY -/
theorem aggregate_empty_spec (keyOf : Row → Key) (agg : List Row → Row) (cap : Option Nat) :
    aggregateSorted cfg keyOf agg false cap none [] = globalAgg agg []
    ∧ aggregateSorted cfg keyOf agg true cap none [] = groupAgg keyOf agg [] :=
  ⟨rfl, rfl⟩

/-- on a list in which every key forms one run (`Clustered`: what `context.sort(group_by)` is there to establish)
    the loop's output is GROUP BY of the reference semantics: one row per distinct key (NULL keys grouped together),
    aggregates over exactly the rows of that key.  That `sortByGroupKey` yields a `Clustered` list is
    `sort_by_group_key_clusters`; the composed model `aggregate` is also compared with the real aggregate() on
    generated tables and the reference GROUP BY with SQLite/DuckDB on every run. -/
theorem aggregate_groups_spec (keyOf : Row → Key) (agg : List Row → Row) (rows : List Row) (hne : rows ≠ [])
    (hc : Clustered keyOf rows) (hasGroupBy : Bool) (limit : Option Nat) :
    aggregateSorted cfg keyOf agg hasGroupBy none limit rows = groupAgg keyOf agg rows := by
  rw [aggregate_runs_spec keyOf agg rows hne hasGroupBy limit]
  exact runs_groups keyOf agg rows hc

example : Clustered (fun r => r.take 1) [[.int 1, .int 5], [.int 1, .null], [.null, .int 2], [.int 2, .int 2]] := by
  unfold Clustered; decide +kernel
/-- an unsorted input is not clustered, and there the loop really differs from GROUP BY (why aggregate() sorts first) -/
theorem unsorted_not_clustered_witness :
    ¬ Clustered (fun r => r.take 1) [[.int 1], [.int 2], [.int 1]]
    ∧ aggregateSorted cfg (fun r => r.take 1) (fun rs => [.int rs.length]) true none none [[.int 1], [.int 2], [.int 1]]
      ≠ groupAgg (fun r => r.take 1) (fun rs => [.int rs.length]) [[.int 1], [.int 2], [.int 1]] := by
  unfold Clustered; decide +kernel

/-- set_operation(): every row's multiplicity in the output is the SQL one (INTERSECT/EXCEPT [ALL], UNION [ALL];
    NULLs compare equal), for all row lists -/
theorem set_operation_spec (l r : List Row) (x : Row) :
    List.count x (setOperation .intersect false l r) = multIntersectAll (List.count x l) (List.count x r)
    ∧ List.count x (setOperation .intersect true l r) = multIntersect (List.count x l) (List.count x r)
    ∧ List.count x (setOperation .except false l r) = multExceptAll (List.count x l) (List.count x r)
    ∧ List.count x (setOperation .except true l r) = multExcept (List.count x l) (List.count x r)
    ∧ List.count x (setOperation .union false l r) = multUnionAll (List.count x l) (List.count x r)
    ∧ List.count x (setOperation .union true l r) = multUnion (List.count x l) (List.count x r) :=
  SqlglotModel.Exec.set_operation_spec l r x

/-- the Sort step is ORDER BY … LIMIT … OFFSET of the reference semantics (stable sort by the ORDER BY comparison,
    then the slice); its output before slicing is a permutation of its input -/
theorem sort_step_spec (items : List OrdItem) (limit : Option Nat) (offset : Nat) (rows : List Row) :
    sortStep cfg items limit offset rows = orderBy (semItems items) limit offset rows
    ∧ List.Perm (sortRows cfg items rows) rows :=
  ⟨sortStep_eq_orderBy generated_cfg_std items limit offset rows, sort_rows_perm _ items rows⟩

/-- `context.sort(group_by)` (the model's stable sort by the key `(t is None, t)`) puts every key into one run -/
theorem sort_by_group_key_clusters (keyOf : Row → Key) (rows : List Row) :
    Clustered keyOf (sortByGroupKey keyOf rows) ∧ List.Perm (sortByGroupKey keyOf rows) rows :=
  ⟨sortByGroupKey_clustered keyOf rows, sortByGroupKey_perm keyOf rows⟩

/-- aggregate() as a whole (its own sort, then the run loop), unconditional: the GROUP BY of the reference semantics,
    in key order; as a bag it is the GROUP BY of the unsorted input whenever the aggregates depend on the bag of their
    inputs only (which the ENV aggregates do: `env_aggs_perm_invariant`) -/
theorem aggregate_spec (keyOf : Row → Key) (agg : List Row → Row) (rows : List Row) (hne : rows ≠ []) (hasGroupBy : Bool)
    (hagg : ∀ a b, List.Perm a b → agg a = agg b) :
    aggregate cfg keyOf agg hasGroupBy none none rows = groupAgg keyOf agg (sortByGroupKey keyOf rows)
    ∧ List.Perm (aggregate cfg keyOf agg hasGroupBy none none rows) (groupAgg keyOf agg rows) := by
  rw [aggregate_eq generated_cfg_std]
  exact ⟨if_neg hne, aggTbl_perm keyOf agg hagg hasGroupBy rows hne⟩

theorem env_aggs_perm_invariant (vs ws : List Val) (h : List.Perm vs ws) :
    envCount cfg vs = envCount cfg ws ∧ envSum cfg vs = envSum cfg ws
    ∧ envMin cfg vs = envMin cfg ws ∧ envMax cfg vs = envMax cfg ws :=
  env_aggs_perm generated_cfg_std vs ws h

/-- the `len(table.rows) >= offset + limit` break inside aggregate()'s loop: exactly the first `cap` groups -/
theorem aggregate_limit_spec (keyOf : Row → Key) (agg : List Row → Row) (rows : List Row) (hne : rows ≠ [])
    (hasGroupBy : Bool) (cap : Nat) (limit : Option Nat) :
    aggregateSorted cfg keyOf agg hasGroupBy (some cap) limit rows = (emitRuns agg (runs keyOf rows)).take cap :=
  aggregateSorted_runs generated_cfg_std keyOf agg rows hne hasGroupBy (some cap) limit

/-- `v op ANY (subquery)` / `v op ALL (subquery)`: _subquery_comparison's early-exit loop with its saw_null flag is
    the Kleene disjunction / conjunction of the comparisons, for all value lists (empty: FALSE / TRUE) -/
theorem subquery_comparison_spec (op : CmpOp) (v : Val) (xs : List Val) :
    subqueryComparison cfg (cmpName op) "ANY" v xs = some (triVal (any3 op v xs))
    ∧ subqueryComparison cfg (cmpName op) "ALL" v xs = some (triVal (all3 op v xs)) :=
  subqueryComparison_eq generated_cfg_std op v xs

example : subqueryComparison cfg "GT" "ALL" (.int 3) [.int 1, .null] = some .null := by decide +kernel

/-- scan / static / _project_and_filter (condition with Python truthiness, projection, the `len(sink) >= offset +
    limit` break) and `_execute`'s offset slice: SELECT … WHERE … LIMIT … OFFSET … of the reference semantics -/
theorem scan_spec (src : ScanSource) (cond : Option (Row → Val)) (projs : Option (Row → Row)) (limit : Option Nat) (offset : Nat) :
    scan src cond projs (capOf limit offset)
      = takeCap (capOf limit offset) (selectWhere cond projs (match src with | .static => [[]] | .table rows => rows))
    ∧ applyOffset offset (scan src cond projs (capOf limit offset))
      = limitOffset limit offset (selectWhere cond projs (match src with | .static => [[]] | .table rows => rows)) :=
  ⟨SqlglotModel.Exec.scan_spec src cond projs _, scan_limit_offset_spec src cond projs limit offset⟩

/-- **The planner + executor composition on the single-table fragment.**  `plan` mirrors Step.from_expression (tied
    to the real one by comparing Step DAGs on generated queries), `exec` mirrors `_execute` / join / aggregate / sort
    with RowReader's by-name column resolution.  For every well-formed query (`QWF`) and every table whose rows have
    the table's width, executing the plan returns the reference answer `Sem.Query.eval`: the output names; the same bag
    of rows without ORDER BY; the same SEQUENCE under a total ORDER BY, and always for a query without aggregation.

    Known executor / planner defects INSIDE this fragment are excluded by `QWF` and witnessed below:
    `noDistinctOrder` (`distinct_order_counterexample`), `aliasesNodup` (`duplicate_output_names_counterexample`),
    `noShadow` (`alias_shadow_counterexample`, found while building this model).  Known defects OUTSIDE the fragment
    (not expressible in `Sem.Query`): computed aggregate operands over a join, set-operation arms sharing an alias,
    ORDER BY a column over a join, HAVING / a projection mixing a bare group key with an aggregate (both become one
    aggregation that reads the key through the range reader: the model has no such object), and the optimizer rules. -/
theorem single_table_query_spec (q : Query) (rows : List Row) (h : QWF q) (hrows : ∀ r ∈ rows, r.length = q.cols.length) :
    ∃ out, exec cfg ⟨q.cols, rows⟩ (plan q) = some ⟨q.outs.map Out.alias, out⟩
      ∧ (q.order = [] → List.Perm out (q.eval rows))
      ∧ (q.order ≠ [] → TotalOn q (q.body rows) → out = q.eval rows)
      ∧ (q.group = none → q.distinct = false → out = q.eval rows) :=
  exec_plan_spec generated_cfg_std q rows h hrows

/-- an ORDER BY that mentions every output column is total -/
theorem order_by_all_outputs_total (q : Query) (rows : List Row) (hall : ∀ p, p < q.outs.length → ∃ it ∈ q.order, it.1 = p) :
    TotalOn q (q.body rows) :=
  total_of_all_positions q _ (fun x hx => body_len q rows x hx) hall

/-- non-vacuity: SELECT DISTINCT COALESCE-free version of the seeded planner regression's query shape,
    `SELECT DISTINCT a AS k, SUM(b) AS s FROM x WHERE b > 0 GROUP BY a, c HAVING MIN(b) > 0` is well-formed -/
def exampleQuery : Query where
  cols := ["a", "b", "c"]
  where_ := some (.cmp .gt (.col 1) (.lit (.int 0)))
  group := some [0, 2]
  outs := [.col 0 "k", .agg .sum 1 "s"]
  having := some ⟨.min, 1, .gt, .int 0⟩
  distinct := true
  order := []
  limit := none
  offset := 0

example : QWF exampleQuery where
  colsNodup := by decide
  srcInRange := by decide
  outsNonempty := by decide
  whereWF := by intro e he; cases he; exact ⟨trivial, trivial⟩
  aliasesNodup := by decide
  noDistinctOrder := fun _ => rfl
  limitNeedsOrder := fun _ => ⟨rfl, rfl⟩
  orderInRange := by intro it hit; cases hit
  plainCols := by intro hg; cases hg
  noShadow := by intro hg; cases hg
  grouped := by
    intro keys hk
    cases hk
    refine ⟨by decide, by decide, by decide, ?_, by decide +kernel⟩
    intro hv hh; cases hh; decide

def distinctOrderQuery : Query where
  cols := ["b"]
  where_ := none
  group := none
  outs := [.col 0 "b"]
  having := none
  distinct := true
  order := [(0, true, false)]
  limit := none
  offset := 0

/-- KNOWN DEFECT (C11-distinct-drops-order), inside the fragment: SELECT DISTINCT b FROM x ORDER BY b DESC over
    b ∈ {0, 1}.  The DISTINCT Aggregate step sits above the Sort and re-sorts by the group key: the plan returns
    [0, 1], the reference answer is the sequence [1, 0] (the ORDER BY is total).  Hence `QWF.noDistinctOrder`. -/
theorem distinct_order_counterexample :
    exec cfg ⟨["b"], [[.int 0], [.int 1]]⟩ (plan distinctOrderQuery) = some ⟨["b"], [[.int 0], [.int 1]]⟩
    ∧ distinctOrderQuery.eval [[.int 0], [.int 1]] = [[.int 1], [.int 0]] := by
  decide +kernel

def duplicateNamesQuery : Query where
  cols := ["a", "b"]
  where_ := none
  group := none
  outs := [.col 0 "p", .col 1 "p"]
  having := none
  distinct := true
  order := []
  limit := none
  offset := 0

/-- KNOWN DEFECT (C11-duplicate-output-names), inside the fragment: SELECT DISTINCT a AS p, b AS p over {(1, 2)}: the
    DISTINCT step's group dict is keyed by the output name, one column is lost.  Hence `QWF.aliasesNodup`. -/
theorem duplicate_output_names_counterexample :
    exec cfg ⟨["a", "b"], [[.int 1, .int 2]]⟩ (plan duplicateNamesQuery) = some ⟨["p"], [[.int 2]]⟩
    ∧ duplicateNamesQuery.eval [[.int 1, .int 2]] = [[.int 1, .int 2]] := by
  decide +kernel

def aliasShadowQuery : Query where
  cols := ["a", "b"]
  where_ := none
  group := none
  outs := [.col 0 "b", .col 1 "q"]
  having := none
  distinct := false
  order := [(1, false, false)]
  limit := none
  offset := 0

/-- DEFECT found with this model (C11-alias-shadows-order-column), inside the fragment:
    SELECT a AS b, b AS q FROM x ORDER BY x.b over {(1, 2), (2, 1)}.  The Sort sink's columns are the table's columns
    followed by the output aliases and RowReader resolves "b" to the LAST column of that name: the alias, i.e. `a`.
    The plan sorts by `a` and returns [(1,2),(2,1)]; the reference answer is [(2,1),(1,2)].  Hence `QWF.noShadow`. -/
theorem alias_shadow_counterexample :
    exec cfg ⟨["a", "b"], [[.int 1, .int 2], [.int 2, .int 1]]⟩ (plan aliasShadowQuery)
      = some ⟨["b", "q"], [[.int 1, .int 2], [.int 2, .int 1]]⟩
    ∧ aliasShadowQuery.eval [[.int 1, .int 2], [.int 2, .int 1]] = [[.int 2, .int 1], [.int 1, .int 2]] := by
  decide +kernel

/-! ## aliasing: join() shares one rows list between its tables; aggregate() must widen it in place -/

/-- pinned from the source (ast of aggregate()): the operand columns are attached by subscript stores
    `context.table.rows[i] = a + b`, not by rebinding `context.table.rows` -/
theorem generated_widen_form_ok : widenForm = .subscriptStore := by decide

/-- with that form, after aggregate()'s widening and its in-place group-key sort EVERY table of the join context reads
    the same list — the widened rows, sorted — for all row lists, operand lists and any number of joined tables; so a
    group key or aggregate argument taken from any joined table is paired with the right row -/
theorem aggregate_views_consistent (rows ops : List Row) (n : Nat) (keyOf : Row → Key) (v : Nat) (hv : v < n) :
    (((Heap.ofJoin rows n).widen widenForm ops).sortInPlace keyOf).read v = sortByGroupKey keyOf (widened rows ops) := by
  rw [generated_widen_form_ok]
  exact SqlglotModel.Exec.aggregate_views_consistent rows ops n keyOf v hv (Nat.zero_lt_of_lt hv)

/-- witness: rebinding the first table's `rows` attribute instead (`context.table.rows = [a + b …]`) leaves the other
    tables of the join on the old list object: the second table still reads the unwidened, unsorted rows -/
theorem rebind_breaks_views_witness :
    (((Heap.ofJoin [[.int 2], [.int 1]] 2).widen .attributeRebind [[.int 20], [.int 10]]).sortInPlace (fun r => r.take 1)).read 0
      = [[.int 1, .int 10], [.int 2, .int 20]]
    ∧ (((Heap.ofJoin [[.int 2], [.int 1]] 2).widen .attributeRebind [[.int 20], [.int 10]]).sortInPlace (fun r => r.take 1)).read 1
      = [[.int 2], [.int 1]] := by
  decide +kernel

/-- the reference semantics on the empty result: NOT IN and ALL are TRUE, IN and ANY FALSE — for EVERY probe, NULL included -/
theorem quantified_empty (op : CmpOp) (v : Val) :
    notInSub v [] = some true ∧ all3 op v [] = some true ∧ inSub v [] = some false ∧ any3 op v [] = some false :=
  ⟨not_in_empty_true v, all_empty_true op v, in_empty_false v, any_empty_false op v⟩

/-- a NULL probe against a non-empty result is UNKNOWN -/
theorem quantified_null_probe (op : CmpOp) (xs : List Val) (h : xs ≠ []) : any3 op .null xs = none ∧ all3 op .null xs = none :=
  null_probe_unknown op xs h

/-- IN is ∃ under 3VL: TRUE iff an element matches; with a NULL in the result it is never FALSE -/
theorem in_subquery_3vl (v : Val) (xs : List Val) :
    (inSub v xs = some true ↔ (v ≠ .null ∧ v ∈ xs))
    ∧ (inSub v xs = some false ↔ (xs = [] ∨ (v ≠ .null ∧ ¬ .null ∈ xs ∧ ¬ v ∈ xs)))
    ∧ (v ≠ .null → .null ∈ xs → ¬ v ∈ xs → inSub v xs = none) :=
  ⟨in_true_iff v xs, in_false_iff v xs, fun _ hn hm => in_with_null_unknown_unless_match v xs hn hm⟩

/-- NOT IN is ∀ under 3VL -/
theorem not_in_subquery_is_all_ne (v : Val) (xs : List Val) : notInSub v xs = all3 .ne v xs := not_in_is_all_ne v xs

/-- finite table re-extracted from PythonExecutor.__init__: SUBQUERY_COMPARISON / _EXISTS / _SCALAR are registered bare
    (their NULL behaviour is NOT strict: a NULL probe over an empty result is TRUE / FALSE, not NULL) -/
theorem generated_subquery_env_ok :
    subqueryEnv = [("SUBQUERY_COMPARISON", "bare"), ("SUBQUERY_EXISTS", "bare"), ("SUBQUERY_SCALAR", "bare")]
    ∧ subqCmpWrapped = false := ⟨rfl, rfl⟩

/-- the ENV entry as the executor registers it computes the quantified comparison for every probe (NULL included) and
    every result list (empty included); `x NOT IN (subquery)` = NOT(… 'EQ', 'ANY') is the reference NOT IN -/
theorem subquery_env_spec (op : CmpOp) (v : Val) (xs : List Val) :
    subqueryComparisonEnv subqCmpWrapped cfg (cmpName op) "ANY" v xs = some (triVal (any3 op v xs))
    ∧ subqueryComparisonEnv subqCmpWrapped cfg (cmpName op) "ALL" v xs = some (triVal (all3 op v xs))
    ∧ notInSubquery subqCmpWrapped cfg v xs = some (triVal (notInSub v xs)) := by
  rw [generated_subquery_env_ok.2]
  exact subquery_comparison_env_spec generated_cfg_std op v xs

/-- witness: wrapped in null_if_any("value") the entry answers NULL for a NULL probe over the EMPTY result, where
    `NULL NOT IN ()` and `NULL > ALL ()` are TRUE (a WHERE would drop the row) -/
theorem wrapped_subquery_comparison_witness :
    notInSubquery true cfg .null [] = some .null ∧ triVal (notInSub .null []) = .bool true
    ∧ subqueryComparisonEnv true cfg "GT" "ALL" .null [] = some .null ∧ triVal (all3 .gt .null []) = .bool true := by
  decide +kernel

/-! ## the per-subquery memo of _subquery_table, keyed by the SUBQUERY_* arguments -/

/-- pinned from the source (ast of _compile_subquery): the argument list — hence the memo key — is
    `list(scope.external_columns)`, every outer column the subquery reads, table-qualified -/
theorem generated_subquery_args_ok : subqueryArgs = .allExternal := by decide

/-- generic memo lemma: a memo whose key determines the result is transparent (any argument sequence, from the empty
    cache; from any consistent cache: `memoRun_transparent`) -/
theorem memo_transparent {α κ β} [DecidableEq κ] (key : α → κ) (f : α → β)
    (hdet : ∀ a b, key a = key b → f a = f b) (as : List α) : memoRun key f as [] = as.map f :=
  memoRun_transparent key f hdet as [] (by intro p hp; cases hp)

/-- the subquery memo is transparent whenever the key holds the value of EVERY outer column the subquery reads — which
    `allExternal` guarantees (key columns = read columns) -/
theorem subquery_memo_spec {β} (reads keyCols : List Nat) (g : List Val → β) (hsub : ∀ i ∈ reads, i ∈ keyCols)
    (rows : List Row) :
    memoRun (fun r => keyCols.map (Sem.getCol r)) (fun r => g (reads.map (Sem.getCol r))) rows []
      = rows.map fun r => g (reads.map (Sem.getCol r)) :=
  subquery_memo_transparent reads keyCols g hsub rows

example : ∀ i ∈ ([0, 1] : List Nat), i ∈ ([0, 1] : List Nat) := by decide

/-- witness: key de-duplicated by bare column name (t.a and u.a share the name, only u.a survives): two outer rows
    agreeing on u.a and differing on t.a get the first row's cached subquery result -/
theorem deduped_memo_key_witness :
    memoRun (fun r => [1].map (Sem.getCol r)) (fun r => ([0, 1].map (Sem.getCol r)).map Val.toInt |>.sum)
        [[.int 1, .int 5], [.int 2, .int 5]] [] = [6, 6]
    ∧ ([[.int 1, .int 5], [.int 2, .int 5]] : List Row).map (fun r => ([0, 1].map (Sem.getCol r)).map Val.toInt |>.sum) = [6, 7] := by
  decide +kernel

end SqlglotModel.Properties.C11
