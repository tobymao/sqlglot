/-
  C12 — Serialisation and copying reproduce the tree exactly (modelled: `serde.dump` / `serde.load` / `_load` incl. the
  `{"__expr__": …}` meta entries, `Expression.set` / `append` / `_set_parent` with hash invalidation, `__reduce__`).
  Only property theorems, non-vacuity examples and witnesses live here; lemmas are in Proofs/Serde*.lean.

  Reading guide: `Val` is a syntax tree as `dump` sees it (class, `.type`, comments, `_meta` whose values are raw JSON
  values or Expressions, ordered args whose values are nodes, DType members, raw JSON scalars or lists of those).
  `t.norm` erases exactly what no payload records: args whose value is `None`, args whose value is `[]`, and
  `comments == []` (becomes `None`).  These are invisible to `==`, `.sql()`, `.type`, `.comments or []`, `.meta`.
  All statements are for every tree of the model (no size bound).
-/
import SqlglotModel.Proofs.Serde
import SqlglotModel.Proofs.SerdeCopy
import SqlglotModel.Proofs.SerdeArena
import SqlglotModel.Proofs.SerdeShare
import SqlglotModel.Proofs.SerdeView
import SqlglotModel.Proofs.SerdeJson
import SqlglotModel.Generated.C12

namespace SqlglotModel.Properties.C12
open SqlglotModel.Serde

/-- the iterative explicit-stack loop of `dump` produces the recursive pre-order flattening: node `i`'s children
    carry parent index `i`, their arg key and the array flag, in `args` order; type annotations and Expression-valued
    meta entries are nested dumps -/
theorem dump_preorder (t : Val) : dump t = flat t none 0 := dump_eq_flat t

/-- the object graph `load` builds from a dump, cell by cell: every node with its final `args` dict (refs to the
    pre-order positions of its children), its parent link `(parent, arg_key, index)` and no cached hash -/
theorem load_arena_dump (t : Val) (hwf : t.WF) (hobj : t.isObj = true) :
    loadArena (dump t) = some (seg t none 0) := by
  rw [dump_eq_flat]; exact loadArena_flat t hwf hobj

/-- (what `norm` erases — `None`-valued args, `[]` args, `comments == []` — is observable only through a reader that tells
    presence from absence: see `empty_vs_absent_readers_audited`, on which the reading "reproduces the tree" depends.)
    **load ∘ dump**: for every well-formed tree (typed, commented, with meta — also Expression-valued meta —, nested
    lists, `False` vs absent …) loading its dump succeeds and reads back the tree, up to `norm` -/
theorem load_dump (t : Val) (hwf : t.WF) (hobj : t.isObj = true) : load (dump t) = some (some t.norm) := by
  rw [dump_eq_flat]; exact load_of_arena t (loadArena_flat t hwf hobj)

/-- the tree read back from the closed-form arena is the normalised tree (the `reify` half of `load_dump`) -/
theorem reify_arena (t : Val) : reify (seg t none 0) t.cnt 0 = some t.norm :=
  reify_at t none _ 0 t.cnt .whole (Nat.le_refl _)

/-- `norm` is a projection … -/
theorem norm_idem (t : Val) : t.norm.norm = t.norm := SqlglotModel.Serde.norm_idem t

/-- … and what it erases is exactly what `dump` does not write: a tree and its normal form have the same dump -/
theorem dump_norm (t : Val) : dump t.norm = dump t := by
  rw [dump_eq_flat, dump_eq_flat, flat_norm]

/-- exact round trip for trees already in normal form (no `None` / `[]` args, no `comments == []`) -/
theorem load_dump_normal (t : Val) (hwf : t.WF) (hobj : t.isObj = true) (hn : t.norm = t) :
    load (dump t) = some (some t) := by
  have := load_dump t hwf hobj
  rwa [hn] at this

/-- **parent links restored** (`cellOK`, the link invariant of this model's arenas; nothing is shared with the tree model
    of C08, which asks the like of its own nodes): in the object graph `load` builds from a dump,
    every Expression stored under `args[k]` of node `j` has `parent = j, arg_key = k, index = None`, every Expression
    stored at `args[k][n]` has `parent = j, arg_key = k, index = n`, and no ref dangles -/
theorem load_links (t : Val) (hwf : t.WF) (hobj : t.isObj = true) :
    ∃ A, loadArena (dump t) = some A ∧ A.length = t.cnt ∧ ∀ j, j < A.length → cellOK A j :=
  ⟨seg t none 0, load_arena_dump t hwf hobj, seg_length t none 0,
    fun j hj => links_at t none _ 0 .whole j (Nat.zero_le j) (by rw [Nat.zero_add, ← seg_length t none 0]; exact hj)⟩

/-- **every payload list `load` accepts** (not only dumps: mutated, hand-written, hostile ones) yields an object graph
    in which no node has a cached hash, every child ref points forwards and inside the graph (no dangling index, no
    cycle) and every parent index points backwards -/
theorem load_no_dangling (ps : List Payload) (A : List Cell) (h : loadArena ps = some A) : AInv A :=
  loadArena_inv ps A h

/-- **every dumped payload is a JSON value**: a dict with `str` keys whose values are JSON scalars, lists of payload
    dicts (type annotations, `__expr__` meta entries), lists of strings (comments), or str-keyed dicts (meta) -/
theorem dump_json (K : Keys) (t : Val) : JsonValue (.list (payloadsToPy K (dump t))) :=
  .list _ (payloads_json K (dump t))

/-- **pickle**: `__reduce__` hands pickle `(load, (dump(self),))` and no state, so unpickling is `load ∘ dump` … -/
theorem pickle_roundtrip (t : Val) (h : Option Nat) (hwf : t.WF) (hobj : t.isObj = true) :
    unpickle (reduce false t h) = some (some t.norm) := by
  simpa [unpickle, reduce] using load_dump t hwf hobj

/-- … and whatever hash the pickled tree had cached, no node of the unpickled tree carries a cached hash (a later
    `set`/`append` below the root therefore cannot leave a stale one) -/
theorem unpickled_no_hash (t : Val) (h : Option Nat) (A : List Cell)
    (hA : unpickleArena (reduce false t h) = some A) :
    ∀ (j : Nat) cls ty c m args l hsh, A[j]? = some (Cell.node cls ty c m args l hsh) → hsh = none := by
  intro j cls ty c m args l hsh hj
  rw [reduce, if_neg Bool.false_ne_true, unpickleArena_noState] at hA
  exact (cellInv_iff.mp (load_no_dangling _ A hA j _ hj)).1

/-- why the 2-tuple matters: were the cached hash passed as pickle state (3-tuple), the unpickled root would carry it -/
theorem stale_hash_witness (cls : String) (h : Nat) (hc : cls ≠ dataTypeCls) :
    unpickleArena (reduce true (.node cls none none none []) (some h)) =
      some [.node cls none none none [] none (some h)] := by
  simp [unpickleArena, reduce, dump_eq_flat, flat, flatTy, flatMeta, flatArgs, nodeP, eIndex, eKey, eArr, normC,
    loadArena, mkRoot, mkObj, hc, loadTy, loadMeta, loadList, Cell.setHash]

/-- **`copy()`**: the iterative `__deepcopy__` (explicit stack of (source node, empty copy) pairs, children attached
    through `set` / `append` with their hash invalidation, `_type` and Expression-valued meta copied by nested calls)
    builds an object graph that reads back as exactly the source tree — structure, types, comments, meta, and every
    arg including `None` values and empty lists — whatever hashes the source had cached -/
theorem copy_eq (hashOf : Val → Option Nat) (t : Val) (hwf : t.WF) (hn : t.isNode = true) :
    copy hashOf t = some t := copy_eq_real hashOf t hwf hn

/-- **the copy shares no node**: in the object graph `__deepcopy__` builds, every child ref points forwards to a cell
    this copy allocated and every parent index points backwards to one — no dangling index, no cycle, nothing reachable
    that was not freshly instantiated (`vs.__class__()`), whatever the source's hash caches -/
theorem copy_shares_no_node (hashOf : Val → Option Nat) (t : Val) (B : List Cell)
    (h : copyArena hashOf t = some B) : RInv B := copyArena_rinv hashOf t B h

/-- the only `_hash` values a copy can carry are cached hashes of source nodes (`copy._hash = node._hash`, possibly
    cleared again by the `set` / `append` that attach its children): none is invented, so with an unhashed source the
    copy is unhashed -/
theorem copy_hashes_from_source (hashOf : Val → Option Nat) (t : Val) (B : List Cell)
    (h : copyArena hashOf t = some B) : HInv hashOf B := SqlglotModel.Serde.copy_hashes_from_source hashOf t B h

/-- **which payload lists `load` accepts**, exactly: the empty list; otherwise the first payload has a CLASS (`mkRoot`),
    and every later payload builds a cell by itself, has an ARG_KEY, and an INDEX naming an *earlier* payload that built
    an Expression (see `accepts` / `tailOK`). For every accepted list `load_no_dangling` applies. -/
theorem load_accepts (ps : List Payload) : (loadArena ps).isSome = accepts ps := loadArena_accepts ps

/-- **`load` shares no mutable object with the payload list**: provided `_load` copies the comments list and builds the
    node's `_meta` dict itself (`SharePolicy`, read off the source on every run) and no raw VALUE / meta value is a list
    (no parser stores one), no list or dict a loaded node points at belongs to the payload list — editing the loaded tree
    (add_comments, meta[...] = …, annotate_types) cannot change a kept dump, a second `load` of it, or the dumped tree -/
theorem load_shares_nothing_with_payload (pol : SharePolicy) (hc : pol.loadCopiesComments = true)
    (hm : pol.loadBuildsMetaDict = true) (ps : List Payload) (hflat : noArrList ps = true) :
    ∀ o ∈ loadRefsList pol ps [] 0, o ∉ payObjsList ps [] 0 := by
  intro o ho hp
  have h1 := loadRefsList_made pol hc hm ps [] 0 hflat o ho
  have h2 := payObjsList_isPay ps [] 0 o hp
  rw [h1] at h2
  exact Bool.noConfusion h2

/-- the policy of the current source -/
def sourcePolicy : SharePolicy :=
  ⟨SqlglotModel.Generated.C12.loadCopiesComments, SqlglotModel.Generated.C12.loadBuildsMetaDict⟩

/-- the current `_load` always builds the meta dict with its comprehension (finite decision on the extracted fact; a
    change that hands the payload's own dict to the node makes this fail) -/
theorem source_builds_meta_dict : sourcePolicy.loadBuildsMetaDict = true := by decide +kernel

/-- witness for `loadCopiesComments = false` (the source before /repo 6961bf6): with
    `expression.comments = payload.get(COMMENTS)` the loaded node's comments list IS the payload's list -/
theorem load_aliases_comments_witness :
    Obj.pay [0] .comments ∈ loadRefsList ⟨false, true⟩ [.mk none none false (some "X") none (some ["c"]) none none] [] 0 ∧
    Obj.pay [0] .comments ∈ payObjsList [.mk none none false (some "X") none (some ["c"]) none none] [] 0 := by
  simp [loadRefsList, loadRefs, payObjsList, payObjs, valueObj, loadRefsTy, loadRefsMeta, payObjsTy, payObjsMeta]

/-- witness for the class "the payload's own meta dict is handed to the node" -/
theorem load_aliases_meta_witness :
    Obj.pay [0] .mta ∈ loadRefsList ⟨true, false⟩ [.mk none none false (some "X") none none (some [.raw "k" (.int 1)]) none] [] 0 ∧
    Obj.pay [0] .mta ∈ payObjsList [.mk none none false (some "X") none none (some [.raw "k" (.int 1)]) none] [] 0 := by
  simp [loadRefsList, loadRefs, payObjsList, payObjs, valueObj, loadRefsTy, loadRefsMeta, payObjsTy, payObjsMeta,
    loadRefsMetaL, payObjsMetaL, Raw.isArr]

/-- why `load_shares_nothing_with_payload` excludes list-valued raw values: `node = payload[VALUE]` and the `else v` of
    the meta comprehension store the value itself, whatever the policy -/
theorem raw_list_value_shared_witness (pol : SharePolicy) :
    Obj.pay [1] .value ∈ loadRefsList pol [.mk none none false (some "X") none none none none,
        .mk (some 0) (some "k") true none none none none (some (.arr [.int 1]))] [] 0 := by
  simp [loadRefsList, loadRefs, valueObj, loadRefsTy, loadRefsMeta]

/-- **the `type` property inside the theorem** (`Cast`: `_type or self.to`; DataType & co: the node itself, never
    dumped; everything else: `_type`).  For a tree given with its raw `_type` fields, whatever classes take the special
    branches (`R` is read off the live classes on every run): loading the real dump succeeds; the loaded tree `L` is the
    normalised `type`-view of `t`; viewing `L` again changes nothing (so `L.type` agrees with `t.type` on every node);
    and dumping `L` gives the very payload list `t` gave -/
theorem type_view_roundtrip (R : TypeRules) (t : Val) (hwf : (t.view R).WF) (hobj : t.isObj = true) :
    load (realDump R t) = some (some (t.view R).norm) ∧
    ((t.view R).norm).view R = (t.view R).norm ∧
    realDump R ((t.view R).norm) = realDump R t := by
  have hobj' : (t.view R).isObj = true := by cases t <;> simp_all [Val.view, Val.isObj]
  have hfix : ((t.view R).norm).view R = (t.view R).norm := by
    rw [view_norm R _ hwf, view_idem]
  refine ⟨load_dump _ hwf hobj', hfix, ?_⟩
  unfold realDump
  rw [hfix, dump_norm]

/-- where the loaded tree differs from the dumped one although every `.type` agrees: a Cast without `_type` comes back
    with `_type` set to a copy of its target type -/
theorem cast_type_materialised_witness (R : TypeRules) (hc : R.isCast "Cast" = true) (hd : R.isDataType "Cast" = false)
    (hd' : R.isDataType "DataType" = true) :
    (Val.node "Cast" none none none [.one "to" (.node "DataType" none none none [.one "this" (.dtype "INT")])]).view R =
      Val.node "Cast" (some (.node "DataType" none none none [.one "this" (.dtype "INT")])) none none
        [.one "to" (.node "DataType" none none none [.one "this" (.dtype "INT")])] := by
  simp [Val.view, viewOpt, viewMeta, viewArgs, Arg.view, typeProp, hc, hd, hd', argOne, notNull, Val.isNull]

/-- … and a DataType's own `_type` (its `type` is itself) is never dumped, hence lost -/
theorem datatype_own_type_dropped_witness (R : TypeRules) (hd : R.isDataType "DataType" = true) :
    (Val.node "DataType" (some (.node "DataType" none none none [])) none none [.one "this" (.dtype "INT")]).view R =
      Val.node "DataType" none none none [.one "this" (.dtype "INT")] := by
  simp [Val.view, viewMeta, viewArgs, Arg.view, typeProp, hd]

/-- **the two reconstruction paths agree**: for a tree as `dump` sees it, `load ∘ dump` is `copy` followed by `norm` … -/
theorem copy_vs_load_dump (hashOf : Val → Option Nat) (t : Val) (hwf : t.WF) (hn : t.isNode = true) :
    load (dump t) = (copy hashOf t).map fun c => some c.norm := by
  have hobj : t.isObj = true := by cases t <;> simp_all [Val.isNode, Val.isObj]
  rw [load_dump t hwf hobj, copy_eq hashOf t hwf hn]; rfl

/-- … and precisely there they differ: `copy` keeps a `None`-valued arg (and `[]`, and `comments == []`),
    `load ∘ dump` drops it -/
theorem copy_load_dump_differ_witness (hashOf : Val → Option Nat) :
    copy hashOf (Val.node "X" none none none [.one "a" (.raw .null)]) =
      some (Val.node "X" none none none [.one "a" (.raw .null)]) ∧
    load (dump (Val.node "X" none none none [.one "a" (.raw .null)])) = some (some (Val.node "X" none none none [])) := by
  have hwf : (Val.node "X" none none none [.one "a" (.raw .null)]).WF := by
    simp [Val.WF, wfOpt, wfMeta, wfArgs, Arg.WF, keysOf, Arg.key, dataTypeCls]
  refine ⟨copy_eq hashOf _ hwf rfl, ?_⟩
  have := load_dump _ hwf rfl
  simpa [Val.norm, normOpt, normC, normMeta, normArgs, Arg.dropped, Val.isNull] using this

/-- the classes that take the special branches of `Expression.type` in the current source -/
def sourceRules : TypeRules where
  isDataType := fun c => SqlglotModel.Generated.C12.dataTypeClasses.contains c
  isCast := fun c => SqlglotModel.Generated.C12.castClasses.contains c

/-- **JSON text round trip** (token level: grammar modelled, string / number lexing atomic): parsing the rendered text of
    any JSON value gives the value back … -/
theorem json_text_roundtrip (j : Py) (h : JsonValue j) : parse j.size (render j) = some (j, []) := by
  simpa using parse_render j h [] j.size (Nat.le_refl _)

/-- … in particular for the dump of every tree: `json.loads(json.dumps(dump(t)))` is `dump(t)` -/
theorem dump_json_text_roundtrip (K : Keys) (t : Val) :
    parse (Py.list (payloadsToPy K (dump t))).size (render (.list (payloadsToPy K (dump t)))) =
      some (.list (payloadsToPy K (dump t)), []) :=
  json_text_roundtrip _ (dump_json K t)

/-- **the link invariant of `load_links` for every object graph `load` returns** — not only for dumps: whatever payload list is
    accepted (mutated, hand-written, keys set twice, a list overwritten by a single value …), every Expression stored
    under `args[k]` of node `j` has `(parent, arg_key, index) = (j, k, None)` and every Expression stored at `args[k][n]`
    has `(j, k, n)` -/
theorem load_links_any (ps : List Payload) (A : List Cell) (h : loadArena ps = some A) : LinksOK A :=
  loadArena_links ps A h

/-- … and for the finished `copy()` (set / append with hash invalidation, direct `args[k] = …` for scalars) -/
theorem copy_links (hashOf : Val → Option Nat) (t : Val) (B : List Cell)
    (h : copyArena hashOf t = some B) : LinksOK B := SqlglotModel.Serde.copy_links hashOf t B h

/-- **no node is reachable twice**: under `LinksOK` every slot that stores an Expression cell `r` forces `r`'s parent
    fields to be that slot's address, and an Expression has one `(parent, arg_key, index)`: two addresses storing the same
    node are the same address -/
theorem node_slot_address_unique {A : List Cell} {r : Nat} {l l' : Link} {cls ty c m args lnk h}
    (hr : A[r]? = some (Cell.node cls ty c m args lnk h)) (h1 : LinkIs A r l) (h2 : LinkIs A r l') : l = l' :=
  linkIs_unique hr h1 h2

/-- the face of a DType member `dump` writes / `_load` reads in the current source -/
def srcDumpBy : EnumBy := EnumBy.ofString SqlglotModel.Generated.C12.dumpDTypeBy
def srcLoadBy : EnumBy := EnumBy.ofString SqlglotModel.Generated.C12.loadDTypeBy

/-- obligation on the regenerated facts (finite decision, decided completely): `dump` and `_load` use the SAME face of
    a DType member, a recognised one, and that face is distinct over the regenerated (name, value) table of `DType` -/
theorem generated_enum_codec_ok :
    srcDumpBy = srcLoadBy ∧ srcDumpBy ≠ .other ∧
    (SqlglotModel.Generated.C12.dtypeTable.map (enumFace srcDumpBy)).Nodup :=
  ⟨by decide +kernel, by decide +kernel, nodup_of_distinctNats (·.elim 0 strCode) _ (by decide +kernel)⟩

/-- **every DType member survives the codec** of the current source (128 members, incl. `USERDEFINED` whose value
    `"USER-DEFINED"` differs from its name) -/
theorem dtype_codec_roundtrip (e : String × String) (he : e ∈ SqlglotModel.Generated.C12.dtypeTable) :
    (encodeEnum srcDumpBy e).bind (decodeEnum SqlglotModel.Generated.C12.dtypeTable srcLoadBy) = some e := by
  have h := generated_enum_codec_ok
  rw [← h.1]
  exact enum_codec_roundtrip _ srcDumpBy h.2.1 h.2.2 e he

/-- witness: writing the value and reading by name loses exactly the members whose two faces differ -/
theorem dtype_codec_mismatch_witness :
    (encodeEnum .value ("USERDEFINED", "USER-DEFINED")).bind
      (decodeEnum [("INT", "INT"), ("USERDEFINED", "USER-DEFINED")] .name) = none := by
  decide +kernel

/-- **against the equality users observe**: `Expression.__eq__` compares the class and the `__hash__` fold (`Val.nf`: keys
    sorted, `None` / `False` dropped, strings lower-cased except in `_hash_raw_args` classes, `_type` / comments / meta
    ignored).  The tree `load` returns for the real dump of `t` has the same fold as `t`, for any hash rules and any
    `type`-property tables … -/
theorem eq_preserved_by_load_dump (R : HashRules) (TR : TypeRules) (t : Val) (hwf : (t.view TR).WF)
    (hobj : t.isObj = true) :
    ∃ L, load (realDump TR t) = some (some L) ∧ L.nf R = t.nf R :=
  ⟨(t.view TR).norm, (type_view_roundtrip TR t hwf hobj).1, by rw [nf_norm, nf_view]⟩

/-- … and so has the copy -/
theorem eq_preserved_by_copy (R : HashRules) (hashOf : Val → Option Nat) (t : Val) (hwf : t.WF) (hn : t.isNode = true) :
    ∃ c, copy hashOf t = some c ∧ c.nf R = t.nf R :=
  ⟨t, copy_eq hashOf t hwf hn, rfl⟩

/-- which equality the property needs: `==` is blind to `_type`, comments and meta (`.sql()` prints comments, the
    optimizer reads types and meta), so "reproduces the tree exactly" must be — and above is — stated for the structural
    equality up to `norm`; `==` follows from it, not conversely -/
theorem eq_blind_to_type_comments_meta (R : HashRules) (cls : String) (ty ty' : Option Val) (c c' : Comments)
    (m m' : Meta) (args : List Arg) :
    (Val.node cls ty c m args).nf R = (Val.node cls ty' c' m' args).nf R := by
  simp [Val.nf]

/-- `==` also identifies what `norm` keeps apart: `False` and absence, `True` and `1`, upper and lower case -/
theorem eq_coarser_than_norm_witness (R : HashRules) (hr : R.rawArgs "X" = false) (hl : R.lower "A" = R.lower "a") :
    (Val.node "X" none none none [.one "d" (.raw (.bool false)), .one "t" (.raw (.bool true)), .one "s" (.raw (.str "A"))]).nf R =
    (Val.node "X" none none none [.one "t" (.raw (.int 1)), .one "s" (.raw (.str "a"))]).nf R := by
  simp [Val.nf, nfArgs, Arg.nfItems, itemOne, nfRaw, hr, hl]

/-- what `dump` reading `_type` buys (/repo 22ff6bc, finding C12 "serde.dump records node.type": no class takes a special
    branch and the translator emits empty tables): the `type` view is the identity and the round trip is exact on the raw
    `_type` fields — a Cast without `_type` comes back without one -/
theorem view_id_of_no_rules (R : TypeRules) (hd : ∀ c, R.isDataType c = false) (hc : ∀ c, R.isCast c = false)
    (t : Val) (hwf : t.WF) (hobj : t.isObj = true) :
    t.view R = t ∧ load (realDump R t) = some (some t.norm) := by
  have h := view_id R hd hc t
  refine ⟨h, ?_⟩
  unfold realDump
  rw [h]
  exact load_dump t hwf hobj

/-- the audited readers of `.type` / `._type` on cast-class nodes.  After `load` a Cast carries a materialised `_type`
    (`cast_type_materialised_witness`), a detached copy of its target: code that reads (or mutates) the cast's `type`
    where its `to` child is meant behaves differently on reloaded trees.  Audited:
    * simplify.extract_type — `expression.to if isinstance(expression, exp.Cast) else expression.type`: the `.type` read is
      the non-cast branch. -/
def auditedCastTypeReads : List String :=
  ["sqlglot/optimizer/simplify.py:extract_type:expression.type"]

/-- obligation (finite decision on the regenerated table): no generator / optimizer / dialect site outside this list reads
    the `type` of a cast-class node, and `Cast.is_type` consults `self.to`; a new reader breaks the build until audited -/
theorem cast_type_reads_audited :
    SqlglotModel.Generated.C12.castTypeReads = auditedCastTypeReads ∧
    SqlglotModel.Generated.C12.castIsTypeUsesTo = true :=
  ⟨rfl, rfl⟩

/-- the audited sites that tell an arg PRESENT with `None` / `[]` from an ABSENT one.  `dump` records neither, `load ∘ dump`
    is the identity only up to `norm` (`load_dump`), and `norm`'s erasure is unobservable exactly as long as no reader makes
    that distinction.  **The soundness of reading `load_dump` as "reproduces the tree" rests on this table.**  Audited:
    * `'expressions' in expression.args` (generator.py and snowflake.py `dynamicidentifier_sql`): OBSERVABLE — known finding
      C12-empty-call-args-lost-dynamicidentifier (`IDENTIFIER('f')()` loses its call after a round trip);
    * tableau `strposition_sql` tests the VALUE of a non-list arg (`args.get('occurrence') is not None`, as /repo has it
      since 8ff675e; finding C12-none-arg-key-read-by-tableau-strposition is about the `'occurrence' in expression.args`
      before it): `None` and absence coincide, harmless;
    * `expression.args.get('values') is not None` (generator.py `datatype_sql`): a list arg, but no parser stores `values=[]`
      (empty-list corpus, all dialects);
    * the remaining `… is None` / `is not None` tests read non-list args, for which `None` and absence coincide. -/
def auditedEmptyVsAbsentReaders : List String :=
  ["sqlglot/generator.py:datatype_sql:expression.args.get('values') is not None",
   "sqlglot/generator.py:dynamicidentifier_sql:'expressions' in expression.args",
   "sqlglot/generator.py:join_sql:this.args.get('cross_apply') is not None",
   "sqlglot/generators/duckdb.py:_scale_rounding_sql:expression.args.get('to') is not None",
   "sqlglot/generators/postgres.py:lateral_sql:expression.args.get('cross_apply') is not None",
   "sqlglot/generators/snowflake.py:dynamicidentifier_sql:'expressions' in expression.args",
   "sqlglot/generators/tableau.py:strposition_sql:expression.args.get('occurrence') is not None",
   "sqlglot/generators/tsql.py:timefromparts_sql:expression.args.get('fractions') is None",
   "sqlglot/generators/tsql.py:timefromparts_sql:expression.args.get('precision') is None",
   "sqlglot/generators/tsql.py:timestampfromparts_sql:expression.args.get('milli') is None",
   "sqlglot/optimizer/merge_subqueries.py:_mergeable:inner_select.args.get('from_') is None",
   "sqlglot/parser.py:_parse_initcap:expr.args.get('expression') is None"]

/-- obligation (finite decision on the regenerated table): no other site distinguishes an empty / `None` arg from an absent
    one; a new such reader (e.g. rendering `()` for `Schema(expressions=[])`) breaks the build until audited -/
theorem empty_vs_absent_readers_audited :
    SqlglotModel.Generated.C12.emptyVsAbsentReaders = auditedEmptyVsAbsentReaders :=
  rfl

/-- facts re-extracted from sqlglot/serde.py and expressions/core.py on every run: the eight payload keys are pairwise
    distinct (a collision would make two payload fields overwrite each other), the DType marker is the modelled one,
    the guards and the meta comprehensions of dump/load/_load are the modelled ones, and `__reduce__` returns exactly
    `(load, (dump(self),))`. (finite decision, decided completely) -/
theorem generated_ok :
    SqlglotModel.Generated.C12.allKeys.Nodup ∧ SqlglotModel.Generated.C12.dataType = dataTypeCls ∧
    SqlglotModel.Generated.C12.shapeAsModelled = true ∧ SqlglotModel.Generated.C12.reduceViaSerde = true := by
  decide +kernel

/-- the key constants of the current source, as the `Keys` of `dump_json` -/
def genKeys : Keys where
  index := SqlglotModel.Generated.C12.keyIndex
  key := SqlglotModel.Generated.C12.keyArgKey
  isArr := SqlglotModel.Generated.C12.keyIsArray
  cls := SqlglotModel.Generated.C12.keyClass
  ty := SqlglotModel.Generated.C12.keyType
  comments := SqlglotModel.Generated.C12.keyComments
  mta := SqlglotModel.Generated.C12.keyMeta
  value := SqlglotModel.Generated.C12.keyValue
  metaExpr := SqlglotModel.Generated.C12.keyMetaExpr

/-! ### non-vacuity and witnesses -/

/-- a typed, commented tree with meta (one entry an Expression), a `False` arg, a `None` arg, an empty list, a list
    holding `None`, a DType and a nested list of scalars -/
def sample : Val :=
  .node "Select" (some (.node "DataType" none none none [.one "this" (.dtype "INT"), .one "nested" (.raw (.bool false))]))
    (some ["c"])
    (some [.raw "line" (.int 1), .raw "flag" (.bool true),
           .expr "query_type" (.node "DataType" none (some []) none [.one "this" (.dtype "STRUCT"), .one "kind" (.raw .null)])])
    [.many "expressions"
        [.node "Column" none (some []) none
            [.one "this" (.node "Identifier" none none (some []) [.one "this" (.raw (.str "a")), .one "quoted" (.raw (.bool false))]),
             .one "table" (.raw .null)],
         .raw .null,
         .raw (.arr [.int 1, .str "x"])],
     .many "joins" [],
     .one "distinct" (.raw (.bool false)),
     .one "limit" (.raw .null)]

theorem sample_wf : sample.WF ∧ sample.isObj = true := by
  simp [sample, Val.WF, wfOpt, wfMeta, wfMetaL, MetaE.WF, wfArgs, Arg.WF, wfVals, keysOf, Arg.key, Val.isObj,
    Val.isNode, dataTypeCls]

example : load (dump sample) = some (some sample.norm) := load_dump sample sample_wf.1 sample_wf.2

example : ∃ A, loadArena (dump sample) = some A ∧ AInv A := by
  obtain ⟨A, hA, _⟩ := load_links sample sample_wf.1 sample_wf.2
  exact ⟨A, hA, load_no_dangling _ _ hA⟩

example : JsonValue (.list (payloadsToPy genKeys (dump sample))) := dump_json genKeys sample

example : copy (fun _ => some 7) sample = some sample := copy_eq _ sample sample_wf.1 rfl

/-- a payload whose INDEX points at itself (Python would build a cyclic tree) or at a scalar is refused -/
example : accepts [.mk none none false (some "X") none none none none,
                   .mk (some 1) (some "this") false (some "Y") none none none none] = false := by
  simp [accepts, tailOK, mkRoot, mkCell, mkObj, loadTy, loadMeta, dataTypeCls, pIndex, pKey, Cell.isNodeC]

/-- the normal form really differs from the tree (the theorem is not about the identity) -/
example : sample.norm.size < sample.size := by decide +kernel

/-- `JsonValue` is not trivially true: an Expression object inside a dict is refused -/
example : ¬ JsonValue (.dict [(.str "query_type", .opaque "DataType")]) := by
  intro h
  cases h with
  | dict _ _ hv =>
    have := hv (.str "query_type", .opaque "DataType") (by simp)
    cases this

/-- the distinct-keys hypothesis of `load_dump` is needed: two args with one key (impossible in a Python dict) are
    dumped as two payloads and `set` overwrites the first with the second -/
theorem duplicate_keys_witness :
    load (dump (Val.node "X" none none none [.one "a" (.raw (.int 1)), .one "a" (.raw (.int 2))])) =
      some (some (Val.node "X" none none none [.one "a" (.raw (.int 2))])) := by
  rw [dump_eq_flat]
  simp [flat, flatTy, flatMeta, flatArgs, flatArg, Val.isNull, nodeP, rawP, eIndex, eKey, eArr, normC,
    load, mkRoot, mkObj, loadTy, loadMeta, dataTypeCls, loadList, mkCell, pIndex, pKey, pArr, attach, clearUp, linkArgs,
    Cell.isRawNull, setKey, Cell.withLink, reify, reifyCell, reifySlots, reifySlot]

end SqlglotModel.Properties.C12
