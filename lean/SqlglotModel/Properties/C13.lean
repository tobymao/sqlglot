/-
  C13 — Source positions of tokens, nodes and errors point at the text they describe.
  Only property theorems, non-vacuity examples and counter-example witnesses live here (lemmas: Proofs/Lex*.lean).

  Scope of what is PROVED (all for arbitrary input and arbitrary tokenizer configuration):
    * the cursor arithmetic of `_advance` (forward jumps, the alnum batch is a forward jump, rewinds) keeps the position
      invariant `PInv` whenever the characters jumped over contain no CR/LF; the model sets its ghost flag `skew` exactly when a
      jump does pass over one, and the two clean-tree defects (lone CR in the str.find fast path, multi-word keyword across a
      line break) are exhibited as witnesses, together with the repaired behaviour;
    * `_add` stamps the cursor's line/col and [_start, current-1] on the token, hence in a `PInv` state the token's line/col
      agree with its end offset (`line_col_agree`); tokens added under the `_scan` phase discipline (`InvS`/`InvC`) are strictly
      ordered, non-overlapping, non-empty and inside the input (`tokens_ordered`, `tokens_inside`);
    * `highlight_sql` with one position (what `Parser.raise_error` passes) selects exactly s[a..b] with the stated contexts.
  WHOLE-RUN theorems: for every configuration and every input whose shipped character classes satisfy `WF`
  (blanks/CR/LF are isspace, alphanumerics are never CR/LF — validated exhaustively against CPython by the harness), whenever the
  model's `lex cfg sql` returns tokens: `lex_tokens_ordered`, `lex_tokens_inside`, `lex_line_col_agree` (for runs in which no jump
  skipped a line break), `gaps_are_space_or_comment` (every offset of the input is whitespace, inside a token, or inside a region
  consumed by `_scan_comment`), `lex_progress` (each `_scan` iteration strictly advances the cursor).
  NO-SKEW: for a configuration that passes the decidable hygiene test `cleanCfg` (the three position repairs are in
  the code; no delimiter contains CR/LF; no start delimiter contains a blank) no jump of any run passes over a line break
  (`lex_never_skews`), hence `lex_line_col_exact` holds unconditionally.  `base_cfg_clean` decides the test for the generated base
  configuration; the driver evaluates the same Lean function on every dialect's shipped configuration on each run.
  COMMENT SPANS: every region recorded as consumed by `_scan_comment` was opened by a comment start delimiter of the
  configuration, and the input spells that delimiter at the start of the region (`comment_spans_start_with_delimiter`).
  NOT proved: that the inner loops never exhaust their fuel (`lex` never answers `fuel`), and that a block-comment span
  ends with its end delimiter.
-/
import SqlglotModel.Proofs.LexSpans
import SqlglotModel.Generated.C13

namespace SqlglotModel.Properties.C13
open SqlglotModel.Lex SqlglotModel.Generated.C13

/-- `_advance(i)`, i ≥ 1: the position invariant is preserved when no skipped character is CR/LF
    (for i = 1 nothing is skipped: single steps are always exact, including CRLF and a lone CR) -/
theorem advance_pinv (sql : Sql) (st st' : St) (i : Nat) (hi : 1 ≤ i) (hP : PInv sql st)
    (hno : hasNL sql st.current (i - 1) = false) (h : advance sql st i = .ok st') : PInv sql st' :=
  Lex.advance_pinv hi hP hno h

/-- single steps need no side condition at all -/
theorem advance_one_pinv (sql : Sql) (st st' : St) (hP : PInv sql st) (h : advance sql st 1 = .ok st') : PInv sql st' :=
  step_pinv hP h

/-- a run that ends with `skew = false` never jumped over a CR/LF: `advance` only ever switches the flag on -/
theorem advance_skew_mono (sql : Sql) (st st' : St) (i : Nat) (h : advance sql st i = .ok st') (hs : st'.skew = false) :
    st.skew = false ∧ hasNL sql st.current (i - 1) = false := by
  obtain ⟨_, _, h⟩ := advance_ok h
  subst h
  simpa [Bool.or_eq_false_iff] using hs

/-- `_advance(-n)` (the rewind after `12abc`) -/
theorem retreat_pinv (sql : Sql) (st st' : St) (n : Nat) (hP : PInv sql st)
    (hno : hasNL sql (st.current - 1 - n) n = false) (h : retreat sql st n = .ok st') : PInv sql st' :=
  Lex.retreat_pinv hP hno h

/-- `_add`: in a state satisfying the position invariant the appended token's line/col agree with its end offset -/
theorem line_col_agree (cfg : Cfg) (sql : Sql) (st st' : St) (ty : String) (text : Option (List Char))
    (hP : PInv sql st) (hc : 1 ≤ st.current) (h : add cfg sql st ty text = .ok st') :
    ∃ t, st'.toks = st.toks ++ [t] ∧ LC sql t := by
  rw [add_ok h]
  exact ⟨_, rfl, lc_iff.2 ((pinv_iff hc).1 hP)⟩

/-- tokens whose text is not normalised (`_add(token_type)` without text) carry exactly the slice sql[_start : current] -/
theorem token_text_is_slice (cfg : Cfg) (sql : Sql) (st st' : St) (ty : String)
    (h : add cfg sql st ty none = .ok st') :
    ∃ t, st'.toks = st.toks ++ [t] ∧ t.text = slice sql t.start (t.stop + 1) ∨ st.current = 0 := by
  rw [add_ok h]
  refine ⟨_, if h0 : st.current = 0 then Or.inr h0 else Or.inl ⟨rfl, ?_⟩⟩
  have : st.current - 1 + 1 = st.current := by omega
  rw [this]; rfl

/-- moving the cursor forward stays inside the token phase -/
theorem advance_keeps_phase (sql : Sql) (st st' : St) (i : Nat) (hS : InvS sql st)
    (h : advance sql st i = .ok st') : InvS sql st' :=
  hS.fw (advance_fw (q := False) .refl False.elim _ h).1

/-- `_add` under the `_scan` discipline: the token list stays strictly ordered and non-overlapping
    (`a.stop < b.start` for every earlier a and later b) -/
theorem tokens_ordered (cfg : Cfg) (sql : Sql) (st st' : St) (ty : String) (text : Option (List Char))
    (hS : InvS sql st) (h : add cfg sql st ty text = .ok st') :
    st'.toks.Pairwise (fun a b => a.stop < b.start) :=
  (add_invC hS h).sorted

/-- … and every token satisfies 0 ≤ start ≤ end < len(sql) -/
theorem tokens_inside (cfg : Cfg) (sql : Sql) (st st' : St) (ty : String) (text : Option (List Char))
    (hS : InvS sql st) (h : add cfg sql st ty text = .ok st') :
    ∀ t ∈ st'.toks, t.start ≤ t.stop ∧ t.stop < sql.size :=
  fun t ht => ((add_invC hS h).toks t ht).1

/-- the next `_scan` iteration (set `_start` to c ≥ current, advance past it) re-enters the token phase -/
theorem next_iteration_phase (sql : Sql) (st st' : St) (c i : Nat) (hC : InvC sql st) (hc : st.current ≤ c)
    (h : advance sql { st with start := c } i = .ok st') (hlt : c < st'.current) : InvS sql st' :=
  hC.restart hc (advance_fw (q := False) .refl False.elim _ h).1 hlt

/-- `highlight_sql(sql, [(a, b)], ctx)` — what `Parser.raise_error` calls with (token.start, token.end) —
    returns highlight = s[a..b], start_context = the ctx characters before a, end_context = the ctx characters after b -/
theorem highlight_selects (s : List Char) (a b ctx : Nat) (hab : a ≤ b) (hb : b < s.length) :
    (highlightSql s [(a, b)] ctx).highlight = pySlice s a (b + 1) ∧
    (highlightSql s [(a, b)] ctx).highlight.length = b + 1 - a ∧
    (highlightSql s [(a, b)] ctx).startCtx = pySlice s (a - ctx) a ∧
    (highlightSql s [(a, b)] ctx).endCtx = pySlice s (b + 1) (b + 1 + ctx) := by
  rw [highlight_single s a b ctx hab]
  exact ⟨rfl, by simp only [pySlice, List.length_take, List.length_drop]; omega, rfl, rfl⟩

theorem highlight_context_bounds (s : List Char) (a b ctx : Nat) (hab : a ≤ b) (hb : b < s.length) :
    (highlightSql s [(a, b)] ctx).startCtx.length ≤ ctx ∧ (highlightSql s [(a, b)] ctx).endCtx.length ≤ ctx ∧
    (highlightSql s [(a, b)] ctx).formatted =
      (highlightSql s [(a, b)] ctx).startCtx ++ ansiUL ++ (highlightSql s [(a, b)] ctx).highlight ++ ansiReset ++
        (highlightSql s [(a, b)] ctx).endCtx := by
  obtain ⟨h1, _, h3, h4⟩ := highlight_selects s a b ctx hab hb
  refine ⟨?_, ?_, ?_⟩
  · rw [h3]; simp only [pySlice, List.length_take, List.length_drop]; omega
  · rw [h4]; simp only [pySlice, List.length_take, List.length_drop]; omega
  · rw [highlight_single s a b ctx hab]

/-- WHOLE RUN: the tokens of `lex cfg sql` are strictly ordered and non-overlapping -/
theorem lex_tokens_ordered (cfg : Cfg) (sql : Sql) (st : St) (hW : WF sql) (h : lex cfg sql = .ok st) :
    st.toks.Pairwise (fun a b => a.stop < b.start) :=
  (lex_cInv hW h).1.sorted

/-- WHOLE RUN: every token satisfies 0 ≤ start ≤ end < len(sql) -/
theorem lex_tokens_inside (cfg : Cfg) (sql : Sql) (st : St) (hW : WF sql) (h : lex cfg sql = .ok st) :
    ∀ t ∈ st.toks, t.start ≤ t.stop ∧ t.stop < sql.size :=
  fun t ht => ((lex_cInv hW h).1.toks t ht).1

/-- WHOLE RUN: if no jump of the run passed over a CR/LF (`skew = false`), every token's line and column are the reference
    line/column of its end offset (the LF of a CRLF pair counts with the column of its CR, `crlfAdj`) -/
theorem lex_line_col_agree (cfg : Cfg) (sql : Sql) (st : St) (hW : WF sql) (h : lex cfg sql = .ok st)
    (hs : st.skew = false) :
    ∀ t ∈ st.toks, t.line = lineOf sql t.stop ∧ t.col + crlfAdj sql t.stop = colOf sql t.stop :=
  fun t ht => ((lex_cInv hW h).1.pi hs).2 t ht

/-- WHOLE RUN: every offset of the input is a whitespace character, lies inside a token, or lies inside a region consumed by
    `_scan_comment` (ghost `spans`) — so the text between two tokens is only whitespace and comment text -/
theorem gaps_are_space_or_comment (cfg : Cfg) (sql : Sql) (st : St) (hW : WF sql) (h : lex cfg sql = .ok st) :
    ∀ p, p < sql.size →
      isSpaceAt sql p = true ∨ (∃ t ∈ st.toks, t.start ≤ p ∧ p ≤ t.stop) ∨ (∃ s ∈ st.spans, s.1 ≤ p ∧ p ≤ s.2) := by
  intro p hp
  obtain ⟨hC, he⟩ := lex_cInv hW h
  exact hC.cov p (he ▸ hp)

/-- NO SKEW: with the position repairs in the code and hygienic delimiter tables (`cleanCfg`, decidable), no jump of the
    tokenizer passes over a CR/LF — the blank jump, digit batches, the alnum batch, delimiter jumps (the keyword-trie walk only
    reports unfolded text for blank-free keys), escape steps, the keyword jump, the str.find fast path and the rewind -/
theorem lex_never_skews (cfg : Cfg) (sql : Sql) (st : St) (hC : cleanCfg cfg = true) (hW : WF sql)
    (h : lex cfg sql = .ok st) : st.skew = false :=
  lex_no_skew hC hW h

/-- WHOLE RUN, UNCONDITIONAL for clean configurations: every token's line and column are the reference line/column of its
    end offset -/
theorem lex_line_col_exact (cfg : Cfg) (sql : Sql) (st : St) (hC : cleanCfg cfg = true) (hW : WF sql)
    (h : lex cfg sql = .ok st) :
    ∀ t ∈ st.toks, t.line = lineOf sql t.stop ∧ t.col + crlfAdj sql t.stop = colOf sql t.stop :=
  lex_line_col_agree cfg sql st hW h (lex_no_skew hC hW h)

/-- TABLE FACT: the generated base configuration (flags probed from the live code, delimiter tables from the live classes)
    passes the hygiene test — this fails to build if one of the three position repairs is reverted -/
theorem base_cfg_clean : cleanCfg baseCfg = true := by decide +kernel

/-- WHOLE RUN: the regions of `gaps_are_space_or_comment` really are comments — each was opened by a line- or block-comment
    start delimiter w of the configuration, and (w containing no blank, which `cleanCfg` guarantees for block comments) the
    input spells w at the first offsets of the region -/
theorem comment_spans_start_with_delimiter (cfg : Cfg) (sql : Sql) (st : St) (hW : WF sql) (h : lex cfg sql = .ok st) :
    ∀ s ∈ st.spans, ∃ w, (memS w cfg.lineComments = true ∨ (lookupS w cfg.comments).isSome = true) ∧
      ((∀ c ∈ w, c ≠ ' ') → ∀ k, k < w.length → ∃ ch, sql[s.1 + k]? = some ch ∧ w[k]? = some ch.c) :=
  lex_spans hW h

/-- … and the run consumed the whole input -/
theorem lex_consumes_input (cfg : Cfg) (sql : Sql) (st : St) (hW : WF sql) (h : lex cfg sql = .ok st) :
    st.current = sql.size :=
  (lex_cInv hW h).2

/-- PROGRESS (C05 has the same for its own model of the loop, `scan_progress`): one iteration of the `_scan` loop, started between two tokens, strictly
    advances the cursor and stays inside the input; hence the loop performs at most len(sql) iterations -/
theorem lex_progress (cfg : Cfg) (sql : Sql) (st st' : St) (hW : WF sql) (hC : CInv sql st)
    (h : scanStep cfg sql st = .ok st') : st.current < st'.current ∧ st'.current ≤ sql.size ∧ CInv sql st' := by
  obtain ⟨c, hlt⟩ := scanStep_cInv hW hC h
  exact ⟨hlt, c.le, c⟩

/-- `_advance(alnum=True)` keeps the position invariant and never raises `skew` -/
theorem advance_alnum_pinv (sql : Sql) (st st' : St) (hW : WF sql) (hP : PInv sql st)
    (h : advanceAlnum sql st = .ok st') : PInv sql st' ∧ st'.skew = st.skew := by
  -- not `(advanceAlnum_fw …).pinv`: `Fw.pinv` asks for `st'.skew = false`, this statement does not
  obtain ⟨s, n, h1, rfl, _, hno⟩ := advanceAlnum_ok hW h
  obtain ⟨f1, c1⟩ := step_fw (q := True) .refl s h1
  exact ⟨(shift_pinv (by omega) hno).1 (step_pinv hP h1), f1.quiet trivial⟩

/-- THE fast-path lemma (∀ input): sql.count / sql.rfind bookkeeping = the reference position of the closing delimiter,
    provided the literal [pos, e) contains no lone CR and the character at e is not LF -/
theorem fast_path_position_exact (sql : Sql) (line col pos e : Nat) (hpe : pos ≤ e)
    (hcr : hasLoneCR sql pos (e - pos) = false) (hd : isLF sql e = false)
    (hl : line = lineOf sql pos) (hc : col + crlfAdj sql pos = colOf sql pos) :
    (fastPos sql line col pos e).1 = lineOf sql e ∧ (fastPos sql line col pos e).2 + crlfAdj sql e = colOf sql e :=
  fastPos_exact hpe hcr hd ⟨hl, hc⟩

/-- the str.find fast path of `_extract_string` as a whole keeps the position invariant unless it flags `skew`
    (`skew` is raised exactly for a lone CR inside the literal, or when the delimiter itself is LF) -/
theorem fast_string_pinv (cfg : Cfg) (sql : Sql) (st st' : St) (x : XCfg) (text : List Char)
    (hc : 1 ≤ st.current) (hP : PInv sql st) (h : fastString cfg sql st x = some (st', text))
    (hs : st'.skew = false) : PInv sql st' :=
  (fastString_fw hc False.elim h).pinv hs hP

/-- with the lone-CR guard that is in the code (`fixLoneCR`): the fast path never skews, so its position update is exact
    for EVERY literal it accepts — the same position the character-by-character slow path reaches -/
theorem fast_string_exact_when_fixed (cfg : Cfg) (sql : Sql) (st st' : St) (x : XCfg) (text : List Char)
    (hfix : cfg.fixLoneCR = true) (hd : x.delim ≠ ['\n']) (hc : 1 ≤ st.current) (hP : PInv sql st)
    (hs : st.skew = false) (h : fastString cfg sql st x = some (st', text)) :
    PInv sql st' ∧ st'.skew = false := by
  have f := fastString_fw (q := True) hc (fun _ => ⟨hfix, hd⟩) h
  have hs' : st'.skew = false := (f.quiet trivial).trans hs
  exact ⟨f.pinv hs' hP, hs'⟩

/-- ASCII inputs satisfy the character-class hypothesis (so the whole-run theorems are not vacuous) -/
theorem ascii_wf (s : String) : WF (asciiSql s) := by
  intro j ch hj
  have hmem : ∃ c, ch = asciiCh c := by
    unfold asciiSql at hj
    rw [List.getElem?_toArray, List.getElem?_map] at hj
    cases hc : s.toList[j]? with
    | none => rw [hc] at hj; cases hj
    | some c => rw [hc] at hj; exact ⟨c, by cases hj; rfl⟩
  obtain ⟨c, rfl⟩ := hmem
  constructor
  · intro h
    simp only [asciiCh] at h ⊢
    rcases h with h | h | h | h <;> simp [h]
  · intro h
    simp only [asciiCh, Bool.or_eq_true, Bool.and_eq_true, decide_eq_true_eq, isDigit] at h ⊢
    constructor <;> intro hc <;> subst hc <;> revert h <;> decide

/-- the token `raise_error` describes: the explicit argument, else `_curr`, else `_prev` -/
theorem raise_error_token_priority (t c p : Tok) (oc op : Option Tok) :
    chooseTok (some t) oc op = t ∧ chooseTok none (some c) op = c ∧ chooseTok none none (some p) = p := ⟨rfl, rfl, rfl⟩

/-- `Parser.raise_error`: line/col are the chosen token's, the highlight is exactly sql[token.start .. token.end], the
    contexts are the (at most `error_message_context`) characters before and after it -/
theorem raise_error_selects_token (sql : List Char) (token curr prev : Option Tok) (ctx : Nat)
    (h1 : (chooseTok token curr prev).start ≤ (chooseTok token curr prev).stop)
    (h2 : (chooseTok token curr prev).stop < sql.length) :
    (raiseError sql token curr prev ctx).line = (chooseTok token curr prev).line ∧
    (raiseError sql token curr prev ctx).col = (chooseTok token curr prev).col ∧
    (raiseError sql token curr prev ctx).highlight =
      pySlice sql (chooseTok token curr prev).start ((chooseTok token curr prev).stop + 1) ∧
    (raiseError sql token curr prev ctx).startCtx =
      pySlice sql ((chooseTok token curr prev).start - ctx) (chooseTok token curr prev).start ∧
    (raiseError sql token curr prev ctx).endCtx =
      pySlice sql ((chooseTok token curr prev).stop + 1) ((chooseTok token curr prev).stop + 1 + ctx) ∧
    (raiseError sql token curr prev ctx).startCtx.length ≤ ctx ∧ (raiseError sql token curr prev ctx).endCtx.length ≤ ctx := by
  obtain ⟨a, _, c, d⟩ := highlight_selects sql _ _ ctx h1 h2
  obtain ⟨e, f, _⟩ := highlight_context_bounds sql _ _ ctx h1 h2
  exact ⟨rfl, rfl, a, c, d, e, f⟩

/-- END TO END (tokenizer + parser error): an error raised on a token of a complete run of `lex` highlights exactly that
    token's lexeme and reports the reference line / column of the lexeme's last character -/
theorem raise_error_on_lexed_token (cfg : Cfg) (sql : Sql) (st : St) (t : Tok) (curr prev : Option Tok) (ctx : Nat)
    (hC : cleanCfg cfg = true) (hW : WF sql) (h : lex cfg sql = .ok st) (ht : t ∈ st.toks) :
    (raiseError (sqlText sql) (some t) curr prev ctx).highlight = slice sql t.start (t.stop + 1) ∧
    (raiseError (sqlText sql) (some t) curr prev ctx).line = lineOf sql t.stop ∧
    (raiseError (sqlText sql) (some t) curr prev ctx).col + crlfAdj sql t.stop = colOf sql t.stop ∧
    (raiseError (sqlText sql) (some t) curr prev ctx).startCtx.length ≤ ctx ∧
    (raiseError (sqlText sql) (some t) curr prev ctx).endCtx.length ≤ ctx := by
  have hb := lex_tokens_inside cfg sql st hW h t ht
  have hl := lex_line_col_exact cfg sql st hC hW h t ht
  have := raise_error_selects_token (sqlText sql) (some t) curr prev ctx hb.1 (by rw [sqlText_length]; exact hb.2)
  obtain ⟨r1, r2, r3, _, _, r6, r7⟩ := this
  refine ⟨by rw [r3, slice_eq_pySlice]; rfl, by rw [r1]; exact hl.1, by rw [r2]; exact hl.2, r6, r7⟩

/-- `update_positions(token)`: the four position keys become exactly the token's -/
theorem update_positions_token (m : Meta) (t : Tok) :
    updatePositions m (.token t) = ⟨some (some t.line), some (some t.col), some (some t.start), some (some t.stop)⟩ := rfl

/-- `update_positions(other_expr)` copies a complete set of positions unchanged (so positions handed from node to node, as
    the BigQuery table-part code does, still denote the original token), and an expression without meta changes nothing -/
theorem update_positions_copy (m m0 : Meta) (t : Tok) :
    updatePositions m (.expr (some (updatePositions m0 (.token t)))) = updatePositions m (.token t) ∧
    updatePositions m (.expr none) = m := ⟨rfl, rfl⟩

/-- END TO END (tokenizer + `Parser.expression(node, token)`): the meta of a node built from a token of a complete run covers
    exactly that token — start ≤ end inside the input, and line/col are the reference position of its last character -/
theorem meta_selects_lexeme (cfg : Cfg) (sql : Sql) (st : St) (t : Tok) (m : Meta)
    (hC : cleanCfg cfg = true) (hW : WF sql) (h : lex cfg sql = .ok st) (ht : t ∈ st.toks) :
    (expressionMeta m (some t)).start = some (some t.start) ∧ (expressionMeta m (some t)).stop = some (some t.stop) ∧
    t.start ≤ t.stop ∧ t.stop < sql.size ∧
    (expressionMeta m (some t)).line = some (some (lineOf sql t.stop)) ∧
    (∃ c, (expressionMeta m (some t)).col = some (some c) ∧ c + crlfAdj sql t.stop = colOf sql t.stop) := by
  have hb := lex_tokens_inside cfg sql st hW h t ht
  have hl := lex_line_col_exact cfg sql st hC hW h t ht
  refine ⟨rfl, rfl, hb.1, hb.2, ?_, t.col, rfl, hl.2⟩
  show some (some t.line) = _
  rw [hl.1]

/-- STRUCTURE FACTS (read with `ast` from the source on each run): the pieces of `Parser.raise_error`, `Parser.expression` and
    POSITION_META_KEYS that the model mirrors are still what the model assumes -/
theorem generated_positions_shape_ok :
    positionMetaKeys = ["line", "col", "start", "end"] ∧
    raiseErrorShape = ["token = token or self._curr or self._prev or Token.string('')",
      "highlight_sql:context_length=self.error_message_context", "highlight_sql:positions=[(token.start, token.end)]",
      "highlight_sql:sql=self.sql", "ParseError.new:col=token.col", "ParseError.new:end_context=end_context",
      "ParseError.new:highlight=highlight", "ParseError.new:line=token.line", "ParseError.new:start_context=start_context",
      "expression: if token: instance.update_positions(token)"] := ⟨rfl, rfl⟩

/-- STRUCTURE FACT (ast table of call sites, re-read on each run): every override / wrapper of parse, parse_into, _parse in
    parser.py, parsers/*.py, dialects/*.py and sqlglot/__init__.py hands the statement text `sql` on to its delegate — the premise
    "parser.sql is the text the tokens were lexed from" of `raise_error_on_lexed_token` at every entry point -/
theorem parser_delegates_pass_sql : parserDelegates.all (fun r => r.2.2) = true ∧ parserDelegates ≠ [] := by decide

/-- WITNESS for the dropped-argument variant (a delegate called without `sql`, so the sub-parser runs with self.sql == ""):
    the error keeps the token's line/col but highlight and both contexts are empty — the reported position selects nothing -/
theorem raise_error_dropped_sql_witness (t : Tok) (curr prev : Option Tok) (ctx : Nat) (h : t.start ≤ t.stop) :
    (raiseError [] (some t) curr prev ctx).line = t.line ∧ (raiseError [] (some t) curr prev ctx).col = t.col ∧
    (raiseError [] (some t) curr prev ctx).highlight = [] ∧ (raiseError [] (some t) curr prev ctx).startCtx = [] ∧
    (raiseError [] (some t) curr prev ctx).endCtx = [] := by
  simp only [raiseError, chooseTok]
  rw [highlight_single [] t.start t.stop ctx h]
  simp [pySlice]

/-! ### parser-side position merges (BigQuery INFORMATION_SCHEMA.VIEW → one identifier) -/

/-- the merged node's span is [first.start, last.end]; its column is the last part's column -/
theorem merged_span_is_first_start_last_end (m : Meta) (t1 t2 : Tok) (b : Bool) :
    (mergeSpan m (updatePositions {} (.token t1)) (updatePositions {} (.token t2)) b).start = some (some t1.start) ∧
    (mergeSpan m (updatePositions {} (.token t1)) (updatePositions {} (.token t2)) b).stop = some (some t2.stop) ∧
    (mergeSpan m (updatePositions {} (.token t1)) (updatePositions {} (.token t2)) b).col = some (some t2.col) ∧
    (mergeSpan m (updatePositions {} (.token t1)) (updatePositions {} (.token t2)) b).line =
      some (some (if b then t2.line else t1.line)) := by
  cases b <;> exact ⟨rfl, rfl, rfl, rfl⟩

/-- END TO END: two tokens of a complete run, the first before the second: the merged span contains both lexemes, lies inside the
    input, and — with the line taken from the last part — its line/col are the reference position of its last character -/
theorem merged_span_covers_tokens (cfg : Cfg) (sql : Sql) (st : St) (t1 t2 : Tok) (m : Meta)
    (hC : cleanCfg cfg = true) (hW : WF sql) (h : lex cfg sql = .ok st) (h1 : t1 ∈ st.toks) (h2 : t2 ∈ st.toks)
    (hord : t1.stop < t2.start) :
    t1.start ≤ t1.stop ∧ t1.stop < t2.start ∧ t2.start ≤ t2.stop ∧ t2.stop < sql.size ∧
    (mergeSpan m (updatePositions {} (.token t1)) (updatePositions {} (.token t2)) true).line = some (some (lineOf sql t2.stop)) ∧
    (∃ c, (mergeSpan m (updatePositions {} (.token t1)) (updatePositions {} (.token t2)) true).col = some (some c) ∧
      c + crlfAdj sql t2.stop = colOf sql t2.stop) := by
  have b1 := lex_tokens_inside cfg sql st hW h t1 h1
  have b2 := lex_tokens_inside cfg sql st hW h t2 h2
  have hl := lex_line_col_exact cfg sql st hC hW h t2 h2
  refine ⟨b1.1, hord, b2.1, b2.2, ?_, t2.col, rfl, hl.2⟩
  show some (some t2.line) = _
  rw [hl.1]

/-- CLEAN-TREE DEFECT: the merge takes `line` from the FIRST part and `col` from the LAST part, so when the two
    parts stand on different lines the recorded (line, col) is not the position of any character of the span's end -/
theorem merged_span_line_witness (m : Meta) (t1 t2 : Tok) (h : t1.line ≠ t2.line) :
    (mergeSpan m (updatePositions {} (.token t1)) (updatePositions {} (.token t2)) false).line ≠ some (some t2.line) := by
  intro hc
  have : t1.line = t2.line := by
    have := (merged_span_is_first_start_last_end m t1 t2 false).2.2.2
    rw [this] at hc
    simpa using hc
  exact h this

/-- STRUCTURE FACTS (ast): the keyword form of `update_positions` assigns all four position keys unconditionally (no `if v`
    filter, so an offset of 0 is recorded), and every parser call site that uses the keyword form passes all four keys -/
theorem update_positions_keyword_form_ok :
    updatePositionsKeywordBranch = ["meta = self.meta", "meta['line'] = line", "meta['col'] = col", "meta['start'] = start",
      "meta['end'] = end"] ∧
    positionMergeSites ≠ [] ∧ positionMergeSites.all (fun s => s.2 == ["col", "end", "line", "start"]) = true := by decide

/-- the hypotheses of `highlight_selects` are satisfiable and the result is the expected lexeme -/
example : (highlightSql "SELECT foo FROM".toList [(7, 9)] 3).highlight = "foo".toList
    ∧ (highlightSql "SELECT foo FROM".toList [(7, 9)] 3).startCtx = "CT ".toList := by decide +kernel

/-- The complete runs of the model that the examples and witnesses below read off, evaluated in one declaration: nearly all
    of the kernel's work on a run is decoding the string tables of `baseCfg` (`String.toList`), and it does that once per
    declaration, not once per run.  Entries: type, line, col, start, end, reference line, reference col. -/
theorem concrete_runs :
    (runSummary baseCfg "select a\r\n , 'x\ny' -- c\rfrom t" ==
      some (false, [("VAR", 1, 6, 0, 5, 1, 6), ("VAR", 1, 8, 7, 7, 1, 8), ("COMMA", 2, 2, 11, 11, 2, 2),
        ("STRING", 3, 2, 13, 17, 3, 2), ("VAR", 4, 4, 24, 27, 4, 4), ("VAR", 4, 6, 29, 29, 4, 6)])) = true ∧
    (runSummary { baseCfg with hasHex := true, hasBit := true } "0x1F 0b12 0X_ff x" ==
      some (false, [("HEX_STRING", 1, 4, 0, 3, 1, 4), ("IDENTIFIER", 1, 9, 5, 8, 1, 9), ("HEX_STRING", 1, 15, 10, 14, 1, 15),
        ("VAR", 1, 17, 16, 16, 1, 17)])) = true ∧
    (runSummary { baseCfg with fixLoneCR := false } "'a\rb' x" ==
      some (true, [("STRING", 1, 5, 0, 4, 2, 2), ("VAR", 1, 7, 6, 6, 2, 4)])) = true ∧
    (runSummary { baseCfg with fixLoneCR := true } "'a\rb' x" ==
      some (false, [("STRING", 2, 2, 0, 4, 2, 2), ("VAR", 2, 4, 6, 6, 2, 4)])) = true ∧
    (runSummary { baseCfg with fixKwJump := false } "GROUP\nBY x" ==
      some (true, [("GROUP_BY", 1, 8, 0, 7, 2, 2), ("VAR", 1, 10, 9, 9, 2, 4)])) = true ∧
    (runSummary { baseCfg with fixKwJump := true } "GROUP\nBY x" ==
      some (false, [("GROUP_BY", 2, 2, 0, 7, 2, 2), ("VAR", 2, 4, 9, 9, 2, 4)])) = true := by decide +kernel

/-- multi-line input with CRLF, a lone CR, a comment and a string spanning lines: no jump skipped a line break and every
    token's (line, col) equals the reference (lineOf, colOf) of its end offset -/
example :
    (runSummary baseCfg "select a\r\n , 'x\ny' -- c\rfrom t").map
      (fun r => (r.1, r.2.length, r.2.all (fun t => t.2.1 == t.2.2.2.2.2.1 && t.2.2.1 == t.2.2.2.2.2.2)))
      = some (false, 6, true) := by rw [eq_of_beq concrete_runs.1]; rfl

/-- the hypotheses of the whole-run theorems are satisfiable: a concrete run returns tokens on a WF input -/
example : WF (asciiSql "select a\r\n , 'x\ny' -- c\rfrom t") ∧
    (runSummary baseCfg "select a\r\n , 'x\ny' -- c\rfrom t").isSome = true :=
  ⟨ascii_wf _, by rw [eq_of_beq concrete_runs.1]; rfl⟩

/-- 0x / 0b literals (dialects that have them) are inside the model: `int(value, base)` decides HEX_STRING vs IDENTIFIER -/
example :
    (runSummary { baseCfg with hasHex := true, hasBit := true } "0x1F 0b12 0X_ff x").map (fun r => (r.1, r.2.map (·.1))) =
      some (false, ["HEX_STRING", "IDENTIFIER", "HEX_STRING", "VAR"]) := by rw [eq_of_beq concrete_runs.2.1]; rfl

/-- CLEAN-TREE DEFECT 1 (DESIGN §6): a lone CR inside a simple string literal.  With the str.find fast path as it was before
    /repo 0bd1f96 the string and the following token are reported on line 1; their end offsets are on line 2
    (entries: type, line, col, start, end, reference line, reference col). -/
theorem fast_string_lone_cr_witness :
    (runSummary { baseCfg with fixLoneCR := false } "'a\rb' x" ==
      some (true, [("STRING", 1, 5, 0, 4, 2, 2), ("VAR", 1, 7, 6, 6, 2, 4)])) = true :=
  concrete_runs.2.2.1

/-- … and with the fast path declining literals that contain a CR (/repo 0bd1f96) the slow path is exact -/
theorem fast_string_fixed_witness :
    (runSummary { baseCfg with fixLoneCR := true } "'a\rb' x" ==
      some (false, [("STRING", 2, 2, 0, 4, 2, 2), ("VAR", 2, 4, 6, 6, 2, 4)])) = true :=
  concrete_runs.2.2.2.1

/-- CLEAN-TREE DEFECT 2: a whitespace-folded multi-word keyword across a line break is jumped over with one `_advance(n)`;
    second component: the repaired behaviour (one character at a time) -/
theorem keyword_jump_break_witness :
    (runSummary { baseCfg with fixKwJump := false } "GROUP\nBY x" ==
      some (true, [("GROUP_BY", 1, 8, 0, 7, 2, 2), ("VAR", 1, 10, 9, 9, 2, 4)])) = true ∧
    (runSummary { baseCfg with fixKwJump := true } "GROUP\nBY x" ==
      some (false, [("GROUP_BY", 2, 2, 0, 7, 2, 2), ("VAR", 2, 4, 9, 9, 2, 4)])) = true :=
  ⟨concrete_runs.2.2.2.2.1, concrete_runs.2.2.2.2.2⟩

/-- TABLE FACT (re-extracted from every dialect's tokenizer class on each run, finite table decided completely):
    no string / identifier / comment delimiter, string prefix or escape character of any dialect contains a CR, LF or blank —
    so the jumps `_advance(len(delimiter))` never pass over a line break and keyword-trie matches of delimiters are unfolded text -/
theorem generated_delims_ok :
    dialectDelims.all (fun d => d.2.all (fun s => s.toList.all (fun c => c != '\n' && c != '\r' && c != ' ' && c != '\t'))) = true := by
  decide +kernel

/-- the base configuration used by the witnesses is the generated one and carries the generated repair flags -/
theorem generated_flags_consistent :
    baseCfg.fixLoneCR = fixLoneCR ∧ baseCfg.fixKwJump = fixKwJump ∧ baseCfg.fixEscJump = fixEscJump := ⟨rfl, rfl, rfl⟩

end SqlglotModel.Properties.C13
