/-
  C14 — Error levels change how problems are reported, never what is produced.
  Only property theorems, non-vacuity examples and witnesses live here.  Every theorem quantifies over ALL rule tables,
  programs of the combinator language, chunked token inputs, fuel, max_errors and max_nodes (Model/Levels.lean).
  `run cfg fuel p L` = the parse of program `p` started from `Parser.reset()` at level `L`.
  Premises of the form `run … .warn = .ok t sw` say "the WARN run terminates" (termination is C05's subject):
  the RAISE / IMMEDIATE runs stop earlier, the WARN run carries on, so it is the one that may run out of fuel.
-/
import SqlglotModel.Proofs.Levels
import SqlglotModel.Generated.C14

namespace SqlglotModel.Properties.C14
open SqlglotModel.Levels

/-- **IGNORE and WARN never raise and return the same trees**, for every rule table, program, chunked input,
    fuel, max_errors and max_nodes. (`ctl` = tokens, position, chunk index, node counter.) -/
theorem ignore_warn_same (cfg : Cfg) (fuel : Nat) (p : Comb) :
    (∀ e s, run cfg fuel p .ignore ≠ .exc e s) ∧ (∀ e s, run cfg fuel p .warn ≠ .exc e s) ∧
    (∀ t s, run cfg fuel p .warn = .ok t s → ∃ s', run cfg fuel p .ignore = .ok t s' ∧ s'.ctl = s.ctl) ∧
    (∀ t s, run cfg fuel p .ignore = .ok t s → ∃ s', run cfg fuel p .warn = .ok t s' ∧ s'.ctl = s.ctl) ∧
    (run cfg fuel p .ignore = .diverge ↔ run cfg fuel p .warn = .diverge) := by
  rcases (run_sim cfg fuel p .ignore).of_lenient .ignore with ⟨t, a, b, e1, e2, hc⟩ | ⟨e1, e2⟩ <;> rw [e1, e2]
  · refine ⟨by simp, by simp, ?_, ?_, by simp⟩
    · intro t s e; cases e; exact ⟨_, rfl, hc⟩
    · intro t s e; cases e; exact ⟨_, rfl, hc.symm⟩
  · simp

/-- **RAISE raises exactly when WARN logged at least one error** (WARN run terminating with state `sw`);
    when RAISE returns it returns WARN's tree. -/
theorem raise_iff_warn_logs (cfg : Cfg) (fuel : Nat) (p : Comb) (t : Tree) (sw : St)
    (hw : run cfg fuel p .warn = .ok t sw) :
    ((∃ e s, run cfg fuel p .raise = .exc e s) ↔ ∃ b ∈ sw.log, b ≠ []) ∧
    (∀ t' s, run cfg fuel p .raise = .ok t' s → t' = t ∧ s.ctl = sw.ctl) ∧
    run cfg fuel p .raise ≠ .diverge :=
  ⟨(run_raises_iff hw .raise).trans stopOf_raise_isSome, (run_of_warn hw .raise).2⟩

/-- **RAISE reports all collected errors**: the exception carries exactly the batch WARN logged at that
    `check_errors` call (the first non-empty batch), it is non-empty, and the message is `concat_messages` of it. -/
theorem raise_reports_all (cfg : Cfg) (fuel : Nat) (p : Comb) (t : Tree) (sw : St) (e : Exn) (s : St)
    (hw : run cfg fuel p .warn = .ok t sw) (hr : run cfg fuel p .raise = .exc e s) :
    firstNonempty sw.log = some e.errors ∧ e.errors ≠ [] ∧ e = Exn.collected e.errors cfg.maxErrors := by
  obtain ⟨b, hb, rfl⟩ := stopOf_raise_eq_some.1 ((run_raises hw .raise e).1 ⟨s, hr⟩)
  exact ⟨hb, (firstNonempty_some_mem hb).2, rfl⟩

/-- **the message renders at most `max_errors` errors** (no termination premise): whenever the RAISE run
    raises, the exception is `ParseError(concat_messages(errors, max_errors), errors)`. -/
theorem message_at_most_max (cfg : Cfg) (fuel : Nat) (p : Comb) (e : Exn) (s : St)
    (hr : run cfg fuel p .raise = .exc e s) :
    e.rendered = e.errors.take cfg.maxErrors ∧ e.rendered.length ≤ cfg.maxErrors ∧
    e.more = e.errors.length - cfg.maxErrors := by
  obtain ⟨sm, hs, _⟩ := (hr ▸ run_sim cfg fuel p .raise).raised
  obtain ⟨b, _, rfl⟩ := stopOf_raise_eq_some.1 hs
  simp [Exn.collected, concatMessages, List.length_take, Nat.min_le_left]

/-- **IMMEDIATE raises the first error**: it raises iff the WARN run collected an error, the exception is that
    first error alone, and when it returns it returns WARN's tree. -/
theorem immediate_is_first (cfg : Cfg) (fuel : Nat) (p : Comb) (t : Tree) (sw : St)
    (hw : run cfg fuel p .warn = .ok t sw) :
    ((∃ e s, run cfg fuel p .immediate = .exc e s) ↔ sw.errors ≠ []) ∧
    (∀ e s, run cfg fuel p .immediate = .exc e s → ∃ m, sw.errors.head? = some m ∧ e = Exn.single m) ∧
    (∀ t' s, run cfg fuel p .immediate = .ok t' s → t' = t ∧ s.ctl = sw.ctl) ∧
    run cfg fuel p .immediate ≠ .diverge :=
  ⟨(run_raises_iff hw .immediate).trans stopOf_immediate_isSome,
    fun e s hr => (stopOf_immediate_eq_some.1 ((run_raises hw .immediate e).1 ⟨s, hr⟩)).imp fun _ hm => ⟨hm.1, hm.2.symm⟩,
    (run_of_warn hw .immediate).2⟩

/-- **`_try_parse` restores the level — also on the exception path — never raises, and leaves `errors`
    and the log alone**, whatever the body does and whatever the level at entry. -/
theorem try_parse_restores_level (cfg : Cfg) (fuel : Nat) (c : Comb) (retreat : Bool) (s : St) :
    match exec cfg fuel (.tryParse c retreat) s with
    | .ok _ s' => s'.level = s.level ∧ s'.errors = s.errors ∧ s'.log = s.log
    | .exc _ _ => False
    | .diverge => True := by
  cases fuel with
  | zero => trivial
  | succ n =>
    rw [exec_tryParse]
    exact s.tryResult_keeps retreat _

/-- every program — not only `_try_parse` — hands the level back unchanged, on both paths -/
theorem level_preserved (cfg : Cfg) (fuel : Nat) (c : Comb) (s : St) :
    (∀ t s', exec cfg fuel c s = .ok t s' → s'.level = s.level) ∧
    (∀ e s', exec cfg fuel c s = .exc e s' → s'.level = s.level) := by
  have f := exec_frame cfg fuel c s
  constructor
  · intro t s' h; rw [h] at f; exact f.level
  · intro e s' h; rw [h] at f; exact f.1.level

/-- **inside `_try_parse` the outer level is irrelevant**: from two states that agree on what the parser can
    see (tokens, position, chunk, node counter) but carry ANY two levels / error lists, `_try_parse` gives the
    same result and the same control state. -/
theorem try_parse_level_independent (cfg : Cfg) (fuel : Nat) (c : Comb) (retreat : Bool) (s1 s2 : St)
    (h : s1.ctl = s2.ctl) :
    match exec cfg fuel (.tryParse c retreat) s1, exec cfg fuel (.tryParse c retreat) s2 with
    | .ok t1 a, .ok t2 b => t1 = t2 ∧ a.ctl = b.ctl
    | .diverge, .diverge => True
    | _, _ => False := by
  cases fuel with
  | zero => trivial
  | succ n =>
    rw [exec_tryParse, exec_tryParse]
    have hb := exec_sim (cfg := cfg) n c
      (.inTry (s1 := { s1 with level := .immediate }) (s2 := { s2 with level := .immediate }) h rfl rfl)
    rcases St.tryResult_lockstep s1 s2 retreat hb with ⟨t, a, b, hc, e1, e2⟩ | ⟨e1, e2⟩ <;> rw [e1, e2]
    · exact ⟨rfl, St.leaveTry_ctl (ctl_eq h).2.1 hc _ _⟩
    · trivial

/-- every batch WARN logs (one per `check_errors`, i.e. per statement) is a prefix of the errors collected in the end:
    errors are never removed, each later statement's batch repeats the earlier ones and appends its own -/
theorem warn_batches_are_prefixes (cfg : Cfg) (fuel : Nat) (p : Comb) (t : Tree) (sw : St)
    (hw : run cfg fuel p .warn = .ok t sw) : ∀ b ∈ sw.log, ∃ rest, sw.errors = b ++ rest := by
  have f := exec_frame cfg fuel p (init .warn)
  rw [show exec cfg fuel p (init .warn) = .ok t sw from hw] at f
  exact f.logInv (init_inv .warn)

/-- **IMMEDIATE raises the first of the errors RAISE reports**: if RAISE raises `e`, IMMEDIATE raises exactly
    the head of `e.errors` (needs the WARN run to terminate, through which the two are related). -/
theorem immediate_first_of_raise (cfg : Cfg) (fuel : Nat) (p : Comb) (t : Tree) (sw : St) (e : Exn) (s : St)
    (hw : run cfg fuel p .warn = .ok t sw) (hr : run cfg fuel p .raise = .exc e s) :
    ∃ m s', e.errors.head? = some m ∧ run cfg fuel p .immediate = .exc (Exn.single m) s' := by
  obtain ⟨hfb, hne, _⟩ := raise_reports_all cfg fuel p t sw e s hw hr
  obtain ⟨r, hr'⟩ := warn_batches_are_prefixes cfg fuel p t sw hw _ (firstNonempty_some_mem hfb).1
  -- the WARN run's errors begin with `e.errors`, which is not empty: IMMEDIATE stops at its head
  cases he : e.errors with
  | nil => exact (hne he).elim
  | cons m ms =>
    obtain ⟨s', hi⟩ := (run_raises hw .immediate (Exn.single m)).2 (by rw [hr', he]; rfl)
    exact ⟨m, s', rfl, hi⟩

/-- **`raise_reports_all` across chunks**: in a script, RAISE stops at the first statement that leaves errors behind and reports
    ALL errors collected up to and including that statement, in order — they are an initial segment of what the WARN run
    collects over the whole script (`rest` = the errors of the later statements, which RAISE never reaches). -/
theorem raise_errors_prefix_of_warn (cfg : Cfg) (fuel : Nat) (p : Comb) (t : Tree) (sw : St) (e : Exn) (s : St)
    (hw : run cfg fuel p .warn = .ok t sw) (hr : run cfg fuel p .raise = .exc e s) :
    ∃ rest, sw.errors = e.errors ++ rest :=
  warn_batches_are_prefixes cfg fuel p t sw hw _
    (firstNonempty_some_mem (raise_reports_all cfg fuel p t sw e s hw hr).1).1

/-- `merge_errors` over errors produced by `raise_error` (one dict each) neither drops nor reorders anything, and the
    rendered part of the message is a prefix of it of length min(max_errors, n) -/
theorem merge_errors_singletons (es : List Msg) (mx : Nat) :
    mergeErrors (es.map fun m => [m]) = es ∧
    (concatMessages es mx).1 = es.take mx ∧ (concatMessages es mx).1.length = min mx es.length ∧
    (concatMessages es mx).2 + (concatMessages es mx).1.length = es.length := by
  refine ⟨?_, rfl, by simp [concatMessages, List.length_take], ?_⟩
  · induction es with
    | nil => rfl
    | cons m ms ih => simpa [mergeErrors] using ih
  · simp only [concatMessages, List.length_take]; omega

/-- programs that use no propagating sub-parser and no direct `raise ParseError` behave exactly as their `Comb` image,
    so every theorem above holds for them -/
theorem xrun_confined (cfg : Cfg) (fuel : Nat) (x : XComb) (l : Level) (h : x.confined = true) :
    xrun cfg fuel x l = run cfg fuel x.toComb l := xexec_confined cfg fuel x (init l) h

/-- PARTIAL (side condition: `x.confined` — no direct-raising builder reached, sub-parser errors confined):
    IGNORE and WARN never raise and return the same trees -/
theorem x_ignore_warn_same_partial (cfg : Cfg) (fuel : Nat) (x : XComb) (h : x.confined = true) :
    (∀ e s, xrun cfg fuel x .ignore ≠ .exc e s) ∧ (∀ e s, xrun cfg fuel x .warn ≠ .exc e s) ∧
    (∀ t s, xrun cfg fuel x .warn = .ok t s → ∃ s', xrun cfg fuel x .ignore = .ok t s' ∧ s'.ctl = s.ctl) := by
  rw [xrun_confined cfg fuel x _ h, xrun_confined cfg fuel x _ h]
  have := ignore_warn_same cfg fuel x.toComb
  exact ⟨this.1, this.2.1, this.2.2.1⟩

/-- PARTIAL (same side condition): RAISE raises iff WARN logged an error; IMMEDIATE raises iff WARN collected one -/
theorem x_strict_iff_warn_partial (cfg : Cfg) (fuel : Nat) (x : XComb) (h : x.confined = true) (t : Tree) (sw : St)
    (hw : xrun cfg fuel x .warn = .ok t sw) :
    ((∃ e s, xrun cfg fuel x .raise = .exc e s) ↔ ∃ b ∈ sw.log, b ≠ []) ∧
    ((∃ e s, xrun cfg fuel x .immediate = .exc e s) ↔ sw.errors ≠ []) := by
  rw [xrun_confined cfg fuel x _ h] at hw ⊢
  rw [xrun_confined cfg fuel x _ h]
  exact ⟨(raise_iff_warn_logs cfg fuel x.toComb t sw hw).1, (immediate_is_first cfg fuel x.toComb t sw hw).1⟩

/-- a direct raise and a propagating sub-parser are blind to the outer level and to the errors collected so far -/
theorem hard_error_level_blind (cfg : Cfg) (n : Nat) (m : Msg) (l : Level) (toks : List Nat) (body : XComb) (s1 s2 : St) :
    xexec cfg (n + 1) (.hardRaise m) s1 = .exc (Exn.single m) s1 ∧
    (xexec cfg (n + 1) (.subParse l toks body) s1).tree? = (xexec cfg (n + 1) (.subParse l toks body) s2).tree? ∧
    ((∃ e, (xexec cfg (n + 1) (.subParse l toks body) s1).obs = .raised e s1.level) ↔
      ∃ e, (xexec cfg (n + 1) (.subParse l toks body) s2).obs = .raised e s2.level) := by
  refine ⟨rfl, ?_, ?_⟩ <;> simp only [xexec] <;>
    generalize xexec cfg n body { level := l, toks := toks } = r <;> cases r <;> simp [subPropagate, Res.tree?, Res.obs]

def xCfg : Cfg := { rules := [], chunks := [], maxErrors := 3, maxNodes := none }

/-- **counter-example to the full statement (known finding C14-hint-subparser-raises)**: `SELECT /*+ */ 1`.  `_parse_hint`
    re-parses the hint comment in a sub-parser at the default level IMMEDIATE; the sub-parser's error (message 7) is not routed
    through the outer `raise_error`, so the IGNORE and the WARN run RAISE it, WARN logs nothing, and yet RAISE raises too. -/
theorem hint_subparser_counterexample :
    let x : XComb := .seq 0 (.subParse .immediate [] (.core (.raiseError 7))) (.core .checkErrors)
    (xrun xCfg 9 x .ignore).obs = .raised (Exn.single 7) .ignore ∧
    (xrun xCfg 9 x .warn).obs = .raised (Exn.single 7) .warn ∧
    (xrun xCfg 9 x .raise).obs = .raised (Exn.single 7) .raise ∧ x.confined = false := by decide +kernel

/-- the same sub-parser with its error confined (what `to_json_path` does, and what a repair of `_parse_hint` would do):
    all four levels return, nothing is logged -/
theorem hint_subparser_confined_ok :
    let c : Comb := .node 0 (.subConfined .immediate [] (.raiseError 7)) .checkErrors
    (run xCfg 9 c .ignore).obs = .returned [] [] .ignore ∧ (run xCfg 9 c .warn).obs = .returned [] [[]] .warn ∧
    (run xCfg 9 c .raise).obs = .returned [] [] .raise ∧ (run xCfg 9 c .immediate).obs = .returned [] [] .immediate := by
  decide +kernel

/-- **counter-example to the full statement (known finding C14-builder-raises-parseerror; also `alias_(None)`)**: a builder
    that raises ParseError directly (message 9) after an ordinary error (message 4, collected): the lenient runs raise 9;
    RAISE raises 9 alone although it had collected 4; IMMEDIATE raises 4, which is not what the others report. -/
theorem builder_direct_raise_counterexample :
    let x : XComb := .seq 0 (.core (.raiseError 4)) (.seq 0 (.hardRaise 9) (.core .checkErrors))
    (xrun xCfg 9 x .ignore).obs = .raised (Exn.single 9) .ignore ∧
    (xrun xCfg 9 x .warn).obs = .raised (Exn.single 9) .warn ∧
    (xrun xCfg 9 x .raise).obs = .raised (Exn.single 9) .raise ∧
    (xrun xCfg 9 x .immediate).obs = .raised (Exn.single 4) .immediate := by decide +kernel

/-- PARTIAL (side condition `gNoHard p`: no direct `raise UnsupportedError` is reached):
    **IGNORE, WARN and RAISE yield the same SQL text whenever they return**; IGNORE and WARN always return,
    IGNORE logs nothing, WARN logs every message in order. -/
theorem unsupported_levels_partial (mx : Nat) (p : GComb) (hn : gNoHard p = true) :
    generate .ignore mx p = .returned (gtext p) [] ∧
    generate .warn mx p = .returned (gtext p) (gmsgs p) ∧
    (∀ sql lg, generate .raise mx p = .returned sql lg → sql = gtext p ∧ lg = []) ∧
    (∀ sql lg, generate .immediate mx p = .returned sql lg → sql = gtext p ∧ lg = []) := by
  refine ⟨generate_spec .ignore mx p hn, generate_spec .warn mx p hn, fun sql lg h => ?_, fun sql lg h => ?_⟩
  · simp only [generate_spec .raise mx p hn] at h
    split at h <;> cases h
    exact ⟨rfl, rfl⟩
  · simp only [generate_spec .immediate mx p hn] at h
    split at h <;> cases h
    exact ⟨rfl, rfl⟩

/-- PARTIAL (same side condition): **RAISE raises exactly when WARN logs an unsupported message**, and its message is
    `concat_messages` of all of them: at most `max_unsupported` rendered, then "... and k more". -/
theorem unsupported_raise_iff_warn_logs_partial (mx : Nat) (p : GComb) (hn : gNoHard p = true) :
    ((∃ r k, generate .raise mx p = .raised r k) ↔ gmsgs p ≠ []) ∧
    (∀ r k, generate .raise mx p = .raised r k →
      r = (gmsgs p).take mx ∧ r.length ≤ mx ∧ k = (gmsgs p).length - mx) := by
  simp only [generate_spec .raise mx p hn]
  by_cases h0 : gmsgs p = []
  · simp [h0]
  · simp only [ne_eq, h0, not_false_eq_true, if_true, GOut.raised.injEq, iff_true]
    refine ⟨⟨_, _, rfl, rfl⟩, ?_⟩
    rintro r k ⟨rfl, rfl⟩
    exact ⟨rfl, by simp [List.length_take, Nat.min_le_left], rfl⟩

/-- PARTIAL (same side condition): **IMMEDIATE raises exactly when WARN logs a message, and raises the first one** -/
theorem immediate_raises_first_partial (mx : Nat) (p : GComb) (hn : gNoHard p = true) :
    ((∃ r k, generate .immediate mx p = .raised r k) ↔ gmsgs p ≠ []) ∧
    (∀ r k, generate .immediate mx p = .raised r k → ∃ m, (gmsgs p).head? = some m ∧ r = [m] ∧ k = 0) := by
  simp only [generate_spec .immediate mx p hn]
  cases gmsgs p <;> simp

/-- **counter-example to the full statement (known findings C14-hard-unsupported-1..3)**: a direct
    `raise UnsupportedError` (exasol GROUP BY ALL, `unnest_to_explode`): IGNORE and WARN raise as well, WARN logs nothing,
    and the one `self.unsupported` message collected before it (1) is lost under RAISE. -/
theorem hard_unsupported_counterexample :
    let p : GComb := .seq (.unsupported 1) (.seq (.hard 5) (.text "x"))
    generate .ignore 3 p = .raised [5] 0 ∧ generate .warn 3 p = .raised [5] 0 ∧
    generate .raise 3 p = .raised [5] 0 ∧ generate .immediate 3 p = .raised [1] 0 ∧ gNoHard p = false := by decide +kernel

/-- **without a return in `finally`, `preprocess` is exactly "report the transform's message, then go on"**: the direct
    `raise UnsupportedError` of a transform is routed through `self.unsupported` (under IMMEDIATE the raise propagates).
    Read as a program the right-hand side is `.seq (.unsupported m) rest`: `preprocessStep_eq_seq` and
    `generatePre_eq_generate` (Proofs/Levels) say so, and through them every level theorem above applies to the step -/
theorem preprocess_propagates (raised : Option Msg) (rest : GComb) (s : GSt) :
    preprocessStep false raised rest s =
      match raised with
      | none => gexec rest s
      | some m => (unsupported m s).bind fun _ s1 => gexec rest s1 := by
  cases raised with
  | none => rfl
  | some m => simp only [preprocessStep, GRes.bind]; cases unsupported m s <;> rfl

/-- two instances, through `generatePre_eq_generate`: IMMEDIATE raises the transform's message, WARN logs it first -/
theorem preprocess_immediate_raises (mx : Nat) (m : Msg) (rest : GComb) :
    generatePre .immediate mx false (some m) rest = .raised [m] 0 ∧
    (gNoHard rest = true → generatePre .warn mx false (some m) rest = .returned (gtext rest) (m :: gmsgs rest)) := by
  refine ⟨by rw [generatePre_eq_generate]; rfl, fun hn => ?_⟩
  rw [generatePre_eq_generate, generate_spec .warn mx _ (by simpa [gNoHard] using hn)]
  simp [gtext, gmsgs]

/-- **witness: `finally: return expression` swallows the IMMEDIATE raise** (seeded regression C14-6): WARN logs the message,
    RAISE raises, IMMEDIATE returns the SQL without raising — the contract "IMMEDIATE raises exactly when WARN logs" is broken -/
theorem return_in_finally_swallows_immediate :
    generatePre .warn 3 true (some 7) (.text "x") = .returned "x" [7] ∧
    generatePre .raise 3 true (some 7) (.text "x") = .raised [7] 0 ∧
    generatePre .immediate 3 true (some 7) (.text "x") = .returned "x" [] ∧
    generatePre .immediate 3 false (some 7) (.text "x") = .raised [7] 0 := by decide +kernel

/-- the source fact behind `preprocess_propagates`: nowhere between a raise site and its caller does a `return` / `break` /
    `continue` sit in a `finally:` block, and the handlers that could swallow a sqlglot error are the audited ones -/
theorem no_exception_swallowing_on_unsupported_path :
    SqlglotModel.Generated.C14.exceptionFlowSites = expectedExceptionFlowSites ∧
    (SqlglotModel.Generated.C14.exceptionFlowSites.filter fun e => e.2.2.1 == "jump-in-finally") = [] :=
  ⟨rfl, by decide +kernel⟩

/-- `generate` starts from an empty message list: what an earlier call on the same Generator left behind is irrelevant -/
theorem generate_resets_messages (l : Level) (mx : Nat) (p : GComb) (stale : List Msg) :
    generate l mx p stale = generate l mx p [] := rfl

/-! ### the tie to the source: the level-dependent places are exactly the ones the lemmas account for -/

/-- every read/write site of `error_level` / `errors` / `unsupported_level` / `unsupported_messages`, every handler that
    could swallow a ParseError / UnsupportedError and every caller of `check_errors`, as extracted from the current
    source, is the list the model was written against (finite table, decided completely) -/
theorem level_sites_ok : SqlglotModel.Generated.C14.sites = expectedSites := rfl

/-- the level-relevant statement skeletons of raise_error, validate_expression, _try_parse (incl. the `finally` restore),
    check_errors, concat_messages, Generator.unsupported and Generator.generate are the mirrored ones -/
theorem level_skeletons_ok : SqlglotModel.Generated.C14.skeletons = expectedSkeletons := rfl

/-- the `raise ParseError(…)` statements on the parsing side are the audited ones: a NEW direct raise breaks the build -/
theorem direct_raise_sites_ok :
    SqlglotModel.Generated.C14.parseErrorRaiseSites = expectedParseErrorRaiseSites ∧
    SqlglotModel.Generated.C14.unsupportedRaiseSites = expectedUnsupportedRaiseSites := ⟨rfl, rfl⟩

/-- the nested parser / tokenizer constructions reachable from parsing (with the error_level they pass) are the audited ones -/
theorem nested_parser_sites_ok : SqlglotModel.Generated.C14.nestedParserSites = expectedNestedParserSites := rfl

/-! ### non-vacuity: a program that fails inside a speculative branch, then collects two errors -/

def demoCfg : Cfg := { rules := [], chunks := [[7, 8], [9]], maxErrors := 1, maxNodes := none }
/-- per chunk: `_try_parse(raise_error 5)`; `validate` a node with a missing slot (message 6); `raise_error 4` -/
def demoStmt : Comb :=
  .node 0 (.tryParse (.node 0 (.tok 7) (.raiseError 5)) false)
    (.node 0 (.validate [(1, 6)] (.node 3 (.tok 7) .eps)) (.raiseError 4))
def demo : Comb := batch demoStmt 99

example : (run demoCfg 50 demo .warn).obs = .returned [6, 4, 99, 6, 4, 99] [[6, 4, 99], [6, 4, 99, 6, 4, 99]] .warn := by decide +kernel
example : (run demoCfg 50 demo .ignore).obs = .returned [4, 99, 4, 99] [] .ignore := by decide +kernel
example : (run demoCfg 50 demo .ignore).tree? = (run demoCfg 50 demo .warn).tree? := by decide +kernel
example : (run demoCfg 50 demo .raise).obs = .raised ⟨[6, 4, 99], [6], 2⟩ .raise := by decide +kernel
example : (run demoCfg 50 demo .immediate).obs = .raised (Exn.single 6) .immediate := by decide +kernel

/-- **why the restore must sit in `finally`**: with the level restored, an error after a failed speculative branch is
    collected under WARN; had `_try_parse` left the level at IMMEDIATE (restore only on the normal path) the same
    `raise_error` would escape from the WARN run — the witness the failing-input search replays on the real code. -/
theorem unrestored_level_witness :
    (exec demoCfg 9 (.node 0 (.tryParse (.raiseError 5) false) (.raiseError 4)) (init .warn)).obs = .returned [4] [] .warn ∧
    (raiseError 4 { level := .immediate }).obs = .raised (Exn.single 4) .immediate := by decide +kernel

example : generate .raise 1 (.seq (.unsupported 1) (.unsupportedArgs [(true, 2), (false, 3)] (.text "x"))) = .raised [1] 1 := by
  decide +kernel
example : generate .warn 1 (.seq (.unsupported 1) (.unsupportedArgs [(true, 2), (false, 3)] (.text "x"))) = .returned "x" [1, 2] := by
  decide +kernel

end SqlglotModel.Properties.C14
