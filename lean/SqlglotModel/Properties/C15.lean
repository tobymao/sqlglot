/-
  C15 — Results are deterministic and independent of earlier calls.
  Only property theorems, non-vacuity examples and witnesses live here.
  (a) holds for ALL operand lists / graphs; (b) `reuse_eq_fresh` holds for ALL field-write histories and is instantiated
  with the field lists extracted from the source on this run (Generated/C15.lean); the instantiation premises are finite
  tables decided completely by `decide`.  (c) process-wide tables filled on demand, (d) Dialect instances, (e) the lookup
  cache of a reused MappingSchema, (f) class constants that hold Expression nodes: each for ALL histories of calls.
-/
import SqlglotModel.Proofs.DeterminismOrder
import SqlglotModel.Proofs.DeterminismState
import SqlglotModel.Generated.C15

namespace SqlglotModel.Properties.C15
open SqlglotModel.Determinism
open SqlglotModel.Generated.C15

/-! ### (a) the order in which a set / dict hands out its elements is irrelevant -/

/-- `sorted(...)` imposes a canonical order: any two enumerations of the same multiset sort to the same list -/
theorem sorted_perm_invariant {xs ys : List Nat} (h : xs.Perm ys) : isort xs = isort ys := isort_perm h

/-- the hypothesis behind it, made explicit: Python's `sorted(xs, key=k)` is stable, so it is independent of the arrival
    order of `xs` exactly as long as DISTINCT elements never tie on the key (`k` injective on what is sorted); `sorted(xs)`
    without a key is the instance `k = id` -/
theorem keyed_sort_perm_invariant (key : Nat → Nat) {xs ys : List Nat} (h : xs.Perm ys)
    (hinj : ∀ a ∈ xs, ∀ b ∈ xs, key a = key b → a = b) : isortBy key xs = isortBy key ys ∧ isortBy id xs = isort xs :=
  ⟨isortBy_perm key h hinj, isortBy_id xs⟩

/-- **witness that the hypothesis is needed**: with a key on which two distinct elements tie (`k x = x / 2`: think of
    `str(node).lower()` on the names `T` and `t`) the result follows the arrival order — for a set, the hash seed -/
theorem keyed_sort_needs_injective_key :
    isortBy (· / 2) [2, 3, 0] = [0, 2, 3] ∧ isortBy (· / 2) [3, 2, 0] = [0, 3, 2] ∧ [2, 3, 0].Perm [3, 2, 0] := by
  refine ⟨by decide, by decide, List.Perm.swap _ _ _⟩

/-- the sort calls of the set-ordering modules (helper.tsort, Simplifier.uniq_sort, …) as extracted from the current source are
    the audited ones, and in particular `tsort` sorts each layer WITHOUT a key function (finite table, decided completely) -/
theorem sort_calls_ok :
    sortCalls = expectedSortCalls ∧
    ((sortCalls.filter fun e => e.2.1 == "tsort").map fun e => (e.2.2.1, e.2.2.2.1)) = [("sorted(current)", "-")] ∧
    ((sortCalls.filter fun e => e.2.1 == "Simplifier.uniq_sort").map fun e => e.2.2.2.1) = ["-"] :=
  ⟨rfl, by decide +kernel, by decide +kernel⟩

/-- **uniq_sort**: whatever order the operands arrive in (AND / OR / XOR), the connector it leaves has the same operands
    in the same order -/
theorem uniq_sort_perm_invariant (xor : Bool) {xs ys : List Nat} (h : xs.Perm ys) :
    uniqSort xor xs = uniqSort xor ys := uniqSort_perm xor h

/-- what that canonical form is: the distinct keys in ascending order (a single repeated operand `A AND A` becomes
    `A AND TRUE`); the "already sorted" / "only duplicates" fast paths do not change it -/
theorem uniq_sort_canonical (xs : List Nat) :
    uniqSort false xs =
      (if (dedupFirst xs).length = 1 ∧ 1 < xs.length then ⟨dedupFirst xs, true⟩ else ⟨isort (dedupFirst xs), false⟩) ∧
    uniqSort true xs = ⟨isort xs, false⟩ ∧
    (isort (dedupFirst xs)).Pairwise (· < ·) ∧ ∀ a, a ∈ isort (dedupFirst xs) ↔ a ∈ xs :=
  ⟨uniqSort_spec xs, uniqSort_xor xs, strict_isort (nodup_dedupFirst xs), fun a => by rw [mem_isort, mem_dedupFirst]⟩

/-- **tsort**: the result (or the cycle error) does not depend on the dict's iteration order -/
theorem tsort_order_independent {d d' : Dag} (h : d.Perm d') : tsort d = tsort d' := tsort_perm h

/-- **remove_complements**: whether `A AND NOT A` is found does not depend on the order the operand set is walked in -/
theorem remove_complements_perm_invariant {xs ys : List Opnd} (h : xs.Perm ys) :
    removeComplements xs = removeComplements ys := removeComplements_perm h

/-- **tsort, inside the dependency sets**: enumerating each node's dependency set in another order changes nothing either;
    together with `tsort_order_independent` every iteration order `tsort` can meet is covered -/
theorem tsort_inner_order_independent {d d' : Dag} (h : InnerEq d d') : tsort d = tsort d' := tsort_innerEq h

/-- **absorb_and_eliminate (absorption)**: which operands are absorbed (`A OR (A AND B) -> A`) does not depend on the order in
    which the operand sets (`set(op.flatten())`, the `for i in superset` loop) hand out their elements -/
theorem absorb_order_independent {ops ops' : List AOp} (h : AOpsEq ops ops') : absorbPass ops = absorbPass ops' :=
  absorbPass_aopsEq h

/-- the same for the superset alone, the operands fixed: the order of the `for i in superset` loop is irrelevant -/
theorem absorbed_superset_order_independent (ops : List AOp) {sup sup' : List Nat} (h : sup.Perm sup') :
    absorbed ops sup = absorbed ops sup' := absorbed_aopsEq (.refl ops) h

/-- **CTE de-duplication in eliminate_subqueries**: `existing_ctes` and `taken` are only ever looked up (never iterated), so
    every decision of a run — the name each derived table / CTE gets, and whether an existing CTE is reused — is the same
    whatever order the two dicts store their entries in (keys of `existing_ctes` distinct, as in any dict) -/
theorem cte_dedup_storage_order_independent {a b : CteSt} (hs : a.Same b) (ha : a.Ok) (xs : List (Nat × Name)) :
    elimAll a xs = elimAll b xs := elimAll_same hs ha xs

example : absorbPass [⟨[1], false⟩, ⟨[2, 1], true⟩, ⟨[3, 4], true⟩] = [false, true, false] ∧
    absorbPass [⟨[1], false⟩, ⟨[1, 2], true⟩, ⟨[4, 3], true⟩] = [false, true, false] := by decide
example : elimAll ⟨[(7, [5])], [[5], [0]]⟩ [(7, []), (8, []), (9, [5]), (8, [6])] =
    [([5], false), ([0, 2], true), ([5, 2], true), ([0, 2], false)] := by decide +kernel

example : uniqSort false [2, 0, 1, 0] = ⟨[0, 1, 2], false⟩ ∧ uniqSort false [0, 1, 2, 0] = ⟨[0, 1, 2], false⟩ ∧
    uniqSort false [3, 3] = ⟨[3], true⟩ ∧ uniqSort true [1, 0, 1] = ⟨[0, 1, 1], false⟩ := by decide
example : tsort [(2, [1]), (1, [0, 5]), (0, [])] = some [0, 5, 1, 2] ∧ tsort [(0, []), (1, [0, 5]), (2, [1])] = some [0, 5, 1, 2] ∧
    tsort [(0, [1]), (1, [0])] = none := by decide
example : removeComplements [.atom 1, .not (.atom 2), .atom 2] = true ∧ removeComplements [.atom 2, .atom 1, .not (.atom 3)] = false := by
  decide

/-! ### (b) a reused component starts every call from the state a new one has -/

/-- **reuse = fresh** for every history: `dirty` is ANY state reached by calls that only wrote fields in `written` -/
theorem reuse_eq_fresh (init reset : Assigns) (written exempt : List String)
    (h1 : resetRepeatsInit init reset = true) (h2 : writesCovered reset written exempt = true)
    (dirty : State) (hd : ∀ f, f ∉ written → dirty f = fresh init f) :
    ∀ f, f ∉ exempt → setAll reset dirty f = fresh init f := by
  intro f hf
  cases hl : lastVal reset f with
  | some w => exact setAll_reset_assigned h1 hl dirty
  | none =>
    -- `reset()` does not assign `f`: no call has written it
    rw [setAll_eq, hl]
    exact hd f fun hw => (mem_of_writesCovered h2 hw).elim (lastVal_eq_none.1 hl) hf

/-- Parser: `reset()` re-assigns `__init__`'s default to every per-call field, every field any parser method (base or
    dialect) writes is among them — except `error_level`, which `_try_parse` hands back itself (C14) — and `_parse`
    begins with `self.reset()` (finite tables from the current source, decided completely) -/
theorem parser_reset_eq_init :
    resetRepeatsInit parserInit parserReset = true ∧ writesCovered parserReset parserWritten ["error_level"] = true ∧
    entryResets.lookup "Parser._parse" = some "true" := by decide +kernel

theorem parser_reuse_eq_fresh (dirty : State) (hd : ∀ f, f ∉ parserWritten → dirty f = fresh parserInit f) :
    ∀ f, f ≠ "error_level" → setAll parserReset dirty f = fresh parserInit f := by
  intro f hf
  exact reuse_eq_fresh parserInit parserReset parserWritten ["error_level"] parser_reset_eq_init.1 parser_reset_eq_init.2.1
    dirty hd f (by simpa using hf)

/-- **try_parse_restores_level_all_exits**: a method of the shape `saved = self.f; self.f = forced; try: body()
    except ParseError: … finally: self.f = saved` hands `f` back on EVERY exit of the body — normal return, ParseError (caught),
    or any other exception (propagates, but the `finally` block has run) — whatever the body does to the state (it may call
    the same method recursively); no other field is touched by the wrapper, and only a non-ParseError exception leaves it -/
theorem try_parse_restores_level_all_exits (forced : String) (body : State → State × Exit) (st : State) :
    (runGuarded .finallyBlock "error_level" forced body st).1 "error_level" = st "error_level" ∧
    (∀ g, g ≠ "error_level" →
      (runGuarded .finallyBlock "error_level" forced body st).1 g = (body (update st "error_level" forced)).1 g) ∧
    (runGuarded .finallyBlock "error_level" forced body st).2 =
      if (body (update st "error_level" forced)).2 = .otherException then .otherException else .normal :=
  ⟨runGuarded_finally_restores _ _ _ _, fun g hg => runGuarded_other_fields _ _ _ _ _ g hg, runGuarded_exit _ _ _ _ _⟩

/-- **witness that `finally` is needed**: with the restoring assignment as plain code after the try statement, a body that
    leaves through an exception other than ParseError (an IndexError from a function builder given too few arguments) keeps
    the forced value — the parser stays at IMMEDIATE, a field `reset()` does not touch; on the two other exits the variants agree -/
theorem try_parse_restore_needs_finally :
    let st : State := fun f => if f = "error_level" then some "WARN" else none
    let crash : State → State × Exit := fun s => (s, .otherException)
    let fails : State → State × Exit := fun s => (s, .parseError)
    (runGuarded .afterTry "error_level" "IMMEDIATE" crash st).1 "error_level" = some "IMMEDIATE" ∧
    (runGuarded .finallyBlock "error_level" "IMMEDIATE" crash st).1 "error_level" = some "WARN" ∧
    (runGuarded .afterTry "error_level" "IMMEDIATE" fails st).1 "error_level" = some "WARN" := by
  decide +kernel

/-- the source fact the two theorems above are applied to: the only parser method (base or dialect) that assigns a field
    which `reset()` does not touch is `_try_parse` on `error_level`, and its restoring assignment sits in a `finally:` block
    (finite table from the current source, decided completely) -/
theorem parser_temporary_writes_restored_in_finally :
    parserRestorePlaces = [("Parser._try_parse", "error_level", "finally")] := rfl

/-- **reuse = fresh over ALL instance fields of a Parser**, `error_level` included: a history of calls leaves the fields that
    `reset()` re-assigns arbitrary and every other field as constructed — for `error_level` that is what
    `try_parse_restores_level_all_exits` + `parser_temporary_writes_restored_in_finally` give — and then `reset()` makes the
    object indistinguishable from a new one -/
theorem parser_reuse_eq_fresh_all_fields (dirty : State) (hd : ∀ f, f ∉ parserWritten → dirty f = fresh parserInit f)
    (hl : dirty "error_level" = fresh parserInit "error_level") :
    ∀ f, setAll parserReset dirty f = fresh parserInit f := by
  intro f
  by_cases hf : f = "error_level"
  · subst hf
    rw [setAll_eq]
    have : lastVal parserReset "error_level" = none := by decide +kernel
    rw [this]; exact hl
  · exact parser_reuse_eq_fresh dirty hd f hf

/-- Generator: where the two fields generation overwrites temporarily are handed back (audited fact): both by plain code
    after the body — an UnsupportedError raised under IMMEDIATE inside `no_identify` then leaves `identify = False` on a
    reused Generator: known finding / fix C15-no-identify-restore — or both in a `finally:` block, which is what the
    source has with that fix in (the second disjunct).  `generate()` re-assigns neither field:
    `generator_reset_eq_init_partial` exempts them. -/
theorem generator_temporary_writes_restore_places :
    generatorRestorePlaces = [("Generator.no_identify", "identify", "plain"),
      ("bigquery:_json_extract_sql", "_quote_json_path_key_using_brackets", "plain")] ∨
    generatorRestorePlaces = [("Generator.no_identify", "identify", "finally"),
      ("bigquery:_json_extract_sql", "_quote_json_path_key_using_brackets", "finally")] := by decide +kernel

/-- TokenizerCore: as `parser_reset_eq_init`, with no exemption; `tokenize` begins with `self.reset()` -/
theorem tokenizer_reset_eq_init :
    resetRepeatsInit tokenizerInit tokenizerReset = true ∧ writesCovered tokenizerReset tokenizerWritten [] = true ∧
    entryResets.lookup "TokenizerCore.tokenize" = some "true" := by decide +kernel

theorem tokenizer_reuse_eq_fresh (dirty : State) (hd : ∀ f, f ∉ tokenizerWritten → dirty f = fresh tokenizerInit f) :
    ∀ f, setAll tokenizerReset dirty f = fresh tokenizerInit f := by
  intro f
  exact reuse_eq_fresh tokenizerInit tokenizerReset tokenizerWritten [] tokenizer_reset_eq_init.1 tokenizer_reset_eq_init.2.1
    dirty hd f (by simp)

/-- Generator: `generate()` re-assigns `unsupported_messages` and the alias counter `_next_name` to `__init__`'s values.
    The only other fields generation writes are `identify` (`no_identify`) and `_quote_json_path_key_using_brackets`
    (BigQuery's JSON path helper): both are toggled and put back by the writer itself
    (`generator_temporary_writes_restore_places` says where), not by `generate()` — hence PARTIAL: the statement below is
    for every field except those two. -/
theorem generator_reset_eq_init_partial :
    resetRepeatsInit generatorInit generatorReset = true ∧
    writesCovered generatorReset generatorWritten ["identify", "_quote_json_path_key_using_brackets"] = true := by
  decide +kernel

theorem generator_reuse_eq_fresh_partial (dirty : State) (hd : ∀ f, f ∉ generatorWritten → dirty f = fresh generatorInit f) :
    ∀ f, f ∉ ["identify", "_quote_json_path_key_using_brackets"] →
      setAll generatorReset dirty f = fresh generatorInit f :=
  reuse_eq_fresh generatorInit generatorReset generatorWritten _ generator_reset_eq_init_partial.1
    generator_reset_eq_init_partial.2 dirty hd

/-- in particular the alias counter: whatever an earlier call left in `_next_name`, `generate()` starts from the
    constructor's `name_sequence('_t')` (current source; this is the repaired behaviour) -/
theorem generator_next_name_restarts (dirty : State) :
    setAll generatorReset dirty "_next_name" = fresh generatorInit "_next_name" := by
  have hl : lastVal generatorReset "_next_name" = some "name_sequence('_t')" := by decide +kernel
  exact setAll_reset_assigned generator_reset_eq_init_partial.1 hl dirty

/-- **why that reset is needed** (witness on an explicit snapshot of the pre-repair source, not on the regenerated lists):
    with a reset block that assigns only `unsupported_messages`, an advanced alias counter survives `generate()` while a new
    Generator starts at `name_sequence('_t')`.  Real-code instance before the repair:
    `g.generate(parse_one("SELECT * FROM t AS (a, b)"))` twice gave `_t0`, then `_t1`. -/
theorem generator_next_name_snapshot_witness :
    setAll preFixGeneratorReset (update (fresh preFixGeneratorInit) "_next_name" "<advanced>") "_next_name" = some "<advanced>" ∧
    fresh preFixGeneratorInit "_next_name" = some "name_sequence('_t')" ∧
    writesCovered preFixGeneratorReset ["_next_name", "unsupported_messages"] [] = false := by decide +kernel

/-! ### (c) process-wide state -/

/-- the places where code running after import writes state shared by the whole process (module-level containers mutated in
    functions, class attributes written through `cls` / `type(self)`, `globals()`, functools caches, `*_CACHE` names), as
    extracted from the current source, are exactly the audited ones (finite table, decided completely).  What the audited
    ones do to results is covered by the fresh-process / call-order sweep, not by this theorem. -/
theorem process_wide_state_ok : processWideState = expectedProcessWideState := rfl

/-- the UPPER_CASE tables (class-level or imported module-level dicts / sets) that anything mutates after their creation
    (`.pop(`, `.update(`, `x[...] =`, `del x[...]`, …) are exactly the audited ones: a new late mutation of a shared table
    — the usual source of import-order / call-order dependence — breaks the build -/
theorem mutated_class_tables_ok :
    mutatedClassTables = expectedMutatedClassTables ∨ mutatedClassTables = expectedMutatedClassTablesRepaired := by decide +kernel

/-- the only writer of `_DISPATCH_CACHE` is `Generator.__init__`, the only writers of the dialect registry are the metaclass
    `__new__` and `_try_load`, and the fill has the audited shape `v = C.get(cls); if v is None: v = _build_dispatch(cls); C[cls] = v` -/
theorem process_wide_tables_shape :
    ((processWideState.filter fun e => e.2.1 == "_DISPATCH_CACHE" && e.2.2.1 == "module-global").map (·.2.2.2)) = ["Generator.__init__"] ∧
    ((processWideState.filter fun e => e.2.1 == "cls._classes").map (·.2.2.2)) = ["_Dialect.__new__", "_Dialect._try_load"] ∧
    dispatchCacheFill = expectedDispatchCacheFill := ⟨by decide +kernel, by decide +kernel, rfl⟩

/-- **dispatch_cache_idempotent**: for a table filled on demand with a function of the key (`fillGet`), any two fills of a key
    write the same value (a race or a reuse stores what is already there), a second lookup changes nothing, and after ANY
    history of lookups a lookup answers what it answers in a fresh process -/
theorem dispatch_cache_idempotent (build : Nat → Nat) (hist : List Nat) (k : Nat) :
    (fillGet build (runFills build [] hist) k).1 = (fillGet build [] k).1 ∧
    (fillGet build (fillGet build (runFills build [] hist) k).2 k) = (build k, (fillGet build (runFills build [] hist) k).2) ∧
    Coherent build (runFills build [] hist) := by
  -- after the first lookup the key is present, so the second one does not touch the table
  exact ⟨(fillGet_after build hist k).trans (fillGet_after build [] k).symm,
    by rw [fillGet_present (tget_fillGet _ _ _), fillGet_after], runFills_ok (.nil build) hist⟩

/-- **a per-class memo whose value is a function of the class is order-independent**: whatever two histories of lookups
    (which generator classes were instantiated before, in which order) preceded it, a lookup answers the same -/
theorem dispatch_order_independent (build : Nat → Nat) (h1 h2 : List Nat) (k : Nat) :
    (fillGet build (runFills build [] h1) k).1 = (fillGet build (runFills build [] h2) k).1 := by
  rw [fillGet_after, fillGet_after]

/-- **witness for reusing the parent's entry** (seeded regression C15-8): a child class (2) whose own table differs from its
    parent's (1) gets the parent's table when the parent was instantiated first, and its own when it comes first or alone —
    Athena's internal `_HiveGenerator.alter_sql` after any Hive statement -/
theorem inherited_dispatch_entry_witness :
    let build : Nat → Nat := fun k => k * 10
    let parent : Nat → Nat := fun _ => 1
    (fillGetInherit build parent (fillGetInherit build parent [] 1).2 2).1 = 10 ∧
    (fillGetInherit build parent [] 2).1 = 20 ∧
    (fillGet build (fillGet build [] 1).2 2).1 = 20 := by decide

/-- the source fact: `_build_dispatch` as extracted on this run computes the table from `cls` alone (audited statement list; it
    reads neither `_DISPATCH_CACHE` nor `__mro__` / `__bases__`) — finite table, decided completely -/
theorem build_dispatch_policy_ok : buildDispatchShape = expectedBuildDispatchShape := rfl

/-- the dialect registry is such a table (`_classes[name]`, filled by importing the dialect module): whatever dialects were
    looked up before, in whatever order, a name resolves to the class its module defines -/
theorem registry_lookup_eq_fresh (load : Nat → Nat) (hist : List Nat) (name : Nat) :
    (fillGet load (runFills load [] hist) name).1 = load name := fillGet_after load hist name

/-! ### (d) Dialect instances -/

/-- **dialect_instance_reuse_eq_fresh**: no method of any dialect class other than `__init__` assigns an instance field
    (finite table from the current source), so after any history of calls a Dialect object holds what a new one built from the
    same settings holds.  (Of MappingSchema's caches the one of `find` is section (e) below; the others are C18's subject:
    `C18.schema_refines_fresh`.) -/
theorem dialect_instance_reuse_eq_fresh :
    dialectWritten = [] ∧
    ∀ dirty : State, (∀ f, f ∉ dialectWritten → dirty f = fresh dialectInit f) → ∀ f, dirty f = fresh dialectInit f := by
  have h : dialectWritten = [] := by decide +kernel
  exact ⟨h, fun dirty hd f => hd f (by rw [h]; simp)⟩

/-- `Dialect.get_or_raise("name, k1 = v1, k2 = v2")`: the keyword settings end up in one dict, so the order in which distinct
    settings are written in the string does not matter for any field of the instance -/
theorem dialect_settings_order_independent {kv kv' : Assigns} (hn : (kv.map (·.1)).Nodup) (h : kv.Perm kv')
    (defaults : State) (f : String) : setAll kv defaults f = setAll kv' defaults f :=
  congrFun (setAll_perm hn h defaults) f

/-! ### (e) a reused MappingSchema: the lookup cache leaves `raise_on_missing` out of its key -/

/-- **schema_reuse_eq_fresh**: `MappingSchema.find` caches under a key that does not contain the strictness flag.  Under the
    policy of the source — a cached miss (`None`) is never served, a strict miss raises before anything is stored — every
    lookup on a schema object that has answered ANY history of tolerant / strict lookups (mapping unchanged; `add_table` clears
    the cache, C18) answers exactly what a fresh schema over the same mapping answers, for both values of the flag -/
theorem schema_reuse_eq_fresh (m : Nat → Option Nat) (hist : List (Nat × Bool)) (k : Nat) (strict : Bool) :
    (cfind false m (runFinds false m [] hist) k strict).1 = (cfind false m [] k strict).1 ∧
    (cfind false m [] k strict).1 = resolve m strict k :=
  ⟨(cfind_after m hist k strict).trans (cfind_after m [] k strict).symm, cfind_after m [] k strict⟩

/-- **witness for the variant that serves cached misses** (`if key in cache: return cache[key]`): after one tolerant lookup of a
    table the mapping cannot resolve, the strict lookup of the same table returns `None` instead of raising — a reused schema
    no longer answers like a fresh one (seeded regression C15-6) -/
theorem schema_cache_serving_misses_witness :
    let m : Nat → Option Nat := fun k => if k = 1 then some 10 else none
    (cfind true m (runFinds true m [] [(7, false)]) 7 true).1 = .missing ∧
    (cfind true m [] 7 true).1 = .raised ∧
    (cfind false m (runFinds false m [] [(7, false)]) 7 true).1 = .raised := by decide

/-- the source fact: `MappingSchema.find` as extracted on this run is the audited shape — key `(table, ensure_data_types)`,
    cached `None` not served (finite table, decided completely) -/
theorem schema_find_cache_shape_ok : schemaFindShape = expectedSchemaFindShape := rfl

/-! ### (f) class constants that hold Expression nodes -/

/-- **embedded_copy_keeps_parses_independent**: if the parser embeds a COPY of a node-valued class constant, then after any
    history of parses and in-place edits of the nodes handed out so far (identifier passes of an upper-casing dialect, …) the
    next parse still renders the constant's original content — results of different parse calls are independent -/
theorem embedded_copy_keeps_parses_independent (c0 : Nat) (ops : List HeapOp) :
    nextParseRenders true (heapRun true (heapInit c0) ops) = some c0 :=
  nextParse_after c0 ops

/-- **witness for embedding the constant itself** (seeded regression C15-7, `UNNEST … WITH OFFSET` default alias): one parse,
    one in-place edit of its result (`offset` → `OFFSET`), and the next parse renders the edited content; with a copy it does not -/
theorem embedded_constant_is_shared_witness :
    nextParseRenders false (heapRun false (heapInit 5) [.parse, .edit 0 99]) = some 99 ∧
    nextParseRenders true (heapRun true (heapInit 5) [.parse, .edit 0 99]) = some 5 := by decide

/-- the source fact: the constants that hold Expression nodes are exactly the audited ones (none of them in a parser, each one
    only instantiated through a copy) — a NEW node-valued constant breaks the build -/
theorem no_shared_expression_nodes_embedded : expressionNodeConstants = expectedExpressionNodeConstants := rfl

end SqlglotModel.Properties.C15
