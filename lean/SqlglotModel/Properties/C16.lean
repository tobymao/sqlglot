/-
  C16 — Inferred types agree with the types the engine actually produces (duckdb dialect).
  Only property theorems, non-vacuity examples and counter-example witnesses live here.

  `T0` are the tables regenerated on every run: sqlglot's COERCES_TO / BINARY_COERCIONS / EXPRESSION_METADATA entries / type sets /
  flags (from the live source), and the engine table A-duck (from the installed DuckDB's `typeof`, exhaustively over the
  representatives of every engine class). Theorems whose proof is `decide +kernel` are COMPLETE FINITE DECISIONS over those
  tables (every operator × every typed operand summary × every compatible engine class), not samples. `class_agrees` lifts them
  to expressions over the columns of ANY flat schema, of any depth and with n-ary nodes of any width, by structural induction
  (Proofs/Types.lean `rel_of_tablesOk`, `nary_sound`).
-/
import SqlglotModel.Proofs.Types
import SqlglotModel.Generated.C16

namespace SqlglotModel.Properties.C16
open SqlglotModel.Types

abbrev T0 : Tables := SqlglotModel.Generated.C16.tables

/-- in one coercion chain (or equal), or one side is NULL / UNKNOWN / a parameterised type -/
def Comparable (a b : Ty) : Bool :=
  a == b || T0.coercesTo a b || T0.coercesTo b a
  || a == .null || b == .null || a == .unknown || b == .unknown || a == .decimalP || b == .decimalP

/-- complete finite decision (17 types) -/
theorem coerce_idem (a : Ty) : coerce T0 a a = a := by
  have h : (Ty.all.all fun a => coerce T0 a a == a) = true := by decide +kernel
  simpa using Ty.forall_of_all h a

/-- complete finite decision (17² pairs): `_maybe_coerce` is commutative on comparable types … -/
theorem coerce_comm (a b : Ty) (h : Comparable a b = true) : coerce T0 a b = coerce T0 b a := by
  have hh : (Ty.all.all fun a => Ty.all.all fun b => !(Comparable a b) || coerce T0 a b == coerce T0 b a) = true := by
    decide +kernel
  simpa [h] using Ty.forall_of_all (Ty.forall_of_all hh a) b

/-- … and it is NOT commutative across chains: the first operand wins (the root of the "mixed-chain" disagreements) -/
theorem coerce_cross_chain_first_wins_witness :
    coerce T0 .int .text = .int ∧ coerce T0 .text .int = .text ∧
    coerce T0 .date .timestampntz = .date ∧ coerce T0 .boolean .smallint = .boolean := by decide +kernel

/-- complete finite decision (17³ triples): associative on pairwise comparable types (a join on each chain,
    NULL the identity, UNKNOWN absorbing, a parameterised type absorbing everything) -/
theorem coerce_assoc (a b c : Ty) (hab : Comparable a b = true) (hbc : Comparable b c = true) (hac : Comparable a c = true) :
    coerce T0 (coerce T0 a b) c = coerce T0 a (coerce T0 b c) := by
  have hh : (Ty.all.all fun a => Ty.all.all fun b => Ty.all.all fun c =>
      !(Comparable a b && Comparable b c && Comparable a c)
      || coerce T0 (coerce T0 a b) c == coerce T0 a (coerce T0 b c)) = true := by decide +kernel
  simpa [hab, hbc, hac] using Ty.forall_of_all (Ty.forall_of_all (Ty.forall_of_all hh a) b) c

example : Comparable .tinyint .double = true ∧ Comparable .date .timestamp = true ∧ Comparable .int .varchar = false := by
  decide +kernel

/-- a parameterised DECIMAL absorbs every other type in `_maybe_coerce`, from either side (even UNKNOWN) -/
theorem coerce_decimalP_absorbs (a : Ty) : coerce T0 .decimalP a = .decimalP ∧ coerce T0 a .decimalP = .decimalP := by
  cases a <;> decide +kernel

/-- the parameters sqlglot annotates on an arithmetic result are always those of one of its operands (or none) -/
theorem decimal_params_never_computed (isDiv : Bool) (a b : Option Dec) :
    sgDecArith isDiv a b = none ∨ sgDecArith isDiv a b = a ∨ sgDecArith isDiv a b = b := by
  cases isDiv <;> cases a <;> cases b <;> simp [sgDecArith, sgDecCoerce]

/-- complete finite decision: DECIMAL / DOUBLE arithmetic stays in the decimal class on the engine side -/
theorem decimal_arith_engine_class :
    ([BinK.add, .sub, .mul, .div, .mod, .pow].all fun k => [ETy.double, .decimal].all fun ea => [ETy.double, .decimal].all fun eb =>
      T0.duckBin k ea eb == .double || T0.duckBin k ea eb == .decimal) = true := by decide +kernel

/-- leaves: a column of each of the property's types, literals, NULL, TRUE, INTERVAL -/
theorem leaf_table_agrees : leafCheck T0 = true := by decide +kernel

/-- every unary operator / function / aggregate / wrapper / cast × every typed operand summary × every compatible engine class
    that DuckDB accepts: it agrees IF AND ONLY IF it is in no disagreement family -/
theorem un_table_exact : unCheck T0 = true := by decide +kernel

/-- the same for every binary operator × typed operand summaries² × compatible engine classes² -/
theorem bin_table_exact : binCheck T0 = true := by decide +kernel

/-- the condition of CASE / IF takes no part in the inferred type -/
theorem tern_cond_irrelevant : ternCondCheck T0 = true :=
  ternCondCheck_of_masks T0 fun k => by cases k <;> exact ⟨_, _, rfl⟩

/-- CASE / IF over their two branches: agrees iff in no family -/
theorem tern_table_exact : ternCheck T0 = true := by decide +kernel

/-- n-ary COALESCE / GREATEST / LEAST / CASE: the metadata entries take every branch; the first branch establishes the
    invariant between the two accumulators of `_annotate_by_args` and the engine's running join; every in-chain step preserves
    it (all 72 accumulator states × next branch); at the end the by-args result (with `promote`) and the join agree -/
theorem nary_table_ok : naryCheck T0 = true := by decide +kernel

/-- number literals by magnitude / notation agree iff not beyond HUGEINT; argument-less window functions agree; BETWEEN / IN
    are BOOLEAN on both sides for every operand triple the engine accepts (complete: 13³ engine-class triples) -/
theorem extra_table_ok : extraCheck T0 = true := by decide +kernel

theorem tables_ok : TablesOk T0 = true := by
  simp [TablesOk, leaf_table_agrees, un_table_exact, bin_table_exact, tern_cond_irrelevant, tern_table_exact, nary_table_ok]

/-! ### depth 1 is decided completely: agreeing ⇔ in no family -/

theorem depth1_exact_un (k : UnK) (a : Sm) (ea : ETy) (hk : unKnown k = true) (ht : (a != .of .unknown) = true)
    (hr : Rel a ea = true) (hacc : (engUn T0 k ea != .error) = true) :
    Rel (.of (annotUn T0 k a)) (engUn T0 k ea) = (famUn k a ea).isNone :=
  unCheck_iff T0 un_table_exact hk ht hr hacc

theorem depth1_exact_bin (k : BinK) (a b : Sm) (ea eb : ETy) (hta : (a != .of .unknown) = true)
    (htb : (b != .of .unknown) = true) (hra : Rel a ea = true) (hrb : Rel b eb = true)
    (hacc : (T0.duckBin k ea eb != .error) = true) :
    Rel (.of (annotBin T0 k a b)) (T0.duckBin k ea eb) = (famBin T0 k a b ea eb).isNone :=
  binCheck_iff T0 bin_table_exact k hta htb hra hrb hacc

theorem depth1_exact_tern (k : TernK) (c a b : Sm) (ea eb : ETy) (hta : (a != .of .unknown) = true)
    (htb : (b != .of .unknown) = true) (hra : Rel a ea = true) (hrb : Rel b eb = true)
    (hacc : (T0.duckTern k ea eb != .error) = true) :
    Rel (.of (annotTern T0 k c a b)) (T0.duckTern k ea eb) = (famTern k a b).isNone :=
  ternCheck_iff T0 tern_cond_irrelevant tern_table_exact k c hta htb hra hrb hacc

/-- every listed family really occurs among the accepted depth-1 combinations (none is vacuous): one witness each, in the
    order of `Family.all`. That list leaves out `genericFunction`, which is no depth-1 family of an operator modelled here: it
    occurs by `C16Fn.metadata_functions_census`. -/
theorem every_family_inhabited :
    (Family.all.all fun f =>
      (censusUn T0 ++ censusBin T0 ++ censusTern T0 ++ NumLitK.all.map famNumLit).contains (some f)) = true := by
  simp only [Family.all, List.all_cons, List.all_nil, List.contains_iff_mem, Bool.and_true, Bool.and_eq_true]
  have un {f} (h : f ∈ censusUn T0) : f ∈ censusUn T0 ++ censusBin T0 ++ censusTern T0 ++ NumLitK.all.map famNumLit :=
    List.mem_append_left _ (List.mem_append_left _ (List.mem_append_left _ h))
  have bin {f} (h : f ∈ censusBin T0) : f ∈ censusUn T0 ++ censusBin T0 ++ censusTern T0 ++ NumLitK.all.map famNumLit :=
    List.mem_append_left _ (List.mem_append_left _ (List.mem_append_right _ h))
  exact ⟨bin (census_bin T0 .add (.of .null) (.of .null) .null .null (by decide)),
    bin (census_bin T0 .add (.of .double) (.of .null) .decimal .null (by decide)),
    bin (census_bin T0 .add (.of .null) (.strLit .other) .null .strlit (by decide)),
    bin (census_bin T0 .dpipe (.of .boolean) (.of .null) .boolean .null (by decide)),
    bin (census_bin T0 .add (.of .date) (.iv true) .date .interval (by decide)),
    bin (census_bin T0 .sub (.of .date) (.of .date) .date .date (by decide)),
    bin (census_bin T0 .add (.of .tinyint) (.of .date) .integer .date (by decide)),
    bin (census_bin T0 .sub (.of .interval) (.strLit .other) .interval .strlit (by decide)),
    bin (census_bin T0 .coalesce (.of .boolean) (.of .tinyint) .boolean .integer (by decide)),
    un (census_un T0 .sum (.of .boolean) .boolean (by decide)),
    un (census_un T0 .avg (.of .date) .date (by decide)),
    un (census_un T0 .ceil (.of .tinyint) .integer (by decide)),
    un (census_un T0 .round (.of .tinyint) .integer (by decide)),
    bin (census_bin T0 .corr (.of .tinyint) (.of .tinyint) .integer .integer (by decide)),
    List.mem_append_right _ (by decide)⟩

/-- for every well-formed expression over the columns of any schema (any depth, any n-ary width) what the annotator sees at
    the root and the engine's class describe the same kind of value -/
theorem rel_sound (S : Schema) (e : TExpr) (h : WF T0 S e = true) : Rel (sm T0 S e) (eng T0 S e) = true :=
  rel_of_tablesOk T0 S tables_ok extra_table_ok e h

/-- **C16 (class agreement).** For every well-formed typed expression the class of the type `annotate_types` infers equals
    the class of the type DuckDB reports (under A-duck). -/
theorem class_agrees (S : Schema) (e : TExpr) (h : WF T0 S e = true) :
    eclassOf (eng T0 S e) = some (classOf (annot T0 S e)) :=
  rel_class (rel_sound S e h)

/-- the same for the type left on the tree when `annotate` returns (NULL rewritten to DEFAULT_NULL_TYPE) -/
theorem final_class_agrees (S : Schema) (e : TExpr) (h : WF T0 S e = true) :
    eclassOf (eng T0 S e) = some (classOf (annotFinal T0 S e)) := by
  have hc : ∀ t, classOf (finalTy T0 t) = classOf t := by
    intro t; cases t <;> decide +kernel
  rw [annotFinal, hc]; exact class_agrees S e h

/-- **C16 (never narrower in kind).** An inferred integer type is never produced by the engine as a float, a decimal or text:
    the engine's class is INTEGER (a sized integer or HUGEINT). -/
theorem int_never_narrower (S : Schema) (e : TExpr) (h : WF T0 S e = true) (hi : classOf (annot T0 S e) = .integer) :
    eng T0 S e = .integer ∨ eng T0 S e = .hugeint := by
  have := class_agrees S e h
  rw [hi] at this
  cases he : eng T0 S e <;> simp [he, eclassOf] at this ⊢

/-- `_annotate_literal` asks only `is_int`: 3000000000 and 99999999999999999999 are INT (DuckDB BIGINT / HUGEINT: same class),
    1e10 is DOUBLE on both sides; a 40-digit integer is INT for sqlglot and DOUBLE for DuckDB -/
theorem literal_typing :
    annot T0 { table := [] } (.numLit .big) = .int ∧ eng T0 { table := [] } (.numLit .big) = .integer ∧
    annot T0 { table := [] } (.numLit .huge) = .int ∧ eng T0 { table := [] } (.numLit .huge) = .hugeint ∧
    annot T0 { table := [] } (.numLit .sci) = .double ∧ eng T0 { table := [] } (.numLit .sci) = .double ∧
    annot T0 { table := [] } (.strLit .other) = .varchar ∧ annot T0 { table := [] } .decLit = .double := by decide +kernel

theorem int_literal_overflow_disagrees_witness :
    annot T0 { table := [] } (.numLit .overflow) = .int ∧ eng T0 { table := [] } (.numLit .overflow) = .double ∧
    WF T0 { table := [] } (.numLit .overflow) = false := by decide +kernel

/-- BETWEEN / IN / IS [NOT] DISTINCT FROM / ILIKE / IS NULL / comparisons / connectors: BOOLEAN whatever the operands
    (complete finite decision over every operand summary) -/
theorem predicates_are_boolean :
    ((Pred3K.all.all fun k => leafReturns T0 (pred3Node k) == .boolean)
     && ([BinK.eq, .neq, .lt, .le, .gt, .ge, .and, .or, .like, .ilike, .isDistinct].all fun k =>
          Sm.all.all fun a => Sm.all.all fun b => annotBin T0 k a b == .boolean)
     && (Sm.all.all fun a => annotUn T0 .isNull a == .boolean && annotUn T0 .not a == .boolean
          && annotUn T0 .exists a == .boolean)) = true := by
  -- the reason is the shape of the entries (read from the table once each), not the operands
  have hp : ∀ k ∈ [BinK.eq, .neq, .lt, .le, .gt, .ge, .and, .or, .like, .ilike, .isDistinct],
      T0.md (binNode k) = .binary true ∨ T0.md (binNode k) = .returns .boolean := by decide +kernel
  have his : T0.md .is = .binary true ∨ T0.md .is = .returns .boolean := by decide +kernel
  have hnot : T0.md .not = .unary := by decide +kernel
  have hex : T0.md .exists = .returns .boolean := by decide +kernel
  simp only [Bool.and_eq_true, List.all_eq_true, beq_iff_eq]
  refine ⟨⟨by decide +kernel, fun k hk a _ b _ => ?_⟩, fun a _ => ⟨⟨annotNode_pred T0 his a _ _, ?_⟩, ?_⟩⟩
  · have e : annotBin T0 k a b = annotNode T0 (binNode k) [a, b] .unknown := by
      simp only [List.mem_cons, List.not_mem_nil, or_false] at hk
      rcases hk with rfl | rfl | rfl | rfl | rfl | rfl | rfl | rfl | rfl | rfl | rfl <;> rfl
    rw [e, annotNode_pred T0 (hp k hk)]
  · simp [annotUn, isWinFn, unNode, annotNode, annotShape, hnot]
  · simp [annotUn, isWinFn, unNode, annotNode, annotShape, hex]

/-- TRY_CAST is typed exactly like CAST: the target type -/
theorem try_cast_is_cast (to : Ty) (a : Sm) : annotUn T0 (.tryCast to) a = to ∧ annotUn T0 (.cast to) a = to := by
  have h1 : T0.md .cast = .castTo := by decide +kernel
  have h2 : T0.md .tryCast = .castTo := by decide +kernel
  simp [annotUn, annotNode, annotShape, h1, h2]

/-- LAG / LEAD / FIRST_VALUE / LAST_VALUE `OVER ()`, ANY_VALUE, MIN, MAX and a scalar subquery keep their argument's type
    (complete finite decision over the 17 types) -/
theorem argument_typed_functions_keep_type (t : Ty) :
    ([UnK.lag, .lead, .firstValue, .lastValue, .anyValue, .min, .max, .subq].all fun k => annotUn T0 k (.of t) == t) = true := by
  have h : (Ty.all.all fun t => [UnK.lag, .lead, .firstValue, .lastValue, .anyValue, .min, .max, .subq].all fun k =>
      annotUn T0 k (.of t) == t) = true := by decide +kernel
  exact Ty.forall_of_all h t

/-- aggregates and window functions at depth 1: every (function, typed operand, engine class) the engine accepts agrees
    unless it is SUM(BOOLEAN), AVG of a temporal, or SUM over a NULL literal — a restriction of `un_table_exact` -/
theorem aggregate_classes_exact :
    ([UnK.count, .sum, .min, .max, .avg, .anyValue, .stddev, .variance, .boolAnd, .boolOr, .groupConcat, .approxDistinct,
      .lag, .lead, .firstValue, .lastValue].all fun k => Sm.typed.all fun a => (compat a).all fun ea =>
        engUn T0 k ea == .error
        || (Rel (.of (annotUn T0 k a)) (engUn T0 k ea)
            == !((k == .sum && (smClass a == .boolean || isNullTy a))
                 || (k == .avg && (isTemporal a || smClass a == .interval))))) = true := by decide +kernel

/-- `[a, b][1]`: the element type is the by-args coercion of the elements -/
theorem array_element_type (a b : Sm) : annotBin T0 .arrayElem a b = byArgs T0 [a, b] false := by
  have h1 : T0.md .array = .arrayOf [true, true] := by decide +kernel
  have h2 : T0.md .bracket = .bracket := by decide +kernel
  simp [annotBin, h1, h2, applyMask]

/-- every place annotate_types.py writes into a node, a type or meta is one of the audited sites, and the only sites that
    rewrite the tree are those of `_restore_dot_parts` (list re-extracted from the ast on every run) -/
theorem write_sites_audited : writeSitesOk SqlglotModel.Generated.C16.writeSites = true := by decide +kernel

/-- the column of a UNION read through a derived table is `_maybe_coerce` of the two branch types -/
theorem union_column_type (a b : Sm) : annotBin T0 .unionCol a b = coerce T0 a.ty b.ty := by
  have h : T0.md .subquery = .subquery := by decide +kernel
  simp [annotBin, h]

/-- UNION branches: coerced to the common class, except exactly when the coerced (first-wins) type's class is below one of
    the branch classes in DuckDB's cast order (a restriction of `bin_table_exact`) -/
theorem union_branches_exact :
    (Sm.typed.all fun a => Sm.typed.all fun b => (compat a).all fun ea => (compat b).all fun eb =>
      T0.duckBin .unionCol ea eb == .error
      || (Rel (.of (annotBin T0 .unionCol a b)) (T0.duckBin .unionCol ea eb) == (famUnion T0 a b).isNone))
      = true := by
  simp only [List.all_eq_true]
  intro a ha b hb ea hea eb heb
  exact binCheck_at T0 bin_table_exact .unionCol ha hb hea heb

/-- CASE / IF / COALESCE / GREATEST / LEAST / array elements with a NULL branch: the other branch's class on both sides; with
    NULL branches only: NULL (→ UNKNOWN) on both sides — complete over every typed other branch -/
theorem null_branches_agree :
    (([BinK.coalesce, .greatest, .least, .arrayElem].all fun k => Sm.typed.all fun a => (compat a).all fun ea =>
        (T0.duckBin k ea .null == .error || Rel (.of (annotBin T0 k a (.of .null))) (T0.duckBin k ea .null))
        && (T0.duckBin k .null ea == .error || Rel (.of (annotBin T0 k (.of .null) a)) (T0.duckBin k .null ea)))
     && (TernK.all.all fun k => Sm.typed.all fun a => (compat a).all fun ea =>
        (T0.duckTern k ea .null == .error || Rel (.of (annotTern T0 k (.of .boolean) a (.of .null))) (T0.duckTern k ea .null))
        && (T0.duckTern k .null ea == .error || Rel (.of (annotTern T0 k (.of .boolean) (.of .null) a)) (T0.duckTern k .null ea))))
      = true := by decide +kernel

/-- NULLIF(a, b) on the live table: agrees for every accepted typed operand pair (no family) -/
theorem nullif_exact :
    (Sm.typed.all fun a => Sm.typed.all fun b => (compat a).all fun ea => (compat b).all fun eb =>
      T0.duckBin .nullif ea eb == .error || Rel (.of (annotBin T0 .nullif a b)) (T0.duckBin .nullif ea eb)) = true := by
  simp only [List.all_eq_true]
  intro a ha b hb ea hea eb heb
  simpa [famBin] using binCheck_at T0 bin_table_exact .nullif ha hb hea heb

/-- GREATEST / LEAST / COALESCE over temporal classes: DATE with DATE, TIMESTAMP with TIMESTAMP and TIMESTAMP first with DATE
    agree; DATE first with a (TIMESTAMPNTZ) TIMESTAMP is the mixed-chain disagreement -/
theorem temporal_branches :
    ([BinK.greatest, .least, .coalesce].all fun k =>
      Rel (.of (annotBin T0 k (.of .date) (.of .date))) (T0.duckBin k .date .date)
      && Rel (.of (annotBin T0 k (.of .timestampntz) (.of .timestampntz))) (T0.duckBin k .timestamp .timestamp)
      && Rel (.of (annotBin T0 k (.of .timestampntz) (.of .date))) (T0.duckBin k .timestamp .date)
      && !(Rel (.of (annotBin T0 k (.of .date) (.of .timestampntz))) (T0.duckBin k .date .timestamp))) = true := by
  decide +kernel

/-- complete finite decision: by-args over one non-literal child returns the child's type -/
theorem byArgs_single (t : Ty) : byArgs T0 [.of t] false = t := by
  have h : (Ty.all.all fun t => byArgs T0 [.of t] false == t) = true := by decide +kernel
  simpa using Ty.forall_of_all h t

/-- one-level containers carry the element class through: `{'k': x}.k`, `ARRAY_AGG(x)[1]`, `MAP(['k'], [x])['k']` are typed
    with x's type (complete over the 17 types); `[a, b][1:2][1]` and `UNNEST([a, b])` with the by-args coercion of a and b;
    `LIST_CONCAT([a], [b])[1]` with a's type (the first list wins) -/
theorem container_element_types :
    ((Ty.all.all fun t => [UnK.structField, .arrayAggElem, .mapElem].all fun k => annotUn T0 k (.of t) == t)
     && (Sm.all.all fun a => Sm.all.all fun b =>
          annotBin T0 .sliceElem a b == byArgs T0 [a, b] false && annotBin T0 .unnest2 a b == byArgs T0 [a, b] false
          && annotBin T0 .listConcatElem a b == byArgs T0 [a] false)) = true := by
  -- each form is read off the shapes of the entries involved; the element type then is by-args over the element(s)
  have harr : T0.md .array = .arrayOf [true, true] := by decide +kernel
  have hbr : T0.md .bracket = .bracket := by decide +kernel
  have hex : T0.md .explode = .annotator "_annotate_explode" := by decide +kernel
  have hcat : T0.md .arrayConcat = .byArgs [true, true] false := by decide +kernel
  have hpe : T0.md .propertyEq = .byArgs [false, true] false := by decide +kernel
  have hst : T0.md .struct = .annotator "_annotate_struct" := by decide +kernel
  have hdot : T0.md .dot = .annotator "_annotate_dot" := by decide +kernel
  have hagg : T0.md .arrayAgg = .arrayOf [true] := by decide +kernel
  have hmap : T0.md .map = .annotator "_annotate_map" := by decide +kernel
  simp only [Bool.and_eq_true, List.all_eq_true, beq_iff_eq, List.mem_cons, List.not_mem_nil, or_false]
  refine ⟨fun t _ k hk => ?_, fun a _ b _ => ?_⟩
  · rcases hk with rfl | rfl | rfl
    · simp only [annotUn, hpe, hst, hdot, applyMask]; exact byArgs_single t
    · simp only [annotUn, hagg, hbr, applyMask]; exact byArgs_single t
    · simp only [annotUn, harr, hmap, hbr, Sm.ty]
  · simp [annotBin, harr, hbr, hex, hcat, applyMask]

/-- the container composites at depth 1: accepted ⇒ (agree ⇔ not a mixed-chain pair; for LIST_CONCAT: ⇔ the first list's
    class is not below the second's in DuckDB's cast order) — restrictions of `un_table_exact` / `bin_table_exact` -/
theorem container_classes_exact :
    (([UnK.structField, .arrayAggElem, .mapElem].all fun k => Sm.typed.all fun a => (compat a).all fun ea =>
        engUn T0 k ea == .error || Rel (.of (annotUn T0 k a)) (engUn T0 k ea))
     && ([BinK.sliceElem, .unnest2, .listConcatElem, .arrayElem].all fun k => Sm.typed.all fun a => Sm.typed.all fun b =>
          (compat a).all fun ea => (compat b).all fun eb =>
            T0.duckBin k ea eb == .error
            || (Rel (.of (annotBin T0 k a b)) (T0.duckBin k ea eb) == (famBin T0 k a b ea eb).isNone))) = true := by
  simp only [Bool.and_eq_true, List.all_eq_true]
  refine ⟨fun k hk a ha ea hea => ?_, fun k _ a ha b hb ea hea eb heb => binCheck_at T0 bin_table_exact k ha hb hea heb⟩
  -- the three accessors are in `UnK.all` and in no family
  have hk' : k ∈ UnK.all ∧ ∀ a ea, famUn k a ea = none := by
    simp only [List.mem_cons, List.not_mem_nil, or_false] at hk
    rcases hk with rfl | rfl | rfl <;> exact ⟨by decide, fun _ _ => rfl⟩
  simpa [hk'.2] using unCheck_at T0 un_table_exact hk'.1 ha hea

/-- `LIST_CONCAT([t.i], [t.db])[1]`: INT (first list) vs DOUBLE -/
theorem list_concat_first_wins_witness :
    annotBin T0 .listConcatElem (.of .int) (.of .double) = .int ∧ T0.duckBin .listConcatElem .integer .double = .double := by
  decide +kernel

/-- a column qualified with the table takes the type the schema declares (UNKNOWN if the schema has no such column) -/
theorem column_takes_schema_type (S : Schema) (n : String) :
    annot T0 S (.col .this n) = (S.table.lookup n).getD .unknown := rfl

/-- annotate_types does not qualify: an unqualified column (or one qualified with something that is not a source) stays
    UNKNOWN although DuckDB resolves it — such references are outside `WF` -/
theorem unqualified_column_witness :
    annot T0 { table := [("i", .int)] } (.col .none "i") = .unknown ∧ eng T0 { table := [("i", .int)] } (.col .none "i") = .integer ∧
    WF T0 { table := [("i", .int)] } (.col .none "i") = false ∧ WF T0 { table := [("i", .int)] } (.col .this "i") = true := by decide +kernel

/-- the one-row table of the harness -/
def S0 : Schema :=
  { table := [("bo", .boolean), ("ti", .tinyint), ("si", .smallint), ("i", .int), ("bi", .bigint), ("db", .double),
              ("de", .decimalP), ("v", .text), ("da", .date), ("ts", .timestampntz)] }

def c (n : String) : TExpr := .col .this n

/-- a column of a derived table takes the type annotated on the child scope's projection of that name, and the engine's
    column type is the projection's (a projected string literal is a VARCHAR column) -/
theorem derived_column_takes_projection_type (S : Schema) (a n : String) (e : TExpr) (more : List (String × TExpr))
    (others : List (String × List (String × TExpr))) :
    annot T0 (deriveScope T0 S ((a, (n, e) :: more) :: others)) (.col (.derived a) n) = annot T0 S e ∧
    eng T0 (deriveScope T0 S ((a, (n, e) :: more) :: others)) (.col (.derived a) n) = resolveCol (eng T0 S e) := by
  simp [annot, sm, eng, annotCol, deriveScope, selectsOf, List.lookup, Sm.ty]

/-- `class_agrees` instantiated at a parent scope: expressions over the columns of derived tables whose projections were
    annotated in the child scope (`deriveScope` can be iterated for deeper nesting) -/
theorem class_agrees_through_derived (S : Schema) (ds : List (String × List (String × TExpr))) (e : TExpr)
    (h : WF T0 (deriveScope T0 S ds) e = true) :
    eclassOf (eng T0 (deriveScope T0 S ds) e) = some (classOf (annot T0 (deriveScope T0 S ds) e)) :=
  class_agrees _ e h

/-- non-vacuity, two levels: `SELECT s2.c + 1, COALESCE(s2.d, 1.5) FROM (SELECT s1.c AS c, s1.c * t.db AS d FROM
    (SELECT t.ti + t.bi AS c FROM t) AS s1) AS s2` -/
def lvl1 : Schema := deriveScope T0 S0 [("s1", [("c", .bin .add (.col .this "ti") (.col .this "bi"))])]
def lvl2 : Schema :=
  deriveScope T0 lvl1 [("s2", [("c", .col (.derived "s1") "c"), ("d", .bin .mul (.col (.derived "s1") "c") (.col .this "db"))])]
example :
    WF T0 lvl2 (.bin .add (.col (.derived "s2") "c") .intLit) = true ∧
    annot T0 lvl2 (.bin .add (.col (.derived "s2") "c") .intLit) = .bigint ∧
    WF T0 lvl2 (.bin .coalesce (.col (.derived "s2") "d") .decLit) = true ∧
    annot T0 lvl2 (.bin .coalesce (.col (.derived "s2") "d") .decLit) = .double ∧
    eng T0 lvl2 (.bin .coalesce (.col (.derived "s2") "d") .decLit) = .double := by decide +kernel

/-- the cache inventory read from the source: only known caches, and the scope-dependent one has the scope in its key -/
theorem cache_keys_ok : cachesOk SqlglotModel.Generated.C16.cacheInventory = true := by decide +kernel

/-- **the per-call cache is transparent**: with the key as read from the source (`scopeCacheKeyHasScope`), one
    `annotate_types` call over any number of scopes resolves every `alias.column` exactly as that scope's own sources say,
    however aliases and names recur -/
theorem scope_cache_transparent (qs : List (Schema × List (String × String))) :
    runScopes SqlglotModel.Generated.C16.scopeCacheKeyHasScope [] 0 qs = uncachedScopes qs := by
  have hk : SqlglotModel.Generated.C16.scopeCacheKeyHasScope = true := by decide +kernel
  rw [hk]
  exact runScopes_transparent qs [] 0 (by intro k v hm; cases hm)

/-- the seeded defect: with the source name alone as the key, the second scope's `s.c` gets the first scope's type
    (two sibling scopes, both with a derived table `s` projecting `c`: INT in one, DOUBLE in the other) -/
theorem name_only_cache_key_witness :
    let sInt : Schema := { table := [], derived := [("s", [("c", (.int, .integer))])] }
    let sDbl : Schema := { table := [], derived := [("s", [("c", (.double, .double))])] }
    runScopes false [] 0 [(sInt, [("s", "c")]), (sDbl, [("s", "c")])] = [[.int], [.int]] ∧
    uncachedScopes [(sInt, [("s", "c")]), (sDbl, [("s", "c")])] = [[.int], [.double]] ∧
    runScopes true [] 0 [(sInt, [("s", "c")]), (sDbl, [("s", "c")])] = [[.int], [.double]] := by decide +kernel

/-- `agg OVER ()` and `agg FILTER (WHERE c)` are annotated with exactly the aggregate's type, and the engine keeps its class -/
theorem wrapper_keeps_type (S : Schema) (k : UnK) (a : TExpr) :
    annot T0 S (.un .over (.un k a)) = annot T0 S (.un k a) ∧ annot T0 S (.un .filter (.un k a)) = annot T0 S (.un k a) ∧
    eng T0 S (.un .over (.un k a)) = resolveE (eng T0 S (.un k a)) ∧
    eng T0 S (.un .filter (.un k a)) = resolveE (eng T0 S (.un k a)) := by
  have hw : T0.md .window = .byArgs [true] false := by decide +kernel
  have hf : T0.md .filter = .byArgs [true] false := by decide +kernel
  -- over a non-literal operand of type `t` both wrappers are by-args over that one child
  have wrap (t : Ty) : annotUn T0 .over (.of t) = t ∧ annotUn T0 .filter (.of t) = t := by
    simp only [annotUn, unNode, annotNode, annotShape, isWinFn, hw, hf, applyMask]
    exact ⟨byArgs_single t, byArgs_single t⟩
  simp only [annot, sm, Sm.ty]
  exact ⟨(wrap _).1, (wrap _).2, rfl, rfl⟩

/-! ### non-vacuity -/

def sample1 : TExpr :=
  .tern .caseWhen (.bin .lt (c "da") (.strLit .isoDate))
    (.bin .mul (.bin .add (c "ti") (c "bi")) .decLit)
    (.bin .div (.un .abs (c "de")) (.un (.cast .int) (c "v")))
def sample2 : TExpr :=
  .bin .coalesce (.un .over (.un .sum (c "si"))) (.un .length (.bin .dpipe (c "v") (c "i")))
def sample3 : TExpr := .bin .add (c "ts") (.interval true)
/-- `COALESCE(t.ti, NULL, t.bi, 1.5, t.db, 1)` and `CASE WHEN .. THEN 'abc' WHEN .. THEN t.v ELSE NULL END` -/
def sample4 : TExpr :=
  .nary .coalesce (.cons (c "ti") (.cons .nullLit (.cons (c "bi") (.cons .decLit (.cons (c "db") (.cons .intLit .nil))))))
def sample5 : TExpr := .nary .caseN (.cons (.strLit .other) (.cons (c "v") (.cons .nullLit .nil)))
def sample6 : TExpr := .un .filter (.un .max (.nary .greatest (.cons (c "da") (.cons (c "da") .nil))))

example : WF T0 S0 sample1 = true ∧ WF T0 S0 sample2 = true ∧ WF T0 S0 sample3 = true := by decide +kernel
example : WF T0 S0 sample4 = true ∧ WF T0 S0 sample5 = true ∧ WF T0 S0 sample6 = true := by decide +kernel
example : annot T0 S0 sample1 = .double ∧ eng T0 S0 sample1 = .double := by decide +kernel
example : annot T0 S0 sample2 = .bigint ∧ eng T0 S0 sample2 = .hugeint := by decide +kernel
example : annot T0 S0 sample4 = .double ∧ eng T0 S0 sample4 = .double := by decide +kernel
example : annot T0 S0 sample5 = .text ∧ eng T0 S0 sample5 = .text := by decide +kernel

/-- non-vacuity of further forms: `(SELECT MAX(t.i) FROM t) BETWEEN TRY_CAST(t.v AS INT) AND 3000000000`,
    `LAG(t.db) OVER () + ROW_NUMBER() OVER ()`, `[t.ti, t.bi][1] IS DISTINCT FROM STDDEV(t.i)` -/
example :
    WF T0 S0 (.pred3 .between (.un .subq (.un .max (c "i"))) (.un (.tryCast .int) (c "v")) (.numLit .big)) = true ∧
    WF T0 S0 (.bin .add (.un .lag (c "db")) (.win0 .rowNumber)) = true ∧
    annot T0 S0 (.bin .add (.un .lag (c "db")) (.win0 .rowNumber)) = .double ∧
    WF T0 S0 (.bin .isDistinct (.bin .arrayElem (c "ti") (c "bi")) (.un .stddev (c "i"))) = true := by decide +kernel

/-! ### what the unchanged tree gets wrong: one kernel-decided witness per family (each is a known-finding entry) -/

/-- the tables with NULLIF typed from both arguments / from its first argument only, whatever the live table says -/
def T0nullifBoth : Tables := { T0 with md := fun c => if c = .nullif then .byArgs [true, true] false else T0.md c }
def T0nullifFirst : Tables := { T0 with md := fun c => if c = .nullif then .byArgs [true, false] false else T0.md c }

/-- `NULLIF(1, UPPER(v))`: coercing both arguments gives TEXT, DuckDB returns the first argument's type (INTEGER) -/
theorem nullif_witness :
    let e := TExpr.bin .nullif .intLit (.un .upper (c "v"))
    annot T0nullifBoth S0 e = .varchar ∧ eng T0nullifBoth S0 e = .integer ∧ annot T0nullifFirst S0 e = .int := by
  decide +kernel

/-- complete finite decision: typed from its first argument, NULLIF agrees with DuckDB for EVERY pair of typed operands the
    engine accepts -/
theorem nullif_first_arg_agrees :
    (Sm.typed.all fun a => Sm.typed.all fun b => (compat a).all fun ea => (compat b).all fun eb =>
      T0.duckBin .nullif ea eb == .error
      || Rel (.of (annotBin T0nullifFirst .nullif a b)) (T0.duckBin .nullif ea eb)) = true := by decide +kernel

/-- a witness: the annotated class and the engine's class of a concrete expression differ, and it is outside `WF` -/
def Disagrees (e : TExpr) : Bool :=
  eng T0 S0 e != .error && !(Rel (sm T0 S0 e) (eng T0 S0 e)) && !(WF T0 S0 e)

/-- `NULL + NULL`, `-NULL`, `SUM(NULL)`: UNKNOWN vs an integer overload -/
theorem null_only_arith_disagrees_witness :
    Disagrees (.bin .add .nullLit .nullLit) = true ∧ Disagrees (.un .neg .nullLit) = true ∧
    Disagrees (.un .sum .nullLit) = true := by decide +kernel
/-- `t.de + NULL`: DECIMAL vs the SQLNULL type -/
theorem decimal_null_arith_disagrees_witness : Disagrees (.bin .add (c "de") .nullLit) = true := by decide +kernel
/-- `'abc' + NULL`: VARCHAR vs BIGINT -/
theorem strlit_null_arith_disagrees_witness : Disagrees (.bin .add (.strLit .other) .nullLit) = true := by decide +kernel
/-- `t.v || NULL`: VARCHAR vs SQLNULL -/
theorem concat_null_disagrees_witness : Disagrees (.bin .dpipe (c "v") .nullLit) = true := by decide +kernel
/-- `t.da + INTERVAL 1 DAY`: DATE vs TIMESTAMP -/
theorem date_interval_disagrees_witness : Disagrees (.bin .add (c "da") (.interval true)) = true := by decide +kernel
/-- `t.da - t.da` (DATE vs BIGINT), `t.ts - t.ts` (TIMESTAMP vs INTERVAL) -/
theorem temporal_diff_disagrees_witness :
    Disagrees (.bin .sub (c "da") (c "da")) = true ∧ Disagrees (.bin .sub (c "ts") (c "ts")) = true := by decide +kernel
/-- `t.ti + t.da` (TINYINT vs DATE), `INTERVAL 1 DAY + t.ts`, `t.i * INTERVAL 1 DAY` -/
theorem mixed_chain_arith_disagrees_witness :
    Disagrees (.bin .add (c "ti") (c "da")) = true ∧ Disagrees (.bin .add (.interval true) (c "ts")) = true ∧
    Disagrees (.bin .mul (c "i") (.interval true)) = true := by decide +kernel
/-- `(t.ts - t.ts) - 'abc'`: UNKNOWN vs INTERVAL -/
theorem interval_minus_string_disagrees_witness :
    Disagrees (.bin .sub (.bin .sub (c "ts") (c "ts")) (.strLit .other)) = true := by decide +kernel
/-- `COALESCE(t.bo, t.si)`, `COALESCE(t.da, t.ts)`, `CASE WHEN .. THEN 'abc' ELSE 1 END`, `GREATEST(t.bo, t.ti)`, `LEAST(t.da, t.ts)` -/
theorem mixed_chain_branches_disagrees_witness :
    Disagrees (.bin .coalesce (c "bo") (c "si")) = true ∧ Disagrees (.bin .coalesce (c "da") (c "ts")) = true ∧
    Disagrees (.tern .caseWhen (c "bo") (.strLit .other) .intLit) = true ∧
    Disagrees (.bin .greatest (c "bo") (c "ti")) = true ∧ Disagrees (.bin .least (c "da") (c "ts")) = true := by decide +kernel
/-- `SUM(t.bo)`: BOOLEAN vs HUGEINT -/
theorem sum_boolean_disagrees_witness : Disagrees (.un .sum (c "bo")) = true := by decide +kernel
/-- `AVG(t.da)`: DOUBLE vs TIMESTAMP -/
theorem avg_temporal_disagrees_witness : Disagrees (.un .avg (c "da")) = true := by decide +kernel
/-- `CEIL(t.db)` / `FLOOR(t.ti)`: INT vs DOUBLE -/
theorem ceil_floor_disagrees_witness :
    Disagrees (.un .ceil (c "db")) = true ∧ Disagrees (.un .floor (c "ti")) = true := by decide +kernel
/-- `ROUND(t.ti)`: DOUBLE vs TINYINT -/
theorem round_disagrees_witness : Disagrees (.un .round (c "ti")) = true := by decide +kernel
/-- `CORR(t.ti, t.ti)`: TINYINT vs DOUBLE -/
theorem corr_disagrees_witness : Disagrees (.bin .corr (c "ti") (c "ti")) = true := by decide +kernel

/-- why `stepOk` looks at both accumulators: `COALESCE('abc', t.i, 1.5)` keeps INT (the literal accumulator stays VARCHAR,
    the non-literal one wins) while DuckDB gives DECIMAL, although `COALESCE('abc', t.i)` and `COALESCE(t.i, 1.5)` both agree -/
theorem nary_accumulators_disagree_witness :
    let e := TExpr.nary .coalesce (.cons (.strLit .other) (.cons (c "i") (.cons .decLit .nil)))
    annot T0 S0 e = .int ∧ eng T0 S0 e = .decimal ∧ WF T0 S0 e = false ∧
    WF T0 S0 (.nary .coalesce (.cons (.strLit .other) (.cons (c "i") .nil))) = true ∧
    WF T0 S0 (.nary .coalesce (.cons (c "i") (.cons .decLit .nil))) = true := by decide +kernel

end SqlglotModel.Properties.C16
