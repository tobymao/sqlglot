/-
  C16 — the duckdb EXPRESSION_METADATA entries that are not individually modelled ("generic functions"): for every such class
  whose generic instantiation with 1 or 2 scalar arguments renders to duckdb SQL that parses back to the same tree and whose
  entry has a shape that `Meta` expresses (returns / by-args / binary / unary; an array constructor, which `annotShape` leaves
  UNKNOWN), the class of the type the entry yields is decided against the engine's class table (Generated/C16Fn.lean:
  regenerated from the live metadata and the installed DuckDB).
-/
import SqlglotModel.Proofs.Types
import SqlglotModel.Generated.C16
import SqlglotModel.Generated.C16Fn

namespace SqlglotModel.Properties.C16Fn
open SqlglotModel.Types

abbrev T0 : Tables := SqlglotModel.Generated.C16.tables
abbrev F0 : FnTables := SqlglotModel.Generated.C16Fn.tables

/-- complete finite decision: every generic entry × typed operand summaries × compatible engine classes on which DuckDB gives
    a type in one of the property's classes agrees, except exactly the known disagreements `famFn` (ArrayPosition, the Bitwise*
    functions, JSONExtractScalar, DateBin with a NULL origin) -/
theorem metadata_functions_exact : fnCheck T0 F0 = true := by decide +kernel

/-- the decision is not vacuous: there are agreeing combinations, and known disagreements occur -/
theorem metadata_functions_census : (censusFn T0 F0).1 > 1000 ∧ (censusFn T0 F0).2 > 0 := by
  -- the first 24 entries (in name order: `Acos` … `BitwiseLeftShift`) already hold that many
  have h : (censusFn T0 { F0 with count := 24 }).1 > 1000 ∧ (censusFn T0 { F0 with count := 24 }).2 > 0 := by
    decide +kernel
  have m := censusFn_mono T0 F0 (n := 24) (by decide)
  exact ⟨Nat.lt_of_lt_of_le h.1 m.1, Nat.lt_of_lt_of_le h.2 m.2⟩

end SqlglotModel.Properties.C16Fn
