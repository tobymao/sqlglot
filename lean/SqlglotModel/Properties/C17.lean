/-
C17 — Column lineage reports exactly the source columns feeding a result column.

Model: Model/Lineage.lean (`toNode` = sqlglot.lineage.to_node over the flattened scopes of the QUALIFIED query, with the
memo cache as explicit state; `flow` = plain structural data flow, no cache, no node names).  Qualification itself
(star expansion, alias pushing) is C10's subject and is done by the real code before the model sees the query.
All theorems are for every scope list, every fuel, every cache satisfying the invariant — no size bound.
`Cfg.comps` = the components of `cache_key`, re-extracted from sqlglot/lineage.py on every run (Generated/C17.lean).
-/
import SqlglotModel.Proofs.Lineage
import SqlglotModel.Generated.C17

namespace SqlglotModel.Properties.C17
open SqlglotModel.Lineage
open SqlglotModel.Generated.C17 (keyComps recursiveCalls recursiveCallsPassCache keyNormalisations refNormalisations
  expandAliasVariant branchCopiesCteSources traverseCtesUpdatesInPlace memoisedNormalisers)
open SqlglotModel.Ident (Ident CaseFns Strategy asciiFns)

/-- the configuration the current source induces -/
def genCfg (useCache : Bool) : Cfg := ⟨keyComps, useCache⟩

/-- table fact (decided completely against the regenerated data): the cache key extracted from the source contains
    the column and the scope identity, and every recursive `to_node` call threads `_cache`.  Dropping a key component in
    the source breaks the build here. -/
theorem generated_key_ok :
    KeyComp.column ∈ keyComps ∧ KeyComp.scope ∈ keyComps ∧ recursiveCallsPassCache = true ∧ 0 < recursiveCalls := by
  decide

theorem genCfg_keyOk (b : Bool) : KeyOk (genCfg b) := KeyOk.of_mem generated_key_ok.1 generated_key_ok.2.1

/-- **leaves = flow**: without a cache, the leaves under the node `to_node` returns for (scope, column) are exactly
    the structural data flow of that column, for any key layout, any node names, any passed-in (unused) cache. -/
theorem leaves_eq_flow (comps : List KeyComp) (scopes : List LScope) (f : Nat) (a : Args) (cache : Cache)
    (h : a.scope < f) :
    (toNode ⟨comps, false⟩ scopes f a cache).1.leaves = flow scopes a.scope a.col :=
  (toNode_leaves (KeyOk.uncached comps) h (Inv.uncached comps scopes cache)).1

/-- **the cache is transparent**: for every key layout that contains column and scope, and every cache whose entries
    hold the flow of the (scope, column) their key names (`Inv`; the empty cache in particular), the cached run returns
    the same leaves as the uncached run AND leaves a cache that satisfies the invariant again — so it holds across the
    successive `to_node` calls of one `lineage(None, …)` that share a cache.  It holds whatever the condition under which
    a node is inserted (`Inv.insert`): the set-operation rule (cache only a node the call created) and the Subquery-scope
    rule (never cache a passed-in upstream) are in the model and play no part in the proof. -/
theorem cache_transparent (comps : List KeyComp) (hc : KeyComp.column ∈ comps) (hs : KeyComp.scope ∈ comps)
    (scopes : List LScope) (f : Nat) (a : Args) (cache : Cache) (h : a.scope < f)
    (hinv : Inv ⟨comps, true⟩ scopes cache) :
    (toNode ⟨comps, true⟩ scopes f a cache).1.leaves = (toNode ⟨comps, false⟩ scopes f a []).1.leaves ∧
      Inv ⟨comps, true⟩ scopes (toNode ⟨comps, true⟩ scopes f a cache).2 := by
  obtain ⟨h1, h2⟩ := toNode_leaves (KeyOk.of_mem hc hs) h hinv
  exact ⟨h1.trans (leaves_eq_flow comps scopes f a [] h).symm, h2⟩

example (cfg : Cfg) (scopes : List LScope) : Inv cfg scopes [] := Inv.nil cfg scopes

/-- the same for the key the CURRENT SOURCE uses (no hypothesis left: discharged by `generated_key_ok`) -/
theorem cache_transparent_generated (scopes : List LScope) (f : Nat) (a : Args) (cache : Cache) (h : a.scope < f)
    (hinv : Inv (genCfg true) scopes cache) :
    (toNode (genCfg true) scopes f a cache).1.leaves = (toNode (genCfg false) scopes f a []).1.leaves ∧
      Inv (genCfg true) scopes (toNode (genCfg true) scopes f a cache).2 :=
  cache_transparent keyComps generated_key_ok.1 generated_key_ok.2.1 scopes f a cache h hinv

/-- leaves of `lineage(column)` with the generated key, cached or not, are the flow of the root column -/
theorem lineageOne_eq_flow (b : Bool) (scopes : List LScope) (root : Nat) (column : String) :
    (lineageOne (genCfg b) scopes root column).1.leaves = flow scopes root (.name column) :=
  (toNode_leaves (genCfg_keyOk b) (Nat.lt_succ_self root) (Inv.nil _ _)).1

/-- `lineage(None, …)` (one shared cache for all output columns) = the per-column calls, each with a fresh cache
    and no caching at all -/
theorem lineage_all_eq_per_column (scopes : List LScope) (root : Nat) (names : List String) :
    lineageAll (genCfg true) scopes root names [] =
      names.map fun n => (lineageOne (genCfg false) scopes root n).1.leaves := by
  rw [lineageAll_spec (genCfg_keyOk true) root names [] (Inv.nil _ _)]
  exact List.map_congr_left fun n _ => (lineageOne_eq_flow false scopes root n).symm

/-- **CTE vs derived table**: two scope lists that differ only in which sources are CTEs (and in the reference names
    this induces in nodes and cache keys) have the same leaves -/
theorem cte_vs_derived (b : Bool) (s1 s2 : List LScope) (h : s1.map LScope.eraseCte = s2.map LScope.eraseCte)
    (root : Nat) (column : String) :
    (lineageOne (genCfg b) s1 root column).1.leaves = (lineageOne (genCfg b) s2 root column).1.leaves := by
  rw [lineageOne_eq_flow, lineageOne_eq_flow, flow_of_map_eq erase_eraseCte h]

/-- **sources= vs inline**: the `/* source: x */` tags that `exp.expand` leaves on derived tables (they change
    `source_name`, `reference_node_name` and hence cache keys) do not change the leaves -/
theorem sources_arg_eq_inline (b : Bool) (s1 s2 : List LScope) (h : s1.map LScope.eraseTag = s2.map LScope.eraseTag)
    (root : Nat) (column : String) :
    (lineageOne (genCfg b) s1 root column).1.leaves = (lineageOne (genCfg b) s2 root column).1.leaves := by
  rw [lineageOne_eq_flow, lineageOne_eq_flow, flow_of_map_eq erase_eraseTag h]

/-- **alias renaming, per scope**: every scope `k` may be renamed by its own `ρs k`, which only has to be injective
    on the aliases / column qualifiers that scope mentions (`LScope.names`); the leaves do not change -/
theorem alias_renaming_invariant_per_scope (b : Bool) (ρs : Nat → String → String) (scopes : List LScope)
    (hρ : ∀ k sc, scopes[k]? = some sc → InjOn (ρs k) sc.names) (root : Nat) (column : String) :
    (lineageOne (genCfg b) (renameScopes ρs scopes) root column).1.leaves =
      (lineageOne (genCfg b) scopes root column).1.leaves := by
  rw [lineageOne_eq_flow, lineageOne_eq_flow, flow_renameScopes ρs scopes hρ]

/-- **alias renaming** (corollary): one globally injective renaming applied to every scope -/
theorem alias_renaming_invariant (b : Bool) (ρ : String → String) (hρ : ∀ x y, ρ x = ρ y → x = y)
    (scopes : List LScope) (root : Nat) (column : String) :
    (lineageOne (genCfg b) (scopes.map (LScope.rename ρ)) root column).1.leaves =
      (lineageOne (genCfg b) scopes root column).1.leaves := by
  rw [lineageOne_eq_flow, lineageOne_eq_flow, flow_rename hρ]

/-- non-vacuity of the per-scope hypothesis: a scope with the aliases `p`, `q` (scope 1 of `cteTwice` below, written out)
    renamed by a NON-injective map that is injective on its two aliases (`p ↦ q2`, everything else ↦ `q1`) -/
example : InjOn (fun s => if s = "p" then "q2" else "q1")
    (LScope.select [⟨"x", [("p", "a"), ("q", "b")], []⟩] ⟨"", [], []⟩
      [("p", .scope 0 false none none), ("q", .scope 0 false none none)]).names := by
  unfold InjOn
  decide

/-- a non-trivial injective renaming: swap `p` and `q` -/
def swapPQ (x : String) : String := if x = "p" then "q" else if x = "q" then "p" else x

example : ∀ x y : String, swapPQ x = swapPQ y → x = y := by
  have inv : ∀ x, swapPQ (swapPQ x) = x := by
    intro x
    by_cases hp : x = "p"
    · subst hp; decide
    · by_cases hq : x = "q"
      · subst hq; decide
      · simp only [swapPQ, hp, hq, if_false]
  intro x y h
  rw [← inv x, h, inv]

/-! ### witnesses (finite, decided completely): each key component is essential -/

def noFb : Proj := ⟨"", [], []⟩

/-- `SELECT d.a AS x, d.b AS y FROM (SELECT t.a AS a, t.b AS b FROM t) AS d` -/
def twoCol : List LScope :=
  [ .select [⟨"a", [("t", "a")], []⟩, ⟨"b", [("t", "b")], []⟩] noFb [("t", .table "t")],
    .select [⟨"x", [("d", "a")], []⟩, ⟨"y", [("d", "b")], []⟩] noFb [("d", .scope 0 false none none)] ]

/-- non-vacuity: on `twoCol` the generated key gives the right answer for both columns with a shared cache -/
theorem twoCol_ok : lineageAll (genCfg true) twoCol 1 ["x", "y"] [] = [[("t", "a")], [("t", "b")]] := by
  decide +kernel

/-- a cache keyed WITHOUT the column returns the first column's leaves for the second column -/
theorem stale_key_without_column_witness :
    lineageAll ⟨[.scope, .scopeName, .sourceName, .refName], true⟩ twoCol 1 ["x", "y"] [] =
      [[("t", "a")], [("t", "a")]] := by
  decide +kernel

/-- `SELECT (SELECT t.a AS a FROM t) + (SELECT u.a AS a FROM u) AS a` -/
def twoSubq : List LScope :=
  [ .select [⟨"a", [("t", "a")], []⟩] noFb [("t", .table "t")],
    .select [⟨"a", [("u", "a")], []⟩] noFb [("u", .table "u")],
    .select [⟨"a", [], [(0, ["a"]), (1, ["a"])]⟩] noFb [] ]

theorem twoSubq_ok : (lineageOne (genCfg true) twoSubq 2 "a").1.leaves = [("t", "a"), ("u", "a")] := by
  decide +kernel

/-- a cache keyed WITHOUT the scope identity answers the second scalar subquery from the first one's entry -/
theorem stale_key_without_scope_witness :
    (lineageOne ⟨[.column, .scopeName, .sourceName, .refName], true⟩ twoSubq 2 "a").1.leaves =
      [("t", "a"), ("t", "a")] := by
  decide +kernel

/-- non-vacuity of `cte_vs_derived`: a CTE referenced twice under two aliases vs two derived tables -/
def cteTwice (isCte : Bool) (rn : Option String) : List LScope :=
  [ .select [⟨"a", [("t", "a")], []⟩, ⟨"b", [("t", "b")], []⟩] noFb [("t", .table "t")],
    .select [⟨"x", [("p", "a"), ("q", "b")], []⟩] noFb
      [("p", .scope 0 isCte rn none), ("q", .scope 0 isCte rn none)] ]

example : (cteTwice true (some "c")).map LScope.eraseCte = (cteTwice false none).map LScope.eraseCte := rfl

theorem cteTwice_ok :
    (lineageOne (genCfg true) (cteTwice true (some "c")) 1 "x").1.leaves = [("t", "a"), ("t", "b")] := by
  decide +kernel

/-! ### `sources=` : `exp.expand` modelled, not assumed -/

/-- **expand then lineage = inline**: instantiating the `sources` definitions as `exp.expand` does (a fresh, tagged
    derived-table copy per reference, recursively; `expandQA mk al`, any tagging `mk`, any alias rule `al`, any way
    `look` of finding a definition) and writing the same derived tables inline by hand (`expandQA (fun _ => none) al`,
    no tags) give the same root and the same leaves for every output column — also for cyclic or dangling definitions
    (explicit error scope) and every fuel. -/
theorem expand_then_lineage_eq_inline (b : Bool) (mk : String → Option String) (al : AliasFn) (look : Look) (fuel : Nat)
    (implicit : List (Nat × String)) (main : List LScope) (column : String) :
    (lineageOne (genCfg b) (expandQA mk al look fuel implicit main).1 (expandQA mk al look fuel implicit main).2 column).1.leaves =
      (lineageOne (genCfg b) (expandQA (fun _ => none) al look fuel implicit main).1
        (expandQA (fun _ => none) al look fuel implicit main).2 column).1.leaves := by
  obtain ⟨h1, h2⟩ := expandQA_sim mk (fun _ => none) al look fuel implicit main
  rw [h2]
  exact sources_arg_eq_inline b _ _ h1 _ column

/-- `sources={'s2': 'SELECT t.a AS a FROM t', 's1': 'SELECT w.a AS x FROM s2 AS w'}`,
    main `SELECT p.x AS y, q.x AS z FROM s1 AS p CROSS JOIN s1 AS q` (a source referenced twice, a source using a source) -/
def expDefs : List SrcDef :=
  [ { name := "s2", scopes := [.select [⟨"a", [("t", "a")], []⟩] noFb [("t", .table "t")]] },
    { name := "s1", scopes := [.select [⟨"x", [("w", "a")], []⟩] noFb [("w", .table "s2")]] } ]

def expMain : List LScope :=
  [ .select [⟨"y", [("p", "x")], []⟩, ⟨"z", [("q", "x")], []⟩] noFb [("p", .table "s1"), ("q", .table "s1")] ]

/-- non-vacuity: the expansion has 5 scopes (two copies of s1, each with its own copy of s2), root 4, and both
    columns reach `t.a`; without the definitions the columns end in the unexpanded table `s1` -/
theorem expand_example :
    (expandQ some (fun n => findDef n expDefs) 3 expMain).1.length = 5 ∧ (expandQ some (fun n => findDef n expDefs) 3 expMain).2 = 4 ∧
      lineageAll (genCfg true) (expandQ some (fun n => findDef n expDefs) 3 expMain).1 4 ["y", "z"] [] = [[("t", "a")], [("t", "a")]] ∧
      lineageAll (genCfg true) (expandQ some (fun _ => none) 3 expMain).1 0 ["y", "z"] [] = [[("s1", "x")], [("s1", "x")]] := by
  decide +kernel

/-- table fact (decided against the regenerated data): between `lineage()` and `exp.expand` the dict keys go through
    `normalize_table_name` exactly once, and so does each table reference.  A second pass in the source breaks the build. -/
theorem generated_key_normalised_once : keyNormalisations = 1 ∧ refNormalisations = 1 := by decide

/-- **keys normalised once**: with one pass over the definition keys, a table reference with identifier parts `r`
    finds a definition iff some definition key `kd.key` satisfies `normKey kd.key = normKey r`, for every strategy and
    all case functions (no hypothesis needed); and what it finds is such a definition, named by the normalised key. -/
theorem expand_key_normalised_once (f : CaseFns) (s : Strategy) (defs : List KeyedDef) (refs : List (String × List Ident))
    (n : String) (r : List Ident) (hr : lookupRef n refs = some r) :
    ((∃ d, lookupKeyed f s 1 defs refs n = some d) ↔ ∃ kd ∈ defs, normKey f s kd.key = normKey f s r) ∧
      (∀ d, lookupKeyed f s 1 defs refs n = some d →
        d.name = normKey f s r ∧ ∃ kd ∈ defs, normKey f s kd.key = normKey f s r ∧ kd.scopes = d.scopes) :=
  lookupKeyed_spec f s 1 defs refs n r hr

/-- witness: `sources={'"Orders"': …}` referenced as `FROM "Orders"` under LOWERCASE.  One pass: key and reference
    both normalise to `Orders` and the definition is found.  A second pass has only the unquoted text `Orders` to
    start from (`reparseKey` forgets `quoted`), folds it to `orders`, and the reference no longer finds its source. -/
theorem expand_key_double_normalisation_witness :
    normKey asciiFns .lowercase [⟨"Orders", true⟩] = "Orders" ∧
    defKey asciiFns .lowercase 2 [⟨"Orders", true⟩] = "orders" ∧
    (lookupKeyed asciiFns .lowercase 1 [{ key := [⟨"Orders", true⟩], scopes := [] }] [("Orders", [⟨"Orders", true⟩])] "Orders").isSome = true ∧
    (lookupKeyed asciiFns .lowercase 2 [{ key := [⟨"Orders", true⟩], scopes := [] }] [("Orders", [⟨"Orders", true⟩])] "Orders").isSome = false ∧
    -- an unquoted name survives a second pass (why plain lower-case source names never showed it)
    (lookupKeyed asciiFns .lowercase 2 [{ key := [⟨"Orders", false⟩], scopes := [] }] [("Orders", [⟨"Orders", false⟩])] "Orders").isSome = true := by
  -- The four texts are evaluated on their own, each against a literal; the lookups are then decided on literals.
  -- Evaluating a whole lookup at once is very slow where it compares two COMPUTED strings that are equal:
  -- `String.decEq` then casts along the equality of the byte lists, which the kernel settles by a
  -- definitional-equality check of the two unevaluated texts.
  have n : normKey asciiFns .lowercase [⟨"Orders", true⟩] = "Orders" := by decide +kernel
  have d1 : defKey asciiFns .lowercase 1 [⟨"Orders", true⟩] = "Orders" := n
  have d2 : defKey asciiFns .lowercase 2 [⟨"Orders", true⟩] = "orders" := by decide +kernel
  have n' : normKey asciiFns .lowercase [⟨"Orders", false⟩] = "orders" := by decide +kernel
  have d2' : defKey asciiFns .lowercase 2 [⟨"Orders", false⟩] = "orders" := by decide +kernel
  refine ⟨n, d2, ?_, ?_, ?_⟩
  all_goals simp only [lookupKeyed, lookupRef, if_true, List.map, n, d1, d2, n', d2', findKeyed]
  all_goals decide

/-- table fact (decided against the regenerated data): `exp.expand` builds the alias from `node.alias or name`
    (name = the full normalised dotted name).  Any other expression in the source breaks the build. -/
theorem generated_expand_alias_ok : expandAliasVariant = AliasVariant.fullName := by decide

/-- **distinct names, distinct aliases**: the alias text `exp.expand` gives an UNALIASED reference is the full
    normalised dotted name, so two references with distinct normalised names get distinct alias texts (they cannot
    collide in one scope) — trivially for every strategy and all case functions, since no case function is involved;
    and after `to_identifier` + the identifier normalisation of `qualify` the aliases are still distinct whenever both
    names need quoting (a dotted name always does) and the strategy leaves quoted identifiers alone. -/
theorem expand_alias_unique_per_reference (k1 k2 : String) (h : k1 ≠ k2) :
    expandAliasText .fullName none k1 ≠ expandAliasText .fullName none k2 ∧
      ∀ (f : CaseFns) (s : Strategy), SqlglotModel.Ident.folds s true = false →
        isSafeIdent k1 = false → isSafeIdent k2 = false →
        expandAlias .fullName f s false "" k1 ≠ expandAlias .fullName f s false "" k2 := by
  refine ⟨h, ?_⟩
  intro f s hs h1 h2
  simp [expandAlias, expandAliasText, h1, h2, SqlglotModel.Ident.normalize, hs, h]

/-- witness for the last-part variant (`node.alias_or_name`): `stg.orders` and `mart.orders` both become `orders`
    (→ 'Alias already used', or silent capture of an outer `orders`); with the full name they stay apart -/
theorem expand_alias_last_part_witness :
    expandAliasText .aliasOrName none "stg.orders" = "orders" ∧
    expandAliasText .aliasOrName none "mart.orders" = "orders" ∧
    expandAlias .aliasOrName asciiFns .lowercase false "" "stg.orders" =
      expandAlias .aliasOrName asciiFns .lowercase false "" "mart.orders" ∧
    expandAlias .fullName asciiFns .lowercase false "" "stg.orders" = "stg.orders" ∧
    expandAlias .fullName asciiFns .lowercase false "" "mart.orders" = "mart.orders" ∧
    -- an explicit alias is kept
    expandAlias .aliasOrName asciiFns .lowercase true "p" "stg.orders" = "p" := by
  -- both alias texts are `orders`, so the aliases agree whatever `to_identifier` and the normalisation make of it
  have h1 : expandAliasText .aliasOrName none "stg.orders" = "orders" := by decide +kernel
  have h2 : expandAliasText .aliasOrName none "mart.orders" = "orders" := by decide +kernel
  refine ⟨h1, h2, ?_, ?_⟩
  · simp only [expandAlias, h1, h2]
  · decide +kernel

/-- witness (clean-tree corner, see known finding): the alias forgets that a name was QUOTED — the sources
    `"Orders1"` and `orders1` have distinct normalised names under LOWERCASE but, both being safe identifiers, their
    aliases are written unquoted and fold to the same `orders1` -/
theorem expand_alias_forgets_quoting_witness :
    SqlglotModel.Lineage.normKey asciiFns .lowercase [⟨"Orders1", true⟩] ≠
      SqlglotModel.Lineage.normKey asciiFns .lowercase [⟨"orders1", false⟩] ∧
    expandAlias .fullName asciiFns .lowercase false "" "Orders1" = expandAlias .fullName asciiFns .lowercase false "" "orders1" :=
  -- two computed strings are compared through their literal value (why: `expand_key_double_normalisation_witness`)
  have h1 : expandAlias .fullName asciiFns .lowercase false "" "Orders1" = "orders1" := by decide +kernel
  have h2 : expandAlias .fullName asciiFns .lowercase false "" "orders1" = "orders1" := by decide +kernel
  ⟨by decide +kernel, h1.trans h2.symm⟩

/-- table fact (decided against the regenerated data, sqlglot/optimizer/scope.py): `Scope.branch` builds a NEW
    `cte_sources` dict for every child (or `_traverse_ctes` does not update it in place).  Handing the parent's dict
    itself to a child under any condition breaks the build. -/
theorem generated_cte_env_isolated : (branchCopiesCteSources || !traverseCtesUpdatesInPlace) = true := by decide

/-- **sibling independence**: with per-child copies, what child `i` resolves a name to is its own WITH over the
    parent's mapping `E` — whatever the OTHER children define in their nested WITHs (two sibling lists that agree on
    child `i` give the same answer, for every name) -/
theorem cte_sibling_independence (E : CteEnv) (sibs sibs' : List CteEnv) (i : Nat) (n : String)
    (h : sibs[i]? = sibs'[i]?) :
    cteVisible true E sibs i n = cteVisible true E sibs' i n ∧
      cteVisible true E sibs i n = envGet n ((sibs[i]?).getD [] ++ E) := by
  simp only [cteVisible, parentEnvAt_copies, h, and_self]

/-- witness for the shared-dict variant: outer `WITH c` (scope 0); the first derived table has its own
    `WITH c` (scope 7); the LATER sibling, which defines nothing, resolves `c` to 7 instead of 0.  With copies it
    sees 0; and under an EMPTY outer mapping even the shared variant does not leak (fresh dict per child). -/
theorem cte_shared_dict_leak_witness :
    cteVisible false [("c", 0)] [[("c", 7)], []] 1 "c" = some 7 ∧
    cteVisible true [("c", 0)] [[("c", 7)], []] 1 "c" = some 0 ∧
    cteVisible false [("c", 0)] [[("c", 7)], []] 0 "c" = some 7 ∧
    cteVisible false [] [[("c", 7)], []] 1 "c" = none ∧
    -- shadowing a base table: `t` is no CTE for the later sibling (none = the physical table) unless it leaks
    cteVisible true [("k", 0)] [[("t", 7)], []] 1 "t" = none ∧
    cteVisible false [("k", 0)] [[("t", 7)], []] 1 "t" = some 7 := by
  decide +kernel

/-- table fact (decided against the regenerated data): none of `normalize_table_name` (and the helpers it calls),
    `exp.expand`, `lineage`, `to_node` carries a functools cache or uses a module-level memo dict.  A cache keyed by
    the dialect object is keyed by its CLASS only (Dialect.__eq__/__hash__ ignore settings): adding one breaks the build. -/
theorem generated_no_settings_blind_memo : memoisedNormalisers = [] := by decide

/-- **a memo is sound when its key determines the answer**: when the key contains the settings (or normalisation does
    not depend on them), for EVERY call history — any interleaving of dialect classes, strategies and key texts,
    starting from any memo whose entries are right (`MemoOk`; the empty one in particular) — the memoised
    normalisation answers exactly `normKey`.  That a key without the settings is not enough is the witness
    `expand_key_memo_without_settings_witness`. -/
theorem expand_key_memo_sound (hs : Bool) (f : CaseFns) (hk : KeyDetermines hs f)
    (calls : List (String × Strategy × List Ident)) (memo : NormMemo) (hm : MemoOk hs f memo) :
    runNormMemo hs f calls memo = calls.map fun c => normKey f c.2.1 c.2.2 :=
  runNormMemo_sound hk calls memo hm

example (hs : Bool) (f : CaseFns) : MemoOk hs f [] := MemoOk.nil hs f

example (f : CaseFns) : KeyDetermines true f := Or.inl rfl

/-- witness for the class-only key: `orders` under Snowflake's UPPERCASE, then the same text under a Snowflake
    object with CASE_SENSITIVE — the second call returns the stale `ORDERS` (so the `sources=` key no longer matches
    the table reference `orders`); with the strategy in the key it returns `orders` -/
theorem expand_key_memo_without_settings_witness :
    runNormMemo false asciiFns [("snowflake", .uppercase, [⟨"orders", false⟩]), ("snowflake", .caseSensitive, [⟨"orders", false⟩])] []
      = ["ORDERS", "ORDERS"] ∧
    runNormMemo true asciiFns [("snowflake", .uppercase, [⟨"orders", false⟩]), ("snowflake", .caseSensitive, [⟨"orders", false⟩])] []
      = ["ORDERS", "orders"] ∧
    SqlglotModel.Lineage.normKey asciiFns .caseSensitive [⟨"orders", false⟩] = "orders" := by
  decide +kernel

end SqlglotModel.Properties.C17
