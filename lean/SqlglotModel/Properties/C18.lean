/-
  C18 — Schema lookups always reflect the current registrations.
  Only property theorems, non-vacuity examples, counter-example witnesses and the concrete data they are stated over
  live here.
-/
import SqlglotModel.Proofs.Schema
import SqlglotModel.Proofs.SchemaMemo
import SqlglotModel.Proofs.SchemaEquiv
import SqlglotModel.Proofs.SchemaTree
import SqlglotModel.Proofs.SchemaFull
import SqlglotModel.Proofs.SchemaCtor
import SqlglotModel.Proofs.SchemaHash
import SqlglotModel.Generated.C18

namespace SqlglotModel.Properties.C18
open SqlglotModel.Schema SqlglotModel.Ident

/-- one API call (on normalised arguments) keeps the invariant, with the eviction the source performs (clear everything) -/
theorem stepN_inv (E : Env) (S : St) (hS : Inv E S) (op : NOp) : Inv E (stepN E .all S op).1 := hS.stepN op

/-- one API call keeps the invariant (with the eviction the source performs: clear everything) -/
theorem step_inv (E : Env) (S : St) (hS : Inv E S) (op : Op) : Inv E (step E .all S op).1 :=
  hS.stepN (normOp E op)

/-- every reachable state (any history, any length) satisfies the invariant -/
theorem run_inv (E : Env) (S : St) (hS : Inv E S) (ops : List Op) : Inv E (run E .all S ops) := hS.run ops

theorem answerN_eq_of_same_mapping (E : Env) (ev : Evict) (S T : St) (hS : Inv E S) (hT : Inv E T)
    (hm : S.mapping = T.mapping) (q : NOp) : (stepN E ev S q).2 = (stepN E ev T q).2 :=
  stepN_answer_eq hS hT hm q

/-- what a call answers depends only on mapping and trie once the cache is coherent -/
theorem answer_eq_of_same_mapping (E : Env) (ev : Evict) (S T : St) (hS : Inv E S) (hT : Inv E T)
    (hm : S.mapping = T.mapping) (q : Op) : (step E ev S q).2 = (step E ev T q).2 :=
  stepN_answer_eq hS hT hm (normOp E q)

/-- **C18 (refinement).** After any history of `add_table`s and lookups, every call answers exactly as a
    schema freshly built from the final mapping (empty caches, trie rebuilt) answers. -/
theorem schema_refines_fresh (E : Env) (S0 : St) (h0 : Inv E S0) (ops : List Op) (q : Op) :
    (step E .all (run E .all S0 ops) q).2 = (step E .all (fresh (run E .all S0 ops)) q).2 :=
  run_answers_fresh h0 ops q

/-- a concrete history (non-vacuity of the hypotheses, and the template the failing-input search replays):
    schema {db: {t: {a: INT}}}; `column_names("t")`; `add_table("db2.t", {b: INT})`; `column_names("t")`. -/
def witnessStart : St := fresh ⟨[(["db", "t"], [("a", "INT")])], [], []⟩
def dflt : DialectRef := ⟨"", ⟨.lowercase, false⟩⟩
def envA : Env := ⟨asciiFns, fun _ t => t, dflt, true, fun _ => none⟩
def witnessOps : List Op :=
  [ .columnNames dflt true [⟨"t", false⟩] false,
    .addTable dflt true [⟨"db2", false⟩, ⟨"t", false⟩] [(⟨"b", false⟩, "INT")] ]
def witnessQuery : Op := .columnNames dflt true [⟨"t", false⟩] false

example : Inv envA witnessStart := fresh_inv _ _

/-- with the source's eviction the late lookup reports the ambiguity, exactly like a fresh schema -/
theorem witness_ok_with_clear :
    (step envA .all (run envA .all witnessStart witnessOps) witnessQuery).2 = .err .ambiguous := by decide +kernel

/-- **why the eviction must be total**: with the pre-repair policy (evict only the added table's own two
    keys) the same history answers with the stale column list, while a fresh schema reports the ambiguity. -/
theorem stale_partial_lookup_witness :
    (step envA .exactKeys (run envA .exactKeys witnessStart witnessOps) witnessQuery).2 = .names ["a"] ∧
    (step envA .exactKeys (fresh (run envA .exactKeys witnessStart witnessOps)) witnessQuery).2 = .err .ambiguous := by
  decide +kernel

/-- the constructor's state is a legal start: any mapping with its trie and empty caches -/
theorem init_inv (E : Env) (m : List (Path × Cols)) : Inv E (fresh ⟨m, [], []⟩) := fresh_inv _ _

/-- the source's eviction policy, as extracted by the translator on this run, is the one the theorem is about -/
theorem generated_policy_ok : SqlglotModel.Generated.C18.evictionPolicy = Evict.all := by decide +kernel

/-! ## The memo tables in front of the normalisation and type-parsing functions -/

section Memo
open SqlglotModel.Generated.C18

/-- **memo_transparent.** A memo table never changes any answer, for every history of calls, as soon as every
    input that maps to the key an entry is stored under has the stored value (`hstore`; for an ordinary cache
    `storeKey x _ = key x` and this says: the key determines the result). -/
theorem memo_transparent {ι κ β : Type} [DecidableEq κ] (key : ι → κ) (storeKey : ι → β → κ) (consult : ι → Bool)
    (g : ι → β) (truthy : β → Bool) (hstore : ∀ x y, key y = storeKey x (g x) → g y = g x)
    (m : List (κ × β)) (hm : MemoInv key g m) (xs : List ι) (x : ι) :
    (memoCall key storeKey consult g truthy (memoRun key storeKey consult g truthy m xs) x).2 = g x :=
  memoCall_snd key storeKey consult g truthy _ (memoRun_inv key storeKey consult g truthy hstore m hm xs) x

example : MemoInv (fun (n : Nat) => n % 2) (fun n => n % 2 == 0) [] := memoInv_nil _ _

/-- the model's name normalisation reads nothing beyond what the translator found the source passing to
    `normalize_name` (a model-side obligation: it fails if the source stops passing one of them) -/
theorem name_compute_reads_only (f : CaseFns) (x y : NameIn)
    (h : ∀ fld ∈ nameCacheReads, NameIn.proj fld x = NameIn.proj fld y) : nameCompute f x = nameCompute f y := by
  have h1 := h .name (by decide)
  have h2 := h .quoted (by decide)
  have h3 := h .dialect (by decide)
  have h4 := h .isTable (by decide)
  have h5 := h .normalize (by decide)
  obtain ⟨a1, a2, a3, a4, a5⟩ := x
  obtain ⟨b1, b2, b3, b4, b5⟩ := y
  simp only [NameIn.proj, FVal.s.injEq, FVal.b.injEq, FVal.d.injEq] at h1 h2 h3 h4 h5
  subst h1 h2 h3 h4 h5
  rfl

/-- a key layout that covers the inputs read determines the result -/
theorem name_key_determines (f : CaseFns) (layout : List NField) (hc : covers layout nameCacheReads = true)
    (x y : NameIn) (hk : nameKey layout x = nameKey layout y) : nameCompute f x = nameCompute f y :=
  name_compute_reads_only f x y (key_agrees NameIn.proj hc hk)

/-- `_normalized_name_cache` is transparent for every history, for every covering key layout -/
theorem name_cache_transparent (f : CaseFns) (layout : List NField) (hc : covers layout nameCacheReads = true)
    (xs : List NameIn) (x : NameIn) : (nameCall f layout (nameRun f layout [] xs) x).2 = nameCompute f x :=
  memo_transparent (nameKey layout) (fun x _ => nameKey layout x) (fun _ => true) (nameCompute f) (fun r => r != "")
    (fun x y hk => name_key_determines f layout hc y x hk) [] (memoInv_nil _ _) xs x

/-- the key tuple the source builds covers every input of the computation (finite check, decided completely) -/
theorem generated_name_cache_key_ok : covers nameCacheKey nameCacheReads = true := by decide

def bq : DialectRef := ⟨"bigquery", ⟨.caseInsensitive, true⟩⟩
def pg : DialectRef := ⟨"postgres", ⟨.lowercase, false⟩⟩

/-- why `quoted` must be in the key: `"Foo"` (quoted Identifier) then `Foo` (unquoted) answers `Foo`, not `foo` -/
theorem name_cache_key_needs_quoted :
    (nameCall asciiFns [.name, .dialect, .isTable, .normalize]
      (nameRun asciiFns [.name, .dialect, .isTable, .normalize] [] [⟨"Foo", true, pg, false, true⟩])
      ⟨"Foo", false, pg, false, true⟩).2 = "Foo" ∧
    nameCompute asciiFns ⟨"Foo", false, pg, false, true⟩ = "foo" := by decide +kernel

/-- why `is_table` must be in the key (BigQuery): table key `Foo` then column `Foo` answers `Foo`, not `foo` -/
theorem name_cache_key_needs_is_table :
    (nameCall asciiFns [.name, .quoted, .dialect, .normalize]
      (nameRun asciiFns [.name, .quoted, .dialect, .normalize] [] [⟨"Foo", false, bq, true, true⟩])
      ⟨"Foo", false, bq, false, true⟩).2 = "Foo" ∧
    nameCompute asciiFns ⟨"Foo", false, bq, false, true⟩ = "foo" := by decide +kernel

theorem table_compute_reads_only (f : CaseFns) (x y : TableIn)
    (h : ∀ fld ∈ tableCacheReads, TableIn.proj fld x = TableIn.proj fld y) : tableCompute f x = tableCompute f y := by
  have h1 := h .table (by decide)
  have h2 := h .dialect (by decide)
  have h3 := h .normalize (by decide)
  simp only [TableIn.proj, FVal.t.injEq, FVal.b.injEq, FVal.d.injEq] at h1 h2 h3
  simp [tableCompute, h1, h2, h3]

/-- an entry stored under the NORMALISED table is right for every input that hits it: the key covers the inputs
    and normalisation is idempotent -/
theorem table_store_key_determines (f : CaseFns) (hf : f.Ok) (layout : List TField)
    (hc : covers layout tableCacheReads = true) (x y : TableIn)
    (hk : tableKey layout y = tableKey layout { x with table := tableCompute f x }) :
    tableCompute f y = tableCompute f x := by
  have h := table_compute_reads_only f y { x with table := tableCompute f x } (key_agrees TableIn.proj hc hk)
  rw [h]
  simp [tableCompute, normTable_idem f hf]

/-- `_normalized_table_cache` (entries stored under the NORMALISED table) is transparent for every history -/
theorem table_cache_transparent (f : CaseFns) (hf : f.Ok) (layout : List TField)
    (hc : covers layout tableCacheReads = true) (xs : List TableIn) (x : TableIn) :
    (tableCall f layout (tableRun f layout [] xs) x).2 = tableCompute f x :=
  memo_transparent (tableKey layout) _ _ (tableCompute f) _
    (fun x y hk => table_store_key_determines f hf layout hc x y hk) [] (memoInv_nil _ _) xs x

example : CaseFns.Ok ⟨id, id⟩ := ⟨fun _ => rfl, fun _ => rfl⟩

theorem generated_table_cache_key_ok : covers tableCacheKey tableCacheReads = true := by decide

theorem type_parse_reads_only (tbl : String → String → String) (x y : TypeIn)
    (h : ∀ fld ∈ typeCacheReads, TypeIn.proj fld x = TypeIn.proj fld y) : tyParse tbl x = tyParse tbl y := by
  have h1 := h .tyStr (by decide)
  have h2 := h .dialect (by decide)
  obtain ⟨a1, a2⟩ := x
  obtain ⟨b1, b2⟩ := y
  simp only [TypeIn.proj, FVal.s.injEq, FVal.d.injEq] at h1 h2
  subst h1 h2
  rfl

/-- `_type_mapping_cache` is transparent for every history IF its key covers (type text, dialect) -/
theorem type_cache_transparent (tbl : String → String → String) (layout : List YField) (hc : covers layout typeCacheReads = true)
    (xs : List TypeIn) (x : TypeIn) : (typeCall tbl layout (typeRun tbl layout [] xs) x).2 = tyParse tbl x :=
  memo_transparent (typeKey layout) (fun x _ => typeKey layout x) (fun _ => true) (tyParse tbl) (fun _ => true)
    (fun x y hk => type_parse_reads_only tbl y x (key_agrees TypeIn.proj hc hk)) [] (memoInv_nil _ _) xs x

/-- **a key of the type text only is NOT enough**: `FLOAT` asked under BigQuery, then under Postgres, answers
    BigQuery's type (finding C18-type-cache-dialect, repaired in the source: its key holds the dialect too) -/
theorem type_cache_stale_witness :
    let tbl := tyOfTable [(("bigquery", "FLOAT"), "FLOAT"), (("postgres", "FLOAT"), "DOUBLE")]
    (typeCall tbl [.tyStr] (typeRun tbl [.tyStr] [] [⟨"FLOAT", bq⟩]) ⟨"FLOAT", pg⟩).2 = "FLOAT" ∧
    tyParse tbl ⟨"FLOAT", pg⟩ = "DOUBLE" := by decide +kernel

/-- the layout found in the source is either the known-defective one (reported through the known finding) or a
    covering one (after the repair); any other key breaks the build -/
theorem generated_type_cache_key_known :
    typeCacheKey = [.tyStr] ∨ covers typeCacheKey typeCacheReads = true := by decide

/-- `_find_cache` (key `(table, ensure_data_types)`): the key covers everything `find` reads except
    `raise_on_missing` … (finite check on the extracted layout, decided completely) -/
theorem generated_find_cache_key_ok :
    covers findCacheKey (findCacheReads.filter (fun x => x != FField.raise)) = true := by decide

/-- … and `raise_on_missing` cannot matter for a CACHED answer: only non-`None` results are served from the cache
    (a cached `None` counts as a miss, an exception stores nothing) and a found result does not depend on it -/
theorem find_cache_raise_irrelevant {m : List (Path × Cols)} {tr : List (List Name)} {t : List Ident} {r : Bool}
    {v : Cols} (h : findU m tr t r = .found v) (r' : Bool) : findU m tr t r' = .found v :=
  findU_found_raise h r'

/-! ### `find`'s outcomes and the cache policy "store hits only" -/

/-- **the three outcomes of `find`** on every reachable state: the table's columns, `None`, or (only with
    `raise_on_missing=True`) the "Ambiguous mapping" SchemaError — never a leaked ValueError from `nested_get` -/
theorem find_three_outcomes (E : Env) (S : St) (hS : Inv E S) (t : List Ident) (r e : Bool) :
    (∃ c, (find E S t r e).2 = .found c) ∨ (find E S t r e).2 = .notFound ∨
    (r = true ∧ (find E S t r e).2 = .err .ambiguous) := by
  rw [find_snd E S hS]
  cases hf : findUncached S t r with
  | found c => exact .inl ⟨_, rfl⟩
  | notFound => exact .inr (.inl rfl)
  | err x =>
    obtain rfl := findUncached_err hS hf
    cases r
    · exact absurd hf (findU_noraise _ _ _ _)
    · exact .inr (.inr ⟨rfl, rfl⟩)

/-- **how the answer depends on `raise_on_missing`** (through the cache, on every reachable state): a found table is
    found either way; the flag only turns the ambiguous `None` into the error -/
theorem find_raise_dependence (E : Env) (S : St) (hS : Inv E S) (t : List Ident) (e : Bool) :
    (∀ c, (find E S t true e).2 = .found c ↔ (find E S t false e).2 = .found c) ∧
    ((find E S t true e).2 = .err .ambiguous → (find E S t false e).2 = .notFound) ∧
    ((find E S t true e).2 = .notFound → (find E S t false e).2 = .notFound) := by
  rw [find_false E S hS]
  cases (find E S t true e).2 <;> simp [FindR.quiet]

/-- **why the policy must be "store hits only"**: with "store misses" (seeded C15-6, C18-3) the `None` computed
    for the ambiguous `t` under `raise_on_missing=False` is replayed to a later `raise_on_missing=True` call, which
    must raise "Ambiguous mapping" -/
theorem store_misses_hides_ambiguity_witness :
    let S : St := fresh ⟨[(["db", "t"], [("a", "INT")]), (["db2", "t"], [("b", "INT")])], [], []⟩
    let t : List Ident := [⟨"t", false⟩]
    (findStoreMisses envA (findStoreMisses envA S [] t false false).1.1 (findStoreMisses envA S [] t false false).1.2
        t true false).2 = .notFound ∧
    (find envA (find envA S t false false).1 t true false).2 = .err .ambiguous := by decide +kernel

/-- the source's `find` recomputes when the cached value is `None` (ast fact: the guard is `if schema is None`) -/
theorem generated_find_cache_policy_ok : findServesCachedNone = false := by decide

/-- **every reader of a schema is an operation of this model**: the call-site table (which `Schema` members the
    optimizer / lineage / executor modules touch, re-extracted by ast on every run) only lists `column_names`,
    `get_column_type`, `has_column`, `find`, `empty`, `dialect`, `supported_table_args` (+ `add_table`, `copy`) — so
    "every lookup reflects the current registrations" covers every reader.  Finite check, decided completely. -/
theorem generated_schema_readers_are_model_operations :
    schemaCallSites.all (fun ms => ms.2.all (fun m => m.modelled)) = true := by decide +kernel

/-- which per-call overrides the computation behind each cache reads / which are part of its key, from the
    layouts extracted on this run (`find` takes an already normalised table: it has no per-call option) -/
def optRead : CacheId → CallOpt → Bool
  | .names, o => nameHas nameCacheReads o
  | .tables, o => tableHas tableCacheReads o
  | .types, o => typeHas typeCacheReads o
  | .finds, _ => false

def optInKey : CacheId → CallOpt → Bool
  | .names, o => nameHas nameCacheKey o
  | .tables, o => tableHas tableCacheKey o
  | .types, o => typeHas typeCacheKey o
  | .finds, _ => false

/-- **every per-call `dialect=` / `normalize=` override that a cached computation reads is part of that cache's
    key** — complete decision over the 4 caches × 2 options with the regenerated layouts -/
theorem generated_option_overrides_in_every_key :
    ∀ (c : CacheId) (o : CallOpt), optRead c o = true → optInKey c o = true := by
  intro c o; cases c <;> cases o <;> decide

/-- which inputs of the identifier normalisation the two caches that store its results read / key on -/
def normRead : CacheId → NormInput → Bool
  | .names, i => nameHasInput nameCacheReads i
  | .tables, i => tableHasInput tableCacheReads i
  | _, _ => false

def normInKey : CacheId → NormInput → Bool
  | .names, i => nameHasInput nameCacheKey i
  | .tables, i => tableHasInput tableCacheKey i
  | _, _ => false

/-- **every input of the identifier normalisation — spelling, quoting, dialect, `normalize` AND the identifier's
    role (`is_table`) — is part of the key of every cache that stores its result**: complete decision over
    4 caches × 5 inputs with the regenerated layouts (the seeded C10-7 / C18-1 "key without is_table" fails here) -/
theorem generated_normalisation_inputs_in_every_key :
    ∀ (c : CacheId) (i : NormInput), normRead c i = true → normInKey c i = true := by
  intro c i; cases c <;> cases i <;> decide

/-- the role really is an input: `normalize_name` stores `is_table` in `identifier.meta` before calling
    `Dialect.normalize_identifier` (ast fact), so `_normalize_name` must pass it on and key on it -/
theorem generated_role_is_read_and_keyed :
    roleReachesNormalizeIdentifier = true →
      nameCacheReads.contains NField.isTable = true ∧ nameCacheKey.contains NField.isTable = true := by decide

end Memo

/-! ## Expression-keyed caches: the keys' cached hashes must be fresh -/

section Hash
open SqlglotModel.Generated.C18

/-- **under the assumption "every key's cached hash is the hash of its current content"** a dict keyed by
    expressions (`_find_cache`, `_normalized_table_cache`) IS the content-keyed dict of the model: same lookups,
    same updates, and the assumption is kept.  (Who provides the assumption: C08, `cached_hash_is_recomputed`,
    for nodes mutated through the `set/append/replace/pop` API.) -/
theorem expression_keys_are_content_keys {β} (m : List (HKey × β)) (hm : AllFresh m) (k : HKey) (hk : k.Fresh) (v : β) :
    hLookup m k = lookup (contentView m) k.content ∧
    contentView (hSet m k v) = dictSet (contentView m) k.content v ∧ AllFresh (hSet m k v) :=
  ⟨hLookup_fresh m hm k hk, hSet_fresh m hm k hk v⟩

example : AllFresh ([] : List (HKey × Cols)) := by intro kv h; cases h

/-- renaming the parts of the private copy through the API leaves a key whose hash will be recomputed -/
theorem rename_via_api_fresh (f : Ident → Ident) (t : HKey) : (renameParts true f t).Fresh := rfl

/-- with API renames, `find` behind an expression-keyed cache answers the uncached lookup of the (normalised or
    verbatim) table, for every history (invariant `Coh`: keys fresh, entries = uncached answers) -/
theorem find_via_api_transparent (look : List Ident → Option Cols) (cache : List (HKey × Cols)) (hc : Coh look cache)
    (f : Ident → Ident) (norm : Bool) (t : HKey) (ht : t.Fresh) :
    (findVia true look cache f norm t).2 = look (if norm then t.content.map f else t.content) ∧
    Coh look (findVia true look cache f norm t).1 := findVia_api_spec look cache hc f norm t ht

example (look : List Ident → Option Cols) : Coh look [] := by intro kv h; cases h

def lookOrders : List Ident → Option Cols := fun p => if p = [⟨"orders", false⟩] then some [("id", "INT")] else none

/-- **the stale-hash regression (seeded C18-5)**: `part.args["this"] = …` on the deep copy keeps the `_hash` the
    caller's `Orders` table got when it was probed; the normalised table `orders` is stored under the hash of
    `Orders`, and a later `find(Orders, normalize=False)` replays its columns.  With API renames it answers `None`. -/
theorem stale_hash_witness :
    let lower : Ident → Ident := normalize asciiFns .lowercase
    let orders : HKey := ⟨[⟨"Orders", false⟩], none⟩
    (findVia false lookOrders (findVia false lookOrders [] lower true orders).1 lower false orders).2
      = some [("id", "INT")] ∧
    (findVia true lookOrders (findVia true lookOrders [] lower true orders).1 lower false orders).2 = none := by
  decide +kernel

/-- the source renames table parts through the hash-invalidating API (ast fact re-extracted on every run) -/
theorem generated_rename_invalidates_hash : tableRenameKeepsHash = false := by decide

end Hash

/-! ## The nested dict, the nested trie and the lazily cached depth refine the flat view -/

section Tree

/-- `nested_get` on a uniform-depth nested dict = lookup in the flat view -/
theorem nested_get_refines (d : Nat) (m : Tree) (path : Path) (hs : Shape d m) (hl : path.length = d) :
    nestedGet m path = match lookup (flatView d m) path with
      | some c => .found (.leaf c)
      | none => .missing := nestedGet_flatView d m path hs hl

/-- `flatView (nested_set m path cols) = dictSet (flatView m) path cols` as finite maps (the nested dict groups a
    new table under its existing parents, the flat list appends it: the ORDER differs, nothing observable does) -/
theorem nested_set_refines (d : Nat) (m : Tree) (path : Path) (c : Cols) (hs : Shape (d + 1) m)
    (hl : path.length = d + 1) (q : Path) :
    lookup (flatView (d + 1) (nestedSet m path (.leaf c))) q = lookup (dictSet (flatView (d + 1) m) path c) q := by
  rw [(flatView_nestedSet d m path c hs hl).2 q, lookup_dictSet]

example : Shape 2 (.node [("d", .node [("t", .leaf [("a", "INT")])])]) :=
  (Uniform.single "d" (Uniform.single "t" (Uniform.leaf _))).shape

theorem nested_set_keeps_uniform (d : Nat) (m : Tree) (path : Path) (c : Cols)
    (h : Uniform (d + 1) m ∨ m = .node []) (hl : path.length = d + 1) :
    Uniform (d + 1) (nestedSet m path (.leaf c)) := uniform_nestedSet d m path c h hl

/-- get-after-set on the nested dict: the path just set holds the new column dict … -/
theorem nested_get_set_same (d : Nat) (m : Tree) (path : Path) (c : Cols) (hs : Shape (d + 1) m)
    (hl : path.length = d + 1) : nestedGet (nestedSet m path (.leaf c)) path = .found (.leaf c) := by
  obtain ⟨s1, s2⟩ := flatView_nestedSet d m path c hs hl
  rw [nestedGet_flatView (d + 1) _ path s1 hl, s2 path]
  simp

/-- … and every other table path is untouched -/
theorem nested_get_set_other (d : Nat) (m : Tree) (path q : Path) (c : Cols) (hs : Shape (d + 1) m)
    (hl : path.length = d + 1) (hq : q.length = d + 1) (hne : path ≠ q) :
    nestedGet (nestedSet m path (.leaf c)) q = nestedGet m q := by
  obtain ⟨s1, s2⟩ := flatView_nestedSet d m path c hs hl
  rw [nestedGet_flatView (d + 1) _ q s1 hq, nestedGet_flatView (d + 1) m q hs hq, s2 q]
  simp [hne]

/-- `nested_set` with a full-depth path never changes `dict_depth` (so a cached `_depth` stays right) -/
theorem dict_depth_nested_set (d : Nat) (m : Tree) (path : Path) (c : Cols) (h : Uniform (d + 1) m)
    (hl : path.length = d + 1) : dictDepth (nestedSet m path (.leaf c)) = dictDepth m := by
  rw [dictDepth_uniform _ _ (uniform_nestedSet d m path c (Or.inl h) hl), dictDepth_uniform _ _ h]

/-- the paths `flatten_schema` lists after a `nested_set`: the old ones and the new one -/
theorem flatten_after_set_mem (d : Nat) (m : Tree) (path : Path) (c : Cols) (hs : Shape (d + 1) m)
    (hl : path.length = d + 1) (q : Path) :
    q ∈ flatten (d + 1) [] (nestedSet m path (.leaf c)) ↔ (q = path ∨ q ∈ flatten (d + 1) [] m) := by
  obtain ⟨s1, s2⟩ := flatView_nestedSet d m path c hs hl
  rw [flatten_flatView d _ [] s1, flatten_flatView d m [] hs]
  simp only [List.nil_append]
  rw [mem_keys_iff, mem_keys_iff, s2 q]
  by_cases e : path = q
  · simp [e]
  · simp only [e, if_false]
    constructor
    · exact Or.inr
    · rintro (h | h)
      · exact absurd h.symm e
      · exact h

/-- `flatten_schema(mapping, depth)` lists exactly the paths of the flat view -/
theorem flatten_schema_refines (d : Nat) (m : Tree) (keys : List Name) (hs : Shape (d + 1) m) :
    flatten (d + 1) keys m = (flatView (d + 1) m).map (fun pc => keys ++ pc.1) := flatten_flatView d m keys hs

/-- `dict_depth` of a uniform mapping (so `MappingSchema.depth() = dict_depth - 1 = d`) -/
theorem dict_depth_uniform (d : Nat) (m : Tree) (h : Uniform d m) : dictDepth m = d + 1 := dictDepth_uniform d m h

/-- `new_trie([key], trie)` adds exactly `key` to the key list (as a set) and keeps the trie uniform -/
theorem new_trie_refines (key : List Name) (d : Nat) (t : Trie) (ht : UniformT d t ∨ t = Trie.empty)
    (hl : key.length = d) :
    UniformT d (trieInsert t key) ∧ ∀ q, q ∈ keysAt d (trieInsert t key) ↔ (q = key ∨ q ∈ keysAt d t) :=
  trieInsert_spec key d t ht hl

/-- **`in_trie` on the nested trie = `inTrie` on its key list**, including the possibilities
    `flatten_schema(subtrie)` of a PREFIX hit -/
theorem in_trie_refines (d : Nat) (t : Trie) (ht : UniformT (d + 1) t ∨ t = Trie.empty) (key : List Name)
    (hl : key.length ≤ d + 1) : inTrieT t key = inTrie (keysAt (d + 1) t) key := inTrieT_refines d t ht key hl

example : UniformT 2 (trieInsert Trie.empty ["t", "d"]) :=
  (trieInsert_spec ["t", "d"] 2 Trie.empty (Or.inr rfl) rfl).1

/-- the flat specification looks at the key list only as a SET -/
theorem find_in_trie_set_congr {l1 l2 : List (List Name)} (h : SameKeys l1 l2) (parts : List Name) (raise : Bool) :
    findInTrie l1 parts raise = findInTrie l2 parts raise := findInTrie_congr h parts raise

/-- … and at the mapping only as a finite map: equivalent flat states answer alike and stay equivalent -/
theorem step_equiv_congr (E : Env) (ev : Evict) {S T : St} (h : Equiv S T) (op : Op) :
    (step E ev S op).2 = (step E ev T op).2 ∧ Equiv (step E ev S op).1 (step E ev T op).1 :=
  stepN_congr E ev h (normOp E op)

/-- **`depth()`'s cache**: on every admissible state the value returned (cached `_depth` or freshly computed)
    equals the recomputed depth, and filling the cache leaves mapping, trie, `_find_cache` and type cache as they were -/
theorem depth_cache_correct {C : Core} {d : Nat} (h : CShape C d) :
    (cDepth C).2 = d ∧ CShape (cDepth C).1 d ∧ SameData C (cDepth C).1 :=
  have ⟨out, shape, same⟩ := cDepth_spec h
  ⟨out, shape, same⟩

/-- **`supported_table_args`' cache** likewise -/
theorem supported_args_cache_correct {C : Core} {d : Nat} (h : CShape C d) :
    (cArgs C).2 = d ∧ CShape (cArgs C).1 d ∧ SameData C (cArgs C).1 :=
  have ⟨out, shape, same⟩ := cArgs_spec h
  ⟨out, shape, same⟩

def L0 : Layouts := ⟨[.name, .quoted, .dialect, .isTable, .normalize], [.table, .dialect, .normalize], [.tyStr, .dialect], .all⟩
def core2 : Core := coreOfMapping (.node [("d", .node [("t", .leaf [("a", "INT")])])])

/-- **the role-less key on a whole history** (seeded C10-7): BigQuery, `MappingSchema({"ds": {"Tbl": {"Tbl": "int",
    "x": "int"}}})` then `column_names("ds.Tbl")`: with `is_table` in the key the column is folded to `tbl`; without
    it the constructor replays the table key's cached spelling `Tbl` -/
theorem role_less_key_history_witness :
    let raw : Tree := .node [("ds", .node [("Tbl", .leaf [("Tbl", "int"), ("x", "int")])])]
    let E : Env := ⟨asciiFns, fun _ t => t, bq, true, fun _ => none⟩
    let q : FOp := .columnNames bq true ⟨[⟨"ds", false⟩, ⟨"Tbl", false⟩], true⟩ false
    let Lbad : Layouts := ⟨[.name, .quoted, .dialect, .normalize], [.table, .dialect, .normalize], [.tyStr, .dialect], .all⟩
    (match fInit E L0 raw true with | .ok F => (fStep E L0 F q).2 | .error e => .err e) = .names ["tbl", "x"] ∧
    (match fInit E Lbad raw true with | .ok F => (fStep E Lbad F q).2 | .error e => .err e) = .names ["Tbl", "x"] := by
  decide +kernel


example : CShape core2 2 := (coreOfMapping_spec 1 _ (Uniform.single "d" (Uniform.single "t" (Uniform.leaf _)))).1

/-- **the `match_depth` error**: a table whose number of parts differs from the schema depth is rejected, and
    mapping, trie, `_find_cache` and type cache stay as they were -/
theorem match_depth_error (E : Env) (L : Layouts) {C : Core} {d : Nat} (h : CShape C (d + 1)) (nt : List Ident)
    (ncols : Cols) (hl : nt.length ≠ d + 1) :
    (coreStep E L C (.addTable nt ncols)).2 = .err .depthMismatch ∧ SameData C (coreStep E L C (.addTable nt ncols)).1 := by
  have hne : (absC C (d + 1)).mapping ≠ [] := by cases h with | full _ hu _ _ _ => exact (depth_absC_full hu).2
  rw [coreStep_addTable, if_pos ((depthCheck_iff h nt).mpr ⟨hne, by rwa [depth_absC h]⟩)]
  exact ⟨rfl, (cDepth_spec h).same⟩

/-- **why the cached depth must equal the recomputed one**: with a stale `_depth` (1 instead of 2) a correctly
    qualified `add_table("d.u", …)` is rejected, while the same call on the admissible state succeeds -/
theorem stale_depth_witness :
    (coreStep envA L0 { core2 with depthC := 1 } (.addTable [⟨"d", false⟩, ⟨"u", false⟩] [("b", "INT")])).2
      = .err .depthMismatch ∧
    (coreStep envA L0 core2 (.addTable [⟨"d", false⟩, ⟨"u", false⟩] [("b", "INT")])).2 = .unit := by
  decide +kernel

/-- **`add_table(match_depth=False)`, partial.**  Specified (inside the refinement): every call whose table has exactly
    the schema's depth, and every call on an empty schema — they answer and continue like `match_depth=True`.
    NOT specified: a call with another number of parts; it leaves the uniform-depth states the refinement is about
    (`match_depth_false_nonuniform_witness`), and from then on no answer of that schema is covered. -/
theorem match_depth_false_partial {L : Layouts} {E : Env} (hk : TypeKeyOK L E) {C : Core} {d : Nat} (h : CShape C d)
    (hT : TInv L E C) (nt : List Ident) (ncols : Cols) (hnt : nt ≠ []) (hd : d = 0 ∨ nt.length = d) :
    (coreAddNoCheck E L C nt ncols).2 = (stepN E L.evict (absC C d) (.addTable nt ncols)).2 ∧
    ∃ d', CShape (coreAddNoCheck E L C nt ncols).1 d' ∧ TInv L E (coreAddNoCheck E L C nt ncols).1 ∧
      Equiv (absC (coreAddNoCheck E L C nt ncols).1 d') (stepN E L.evict (absC C d) (.addTable nt ncols)).1 :=
  coreAddNoCheck_spec hk h hT nt ncols hnt hd

/-- why the rest is not specified: on `{d: {t: …}}` (depth 2, `_depth` cached), `add_table("d", {z: INT},
    match_depth=False)` replaces the namespace `d` by a column dict; the cached `_depth` keeps saying 2 while a
    schema rebuilt from the mapping computes 1 -/
theorem match_depth_false_nonuniform_witness :
    let C' := (coreAddNoCheck envA L0 core2 [⟨"d", false⟩] [("z", "INT")]).1
    (cDepth C').2 = 2 ∧ dictDepth C'.mapping - 1 = 1 := by decide +kernel

/-- one public method on the full core (nested structures + caches) = the same method on the flat view -/
theorem core_step_refines {L : Layouts} {E : Env} (hk : TypeKeyOK L E) {C : Core} {d : Nat} (h : CShape C d)
    (hT : TInv L E C) (op : NOp) (hop : NAdm op) :
    (coreStep E L C op).2 = (stepN E L.evict (absC C d) op).2 ∧
    ∃ d', CShape (coreStep E L C op).1 d' ∧ TInv L E (coreStep E L C op).1 ∧
      Equiv (absC (coreStep E L C op).1 d') (stepN E L.evict (absC C d) op).1 := coreStep_spec hk h hT op hop

end Tree

/-! ## The full model (what the driver executes against the real code) refines the specification -/

section Full
open SqlglotModel.Generated.C18

/-- the key layouts and eviction policy extracted from the source on this run -/
def genL : Layouts := ⟨nameCacheKey, tableCacheKey, typeCacheKey, evictionPolicy⟩

/-- a covering type-cache key is fine in every environment … -/
theorem type_key_ok_of_covers (L : Layouts) (E : Env) (hc : covers L.ty typeCacheReads = true) : TypeKeyOK L E :=
  fun x y hk => type_parse_reads_only E.ty x y (key_agrees TypeIn.proj hc hk)

/-- … a text-only key (the source's before the repair) is fine in environments where the dialects in play
    parse type texts alike (one where they do not: `type_cache_stale_witness`, finding C18-type-cache-dialect) -/
theorem type_key_ok_of_dialect_insensitive (L : Layouts) (E : Env) (hL : L.ty = [.tyStr])
    (hE : ∀ a b s, E.ty a s = E.ty b s) : TypeKeyOK L E := by
  intro x y hk
  simp only [typeKey, hL, List.map_cons, List.map_nil, TypeIn.proj, List.cons.injEq, FVal.s.injEq, and_true] at hk
  simp only [tyParse, hk]
  exact hE _ _ _

/-- with the layouts found in the source, the name and table caches are sound in every environment whose case maps
    are idempotent; the type cache under the stated hypothesis -/
theorem generated_keys_ok (E : Env) (hf : E.f.Ok) (hty : TypeKeyOK genL E) : KeysOK genL E :=
  ⟨hty, fun x y hk => name_key_determines E.f nameCacheKey generated_name_cache_key_ok x y hk,
   fun x y hk => table_store_key_determines E.f hf tableCacheKey generated_table_cache_key_ok x y hk⟩

/-- **one call**: the full model answers like the flat specification and the simulation is kept -/
theorem full_step_refines {L : Layouts} {E : Env} (hk : KeysOK L E) {F : FSt} {d : Nat} {S : St}
    (hF : FInv L E F d) (hEq : Equiv (absC F.core d) S) (op : FOp) (hop : FAdm op) :
    (fStep E L F op).2 = (step E L.evict S op.toOp).2 ∧
    ∃ d', FInv L E (fStep E L F op).1 d' ∧ Equiv (absC (fStep E L F op).1.core d') (step E L.evict S op.toOp).1 :=
  fStep_refines hk hF hEq op hop

/-- **every history** -/
theorem full_run_refines {L : Layouts} {E : Env} (hk : KeysOK L E) (ops : List FOp) {F : FSt} {d : Nat} {S : St}
    (hF : FInv L E F d) (hEq : Equiv (absC F.core d) S) (hadm : ∀ op ∈ ops, FAdm op) :
    ∃ d', FInv L E (fRun E L F ops) d' ∧ Equiv (absC (fRun E L F ops).core d') (run E L.evict S (ops.map FOp.toOp)) :=
  fRun_refines hk ops hF hEq hadm

/-- **C18 for the full model.** After any history on the full model (nested dict, nested trie, all five caches,
    key layouts and eviction as found in the source), every call answers exactly as the flat specification of a
    schema freshly built from the final mapping. -/
theorem full_schema_refines_fresh (E : Env) (hf : E.f.Ok) (hty : TypeKeyOK genL E) (F0 : FSt) (d : Nat) (S0 : St)
    (hF : FInv genL E F0 d) (hS : Inv E S0) (hEq : Equiv (absC F0.core d) S0) (ops : List FOp)
    (hadm : ∀ op ∈ ops, FAdm op) (q : FOp) (hq : FAdm q) :
    (fStep E genL (fRun E genL F0 ops) q).2 =
      (step E .all (fresh (run E .all S0 (ops.map FOp.toOp))) q.toOp).2 :=
  fRun_refines_fresh (generated_keys_ok E hf hty) generated_policy_ok hF hS hEq ops hadm q hq

/-- the state `MappingSchema(mapping, normalize=False)` builds is admissible and stands for the fresh flat state -/
theorem constructor_state_ok (d : Nat) (m : Tree) (hu : Uniform (d + 1) m) :
    CShape (coreOfMapping m) (d + 1) ∧
    Equiv (absC (coreOfMapping m) (d + 1)) (fresh ⟨flatView (d + 1) m, [], []⟩) := coreOfMapping_spec d m hu

/-- … so the refinement applies to every schema constructed from a uniform nested mapping (or from nothing) -/
theorem full_refines_fresh_from_mapping (E : Env) (hf : E.f.Ok) (hty : TypeKeyOK genL E) (d : Nat) (m : Tree)
    (hu : Uniform (d + 1) m) (ops : List FOp) (hadm : ∀ op ∈ ops, FAdm op) (q : FOp) (hq : FAdm q) :
    (fStep E genL (fRun E genL ⟨coreOfMapping m, [], []⟩ ops) q).2 =
      (step E .all (fresh (run E .all (fresh ⟨flatView (d + 1) m, [], []⟩) (ops.map FOp.toOp))) q.toOp).2 := by
  obtain ⟨h1, h2⟩ := coreOfMapping_spec d m hu
  exact full_schema_refines_fresh E hf hty ⟨coreOfMapping m, [], []⟩ (d + 1) _
    (.init h1 (coreOfMapping_types m) (memoInv_nil _ _) rfl) (fresh_inv E _) h2 ops hadm q hq

theorem full_refines_fresh_from_empty (E : Env) (hf : E.f.Ok) (hty : TypeKeyOK genL E)
    (ops : List FOp) (hadm : ∀ op ∈ ops, FAdm op) (q : FOp) (hq : FAdm q) :
    (fStep E genL (fRun E genL ⟨coreOfMapping (.node []), [], []⟩ ops) q).2 =
      (step E .all (fresh (run E .all empty (ops.map FOp.toOp))) q.toOp).2 := by
  obtain ⟨h1, h2⟩ := coreOfMapping_empty
  exact full_schema_refines_fresh E hf hty ⟨coreOfMapping (.node []), [], []⟩ 0 _
    (.init h1 (coreOfMapping_types _) (memoInv_nil _ _) rfl) (empty_inv E) (h2 ▸ Equiv.refl _) ops hadm q hq

end Full

/-! ## The constructor path `__init__ -> _normalize(raw mapping)` -/

section Ctor

/-- **constructor_eq_incremental.** On the flat view, the mapping `_normalize` builds from a raw mapping (flatten
    order, per-table key normalisation with `is_table=True`, per-column normalisation, column-by-column
    `nested_set`) is the mapping of the empty schema after `add_table` of each raw table in the same order —
    provided every table has a column, the depth is uniform and no two raw tables normalise to the same path. -/
theorem constructor_eq_incremental (E : Env) (n : Nat) (raw : List (List Name × Cols)) (h : CtorOK E n raw) :
    ctorFlat E raw = (run E .all empty (raw.map (addOpOf E))).mapping :=
  ctor_run E .all n raw empty (by intro pc h; cases h) h (by intro kc _ h; cases h)

/-- … hence a schema built by the constructor answers every query like the incrementally built one -/
theorem constructor_answers_eq_incremental (E : Env) (n : Nat) (raw : List (List Name × Cols))
    (h : CtorOK E n raw) (q : Op) :
    (step E .all (fresh ⟨ctorFlat E raw, [], []⟩) q).2 =
      (step E .all (run E .all empty (raw.map (addOpOf E))) q).2 :=
  answer_eq_of_same_mapping E .all (fresh ⟨ctorFlat E raw, [], []⟩) _ (fresh_inv E _)
    (run_inv E empty (empty_inv E) _) (constructor_eq_incremental E n raw h) q

example : CtorOK envA 0 [(["T"], [("A", "INT")]), (["u"], [("b", "TEXT")])] :=
  ⟨by decide, by decide, by decide +kernel⟩

/-- **why the no-collision precondition**: raw tables `T` and `t` normalise to the same path; the constructor
    MERGES their columns, `add_table` replaces the first table by the second -/
theorem constructor_merge_witness :
    ctorFlat envA [(["T"], [("a", "INT")]), (["t"], [("b", "TEXT")])] = [(["t"], [("a", "INT"), ("b", "TEXT")])] ∧
    (run envA .all empty ([(["T"], [("a", "INT")]), (["t"], [("b", "TEXT")])].map (addOpOf envA))).mapping
      = [(["t"], [("b", "TEXT")])] := by
  -- Each step is evaluated on its own, from a literal state to a literal state, and the folds are taken apart by
  -- rewriting: the kernel evaluates by name, so in the two-step term every read of the intermediate state would
  -- run the first step again (and unfolding by `rfl` or `simp only` makes it compare exactly those two terms).
  have c1 : ctorFlatStep envA [] (["T"], [("a", "INT")]) = [(["t"], [("a", "INT")])] := by decide +kernel
  have c2 : ctorFlatStep envA [(["t"], [("a", "INT")])] (["t"], [("b", "TEXT")])
      = [(["t"], [("a", "INT"), ("b", "TEXT")])] := by decide +kernel
  have s1 : (step envA .all empty (addOpOf envA (["T"], [("a", "INT")]))).1
      = ⟨[(["t"], [("a", "INT")])], [["t"]], []⟩ := by decide +kernel
  have s2 : (step envA .all ⟨[(["t"], [("a", "INT")])], [["t"]], []⟩ (addOpOf envA (["t"], [("b", "TEXT")]))).1.mapping
      = [(["t"], [("b", "TEXT")])] := by decide +kernel
  rw [ctorFlat, run, List.map_cons, List.map_cons, List.map_nil, List.foldl_cons, List.foldl_cons, List.foldl_nil,
    List.foldl_cons, List.foldl_cons, List.foldl_nil, c1, c2, s1, s2]
  exact ⟨rfl, rfl⟩

/-- one `nested_set(normalized_mapping, keys + [col], type)` of the real inner loop refines the flat column set -/
theorem nested_set_col_refines (d : Nat) (m : Tree) (path : Path) (col : Name) (ty : String)
    (hs : Shape (d + 1) m) (hl : path.length = d + 1) :
    Shape (d + 1) (nestedSetCol m path col ty) ∧
    ∀ q, lookup (flatView (d + 1) (nestedSetCol m path col ty)) q =
      if path = q then
        some (dictSet (match lookup (flatView (d + 1) m) path with | some c => c | none => []) col ty)
      else lookup (flatView (d + 1) m) q := nestedSetCol_refines d m path col ty hs hl

/-- **the real constructor refines `ctorFlat`**: `MappingSchema(raw, normalize=True)` on a uniform raw mapping whose
    tables all have a column succeeds, its state is admissible (cached `_depth` correct, trie uniform, name cache
    sound) and stands for the fresh flat state over `ctorFlat (flatView raw)` -/
theorem constructor_refines_flat {L : Layouts} {E : Env} (hk : NameKeyOK L E) (n : Nat) (raw : Tree)
    (hu : Uniform (n + 1) raw) (hc : ∀ kc ∈ flatView (n + 1) raw, kc.2 ≠ []) :
    ∃ F, fInit E L raw true = .ok F ∧ CShape F.core (n + 1) ∧ NamesInv L E F.names ∧ F.tables = [] ∧
      F.core.types = [] ∧
      Equiv (absC F.core (n + 1)) (fresh ⟨ctorFlat E (flatView (n + 1) raw), [], []⟩) :=
  fInit_normalize_spec hk n raw hu hc

open SqlglotModel.Generated.C18 in
/-- … so C18 holds for every history that STARTS with the raw constructor, on the full model -/
theorem full_refines_fresh_from_raw_constructor (E : Env) (hf : E.f.Ok) (hty : TypeKeyOK genL E) (n : Nat) (raw : Tree)
    (hu : Uniform (n + 1) raw) (hc : ∀ kc ∈ flatView (n + 1) raw, kc.2 ≠ [])
    (ops : List FOp) (hadm : ∀ op ∈ ops, FAdm op) (q : FOp) (hq : FAdm q) :
    ∃ F, fInit E genL raw true = .ok F ∧
      (fStep E genL (fRun E genL F ops) q).2 =
        (step E .all (fresh (run E .all (fresh ⟨ctorFlat E (flatView (n + 1) raw), [], []⟩) (ops.map FOp.toOp))) q.toOp).2 := by
  have hk := generated_keys_ok E hf hty
  obtain ⟨F, e, h1, h2, h3, h4, h5⟩ := fInit_normalize_spec hk.name n raw hu hc
  refine ⟨F, e, ?_⟩
  exact full_schema_refines_fresh E hf hty F (n + 1) _ (.init h1 h4 h2 h3) (fresh_inv E _) h5 ops hadm q hq

open SqlglotModel.Generated.C18 in
/-- **constructor = incremental, end to end**: every query on the schema the REAL constructor path builds from a raw
    nested mapping is answered like the (flat) empty schema after `add_table` of each raw table in flatten order -/
theorem raw_constructor_answers_eq_incremental (E : Env) (hf : E.f.Ok) (hty : TypeKeyOK genL E) (n : Nat) (raw : Tree)
    (hu : Uniform (n + 1) raw) (hok : CtorOK E n (flatView (n + 1) raw)) (q : FOp) (hq : FAdm q) :
    ∃ F, fInit E genL raw true = .ok F ∧
      (fStep E genL F q).2 =
        (step E .all (run E .all empty ((flatView (n + 1) raw).map (addOpOf E))) q.toOp).2 := by
  obtain ⟨F, e, h⟩ := full_refines_fresh_from_raw_constructor E hf hty n raw hu hok.cols [] (by intro o h; cases h) q hq
  refine ⟨F, e, ?_⟩
  simp only [fRun, List.foldl_nil, List.map_nil, run] at h
  rw [h]
  exact constructor_answers_eq_incremental E n _ hok q.toOp

/-! ### several schemas: `copy()`, `from_mapping_schema`, `empty` -/

/-- **frame**: a call on schema `i` leaves every other live schema exactly as it was -/
theorem copy_frame (E : Env) (L : Layouts) (W : World) (i j : Nat) (op : FOp) (h : i ≠ j) :
    (wStep E L W i op).1[j]? = W[j]? := wStep_other W i j op h

/-- **a copy is independent**: after `c = s.copy()` any history of calls on `c` leaves `s` — its state, hence every
    answer it gives — unchanged.  A `World` is a list of values, so what this says is that calls addressed to the copy
    write to no other place; sharing between two schemas cannot be expressed in the model (the real `copy()` shared inner
    dicts when `normalize=False`: finding C18-copy-shares-mapping, repaired in the source). -/
theorem copy_independent (E : Env) (L : Layouts) (W : World) (i : Nat) (norm : Bool) (ops : List FOp) (hi : i < W.length) :
    (ops.foldl (fun w op => (wStep E L w W.length op).1) (wCopy E L W i norm).1)[i]? = W[i]? :=
  (wRun_other W.length i (Nat.ne_of_gt hi) ops _).trans (wCopy_other W i i norm hi)

/-- the copy itself is a constructed schema: with `normalize` on it is `MappingSchema(mapping, normalize=True)`
    (`constructor_refines_flat` applies), with `normalize` off it is `coreOfMapping mapping` (`constructor_state_ok`) -/
theorem copy_is_constructor (E : Env) (L : Layouts) (F : FSt) (norm : Bool) :
    fCopy E L F norm = fInit E L F.core.mapping norm := rfl

/-- `Schema.empty` is "nothing registered": it agrees with the flat view on admissible states -/
theorem empty_refines (F : FSt) (d : Nat) (h : CShape F.core d) : fEmpty F = true ↔ (absC F.core d).mapping = [] :=
  isEmptyDict_iff h

end Ctor

end SqlglotModel.Properties.C18
