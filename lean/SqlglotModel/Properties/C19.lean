/-
  C19 — Concurrent use from many threads gives the single-threaded answers. One section for each system of
  Model/Threads.lean: the package `_import_lock` alone (lazy loading of dialect / optimizer modules, the class registry,
  the generator dispatch cache); the order of package lock and module locks on the two routes to a module (`Routes`);
  the full model with importlib's module locks, the `_try_load` string route, class configuration and the dispatch
  fill (`Full`); worker objects (`Workers`); class construction (`ClassTables`); the shared dispatch table
  (`SharedTable`); the look-up hot path (`Memo`). Only property theorems, non-vacuity examples and counter-example
  witnesses live here.

  The theorems quantify over EVERY reachable state / EVERY scheduler choice list of their system, for any number of
  threads, any programs and any module bodies, and are proved by invariants (Proofs/Threads*.lean). Each section opens
  with a finite table fact about the source, decided completely (`generated_locking_ok`, `generated_no_lazy_reentry`,
  `generated_shape_ok`, …), and a predicate saying that a configuration of the model is the one the translator read off
  the source (`FromSource`, `sourceRoutes`, `FullFromSource`, `WFromSource`, `UpdsFromSource`, `TFromSource`,
  `MFromSource`). A theorem has that predicate as hypothesis where it needs the fact — so a source edit that drops the
  lock, swaps RLock for Lock, stores the class first, caches a worker … breaks this file; it has the weaker condition
  where that is enough (`lock_order_no_deadlock`: no re-entry, `no_half_configured_class_visible`: the store order,
  `memo_lookups_never_raise`: the eviction mode), and none where it holds of every configuration
  (`full_module_lock_exclusive`, `full_load_exactly_once`, `registration_stable`). PARTIAL by design: assumed everywhere
  are the GIL (a step of a model is atomic), importlib's dead-lock detection between module locks and the content of
  module bodies (header of Model/Threads.lean).
-/
import SqlglotModel.Proofs.Threads
import SqlglotModel.Proofs.ThreadsRoutes
import SqlglotModel.Proofs.ThreadsFull
import SqlglotModel.Proofs.ThreadsObjects
import SqlglotModel.Generated.C19

namespace SqlglotModel.Properties.C19
open SqlglotModel.Threads SqlglotModel.Generated.C19

/-- finite table fact, decided completely: both lazy `__getattr__`s use one RLock that covers every
    `import_module` call and every `globals()[name] = value` store -/
theorem generated_locking_ok :
    dialectsLock.covers = true ∧ optimizerLock.covers = true ∧
    dialectsLock.kind = .rlock ∧ optimizerLock.kind = .rlock ∧ lockKind = .rlock := by decide

theorem lockKind_rlock : lockKind = .rlock := generated_locking_ok.2.2.2.2

/-- a model configuration that uses the lock the source uses -/
def FromSource (cfg : Cfg) : Prop := cfg.kind = lockKind

theorem FromSource.rlock {cfg : Cfg} (h : FromSource cfg) : cfg.kind = .rlock := by
  rw [h]; exact lockKind_rlock

/-- At most one thread is past the acquisition of the package lock, in every reachable state. -/
theorem mutual_exclusion (cfg : Cfg) (hsrc : FromSource cfg) (progs : Tid → List Op) (s : State)
    (hr : Reach cfg (initState progs) s) (t u : Tid)
    (ht : (s.threads t).critical = true) (hu : (s.threads u).critical = true) : t = u :=
  (Inv.reach hsrc.rlock hr).lock.mutex ht hu

/-- … and the lock word agrees with the stacks: its owner is the critical thread, its depth is the number of
    acquisitions that thread has not released yet; every other thread holds nothing. -/
theorem lock_depth_is_nesting (cfg : Cfg) (hsrc : FromSource cfg) (progs : Tid → List Op) (s : State)
    (hr : Reach cfg (initState progs) s) (t : Tid) : (s.threads t).held = depthOf s.lock t :=
  (Inv.reach hsrc.rlock hr).lock.depth t

/-- A thread that already owns the lock and enters `__getattr__` again (a module body that accesses another
    lazily loaded module) is never blocked by itself. -/
theorem reentrancy_no_self_deadlock (cfg : Cfg) (hsrc : FromSource cfg) (s : State) (t : Tid) (m : Mod)
    (fs : List Frame) (d : Nat) (hp : (s.threads t).pending = none) (hst : (s.threads t).stack = .want m :: fs)
    (hl : s.lock = some (t, d)) : (step cfg s t).isSome = true := by
  simp [step, hp, hst, stepFrame, hsrc.rlock, hl, acquire]

/-- No reachable state is stuck: unless every thread has finished, some thread can take a step. -/
theorem deadlock_free (cfg : Cfg) (hsrc : FromSource cfg) (progs : Tid → List Op) (s : State)
    (hr : Reach cfg (initState progs) s) (hnc : ¬ Complete s) : ∃ t, (step cfg s t).isSome = true :=
  progress hsrc.rlock (Inv.reach hsrc.rlock hr).lock hnc

/-- The body of a module is started at most once, however the first accesses interleave; it has been started
    exactly once iff the module is in `sys.modules`. -/
theorem load_exactly_once (cfg : Cfg) (hsrc : FromSource cfg) (progs : Tid → List Op) (s : State)
    (hr : Reach cfg (initState progs) s) (m : Mod) :
    s.loads m ≤ 1 ∧ (s.loads m = 1 ↔ s.started m = true) :=
  once_of_loads ((Inv.reach hsrc.rlock hr).reg.loads m)

/-- A module that is in `sys.modules` is registered, or its body is still running on the stack of the one thread
    inside the critical section: nobody else can observe the half-initialised module. -/
theorem no_lost_registration (cfg : Cfg) (hsrc : FromSource cfg) (progs : Tid → List Op) (s : State)
    (hr : Reach cfg (initState progs) s) (m : Mod) (hm : s.started m = true) :
    s.registered m = true ∨
      ∃ t, (s.threads t).critical = true ∧ (∃ l rest, Frame.body m l rest ∈ (s.threads t).stack) ∧
           ∀ u, (s.threads u).critical = true → u = t := by
  have hI := Inv.reach hsrc.rlock hr
  rcases hI.reg.reg m hm with h | ⟨t, hb⟩
  · exact Or.inl h
  · obtain ⟨l, rest, hb⟩ := mem_bodies.mp hb
    have hc := critical_of_mem hb rfl
    exact Or.inr ⟨t, hc, ⟨l, rest, hb⟩, fun u hu => hI.lock.mutex hu hc⟩

/-- … so when all threads are done every module that was touched is registered. -/
theorem no_lost_registration_final (cfg : Cfg) (hsrc : FromSource cfg) (progs : Tid → List Op) (s : State)
    (hr : Reach cfg (initState progs) s) (hc : Complete s) (m : Mod) (hm : s.started m = true) :
    s.registered m = true := by
  rcases no_lost_registration cfg hsrc progs s hr m hm with h | ⟨t, hcrit, _, _⟩
  · exact h
  · have hf := hc t
    simp only [Thread.finished, Bool.and_eq_true, List.isEmpty_iff] at hf
    simp [Thread.critical, hf.1.1] at hcrit

/-- Registrations are never undone by a step. -/
theorem registration_stable (cfg : Cfg) (s s' : State) (t : Tid) (l : Label)
    (hs : step cfg s t = some (l, s')) (m : Mod) (hm : s.registered m = true) : s'.registered m = true :=
  (step_sound hs).registered_mono m hm

/-- In every reachable state, what a thread has returned so far plus the sequential answers of the calls it has
    not completed yet is exactly its sequential result list. -/
theorem results_prefix_of_sequential (cfg : Cfg) (hsrc : FromSource cfg) (progs : Tid → List Op) (s : State)
    (hr : Reach cfg (initState progs) s) (t : Tid) :
    (s.threads t).results ++ (s.threads t).todo.map (expected cfg) = seqResults cfg (progs t) :=
  final_reach hsrc.rlock hr t

/-- Every complete schedule yields, for every thread, the results of running its program alone. -/
theorem results_schedule_independent (cfg : Cfg) (hsrc : FromSource cfg) (progs : Tid → List Op)
    (sched : List Tid) (hc : Complete (runSched cfg (initState progs) sched)) (t : Tid) :
    ((runSched cfg (initState progs) sched).threads t).results = seqResults cfg (progs t) := by
  have h := final_reach hsrc.rlock (reach_runSched (Reach.init (cfg := cfg) (s0 := initState progs)) sched) t
  have hf := hc t
  simp only [Thread.finished, Bool.and_eq_true, List.isEmpty_iff] at hf
  simpa [final, hf.2] using h

/-- … in particular any two complete schedules agree. -/
theorem results_agree (cfg : Cfg) (hsrc : FromSource cfg) (progs : Tid → List Op) (sched₁ sched₂ : List Tid)
    (h₁ : Complete (runSched cfg (initState progs) sched₁)) (h₂ : Complete (runSched cfg (initState progs) sched₂))
    (t : Tid) :
    ((runSched cfg (initState progs) sched₁).threads t).results =
      ((runSched cfg (initState progs) sched₂).threads t).results := by
  rw [results_schedule_independent cfg hsrc progs sched₁ h₁, results_schedule_independent cfg hsrc progs sched₂ h₂]

/-- The dispatch cache only ever holds the value `_build_dispatch` computes for the class, and a racing fill
    (two threads saw the miss) overwrites an entry with the identical value. This needs no lock. -/
theorem dispatch_race_benign (cfg : Cfg) (hsrc : FromSource cfg) (progs : Tid → List Op) (s : State)
    (hr : Reach cfg (initState progs) s) :
    (∀ m v, s.cache m = some v → v = cfg.build m) ∧
    (∀ t l s', step cfg s t = some (l, s') → ∀ m v, s.cache m = some v → s'.cache m = some v) := by
  have hI := Inv.reach hsrc.rlock hr
  refine ⟨hI.res.cache, ?_⟩
  intro t l s' hs m v hv
  -- only the fill writes the cache, and it writes what is there already
  cases step_sound hs with
  | fill m' hp =>
    simp only [setT_cache]
    split
    · rename_i e; subst e; rw [hI.res.cache m v hv]
    · exact hv
  | _ => exact hv

/-! ### non-vacuity and witnesses -/

/-- a module whose body lazily accesses another module (nested acquisition) and directly imports a third -/
def demoBody : Mod → List Item := fun m => if m = 2 then [.lazy 0, .direct 1] else []

def demoProgs : Tid → List Op := fun t =>
  if t = 0 then [.access 2, .gen 2] else if t = 1 then [.access 0, .gen 2, .access 2] else []

def demoCfg (k : LockKind) : Cfg := { kind := k, body := demoBody, build := fun m => m + 7 }

example : FromSource (demoCfg .rlock) := lockKind_rlock.symm

def demoSched : List Tid :=
  [0, 1, 0, 1, 0, 0, 1, 0, 0, 0, 0, 1, 0, 0, 0, 0, 0, 0, 0, 0, 1, 0, 1, 1, 1, 1, 1, 1, 1, 1, 1, 1, 1, 1, 1, 0, 0, 1]

/-- the hypotheses of `results_schedule_independent` are satisfiable: this interleaving of two threads (nested
    acquisition, a blocked acquisition, a racing dispatch fill) is complete -/
theorem demo_complete : Complete (runSched (demoCfg .rlock) (initState demoProgs) demoSched) := by
  intro t
  by_cases h0 : t = 0
  · subst h0; decide +kernel
  · by_cases h1 : t = 1
    · subst h1; decide +kernel
    · rw [runSched_others _ t demoSched _ (by simp [demoSched, h0, h1])]
      simp [initState, initThread, demoProgs, h0, h1, Thread.finished]

example : ((runSched (demoCfg .rlock) (initState demoProgs) demoSched).threads 1).results
    = [.attr 0 true, .disp 2 9, .attr 2 true] := by decide +kernel

/-- WHY RLock: the same model with a non re-entrant lock reaches a state that is not complete and in which no
    thread can step — the thread that loads module 1 blocks on its own lock when the body of module 1 accesses
    module 0 through `__getattr__`. -/
def dlCfg (k : LockKind) : Cfg := { kind := k, body := fun m => if m = 1 then [.lazy 0] else [], build := fun _ => 0 }
def dlProgs : Tid → List Op := fun t => if t = 0 then [.access 1] else []
def dlState (k : LockKind) : State := runSched (dlCfg k) (initState dlProgs) [0, 0, 0, 0, 0, 0, 0, 0, 0, 0, 0, 0]

theorem plain_lock_deadlocks : ¬ Complete (dlState .plain) ∧ ∀ t, step (dlCfg .plain) (dlState .plain) t = none := by
  constructor
  · intro h
    have := h 0
    revert this
    decide +kernel
  · intro t
    by_cases h0 : t = 0
    · subst h0
      exact Option.isNone_iff_eq_none.mp (by decide +kernel)
    · apply step_none_of_finished
      unfold dlState
      rw [runSched_others _ t _ _ (by simp [h0])]
      simp [initState, initThread, dlProgs, h0, Thread.finished]

/-- the same schedule under the re-entrant lock runs to completion with the sequential result -/
example : ((dlState .rlock).threads 0).finished = true ∧ ((dlState .rlock).threads 0).results = [.attr 1 true] := by
  decide +kernel

/-- WHY the lock must cover the import: without a lock (or with the import outside it) two threads can both see
    the miss and both run the module body. -/
def twiceCfg : Cfg := { kind := .absent, body := fun _ => [], build := fun _ => 0 }
def twiceProgs : Tid → List Op := fun t => if t = 0 ∨ t = 1 then [.access 0] else []

theorem absent_lock_loads_twice :
    (runSched twiceCfg (initState twiceProgs) [0, 0, 0, 1, 1, 1, 0, 1]).loads 0 = 2 := by decide +kernel


/-! ### lock order: package lock before module lock, never the other way round -/

open SqlglotModel.Threads.Routes

/-- finite table fact, decided completely: no module that is executed while a dialect / optimizer module is being
    imported (the modules under sqlglot/dialects and sqlglot/optimizer and everything their bodies import from
    sqlglot at module level) re-enters a lazy package `__getattr__` in code that runs at import time
    (`from sqlglot.dialects import <Name>`, `sqlglot.dialects.<Name>`, `from sqlglot.optimizer import <name>` in top-level
    statements, class bodies, decorators, default arguments) -/
theorem generated_no_lazy_reentry : reentryModules = [] := by decide

/-- the two-routes model instantiated with what the translator found in the source -/
def sourceRoutes : RCfg := { reentry := fun m => reentryModules.contains m }

theorem sourceRoutes_no_reentry (m : Mod) : sourceRoutes.reentry m = false := by
  simp [sourceRoutes, generated_no_lazy_reentry]

/-- If no module body asks for the package lock while it holds a module lock (lock order acyclic), then no
    reachable state of any number of threads taking the attribute route (`sqlglot.dialects.X`: package lock, then
    module lock) and the string route (`Dialect.get_or_raise("x")`: module lock only) in any interleaving is stuck. -/
theorem lock_order_no_deadlock (cfg : RCfg) (hno : ∀ m, cfg.reentry m = false) (progs : Tid → List Route)
    (s : RState) (hr : RReach cfg (rinit progs) s) (hnc : ¬ RComplete s) : ∃ t, (rstep cfg s t).isSome = true :=
  rprogress (RInv.reach hno hr) hnc

/-- … and that is the situation of the current source. -/
theorem source_two_routes_no_deadlock (progs : Tid → List Route) (s : RState)
    (hr : RReach sourceRoutes (rinit progs) s) (hnc : ¬ RComplete s) : ∃ t, (rstep sourceRoutes s t).isSome = true :=
  lock_order_no_deadlock sourceRoutes sourceRoutes_no_reentry progs s hr hnc

/-- the lock words always describe who is where (no re-entry): the package lock is held by exactly the thread
    between its acquisition and release, each module lock by the thread inside that module -/
theorem two_routes_lock_ownership (cfg : RCfg) (hno : ∀ m, cfg.reentry m = false) (progs : Tid → List Route)
    (s : RState) (hr : RReach cfg (rinit progs) s) :
    (∀ t, (s.pc t).holdsP = true → s.pkg = some (t, 1)) ∧ (∀ t m, (s.pc t).holdsM = some m → s.modLock m = some t) :=
  ⟨(RInv.reach hno hr).pkg_of_holdsP, (RInv.reach hno hr).modLock_of_holdsM⟩

/-- WHY the order matters: module 0's body re-enters the lazy `__getattr__`; thread 0 comes by the attribute route,
    thread 1 by the string route; after five steps thread 0 holds the package lock and waits for the module lock,
    thread 1 holds the module lock and waits for the package lock — nobody can step, nobody is done. -/
def reCfg : RCfg := { reentry := fun m => m == 0 }
def reProgs : Tid → List Route := fun t => if t = 0 then [.attr 0] else if t = 1 then [.str 0] else []
def reState : RState := rrun reCfg (rinit reProgs) [0, 0, 1, 1, 1]

theorem reentry_two_routes_deadlock : ¬ RComplete reState ∧ ∀ t, rstep reCfg reState t = none := by
  constructor
  · intro h
    have := (h 0).1
    revert this
    decide +kernel
  · intro t
    by_cases h0 : t = 0
    · subst h0
      exact Option.isNone_iff_eq_none.mp (by decide +kernel)
    · by_cases h1 : t = 1
      · subst h1
        exact Option.isNone_iff_eq_none.mp (by decide +kernel)
      · have := rrun_others reCfg t [0, 0, 1, 1, 1] (rinit reProgs) (by simp [h0, h1])
        apply rstep_none_of_done
        · unfold reState; rw [this.1]; rfl
        · unfold reState; rw [this.2]; simp [rinit, reProgs, h0, h1]

/-- the same two threads, same schedule prefix, without the re-entry: both finish -/
example : (rrun { reentry := fun _ => false } (rinit reProgs) [0, 0, 1, 0, 0, 0, 0, 1, 1, 1, 1]).pc 1 = .idle ∧
    (rrun { reentry := fun _ => false } (rinit reProgs) [0, 0, 1, 0, 0, 0, 0, 1, 1, 1, 1]).loaded 0 = true := by
  decide +kernel

/-- a single thread whose module re-enters the package lock is fine under the RLock (nested acquisition) -/
example : (rrun reCfg (rinit reProgs) [0, 0, 0, 0, 0, 0, 0, 0]).pc 0 = .idle := by decide +kernel


/-! ### the full model: importlib's module locks, both routes, class configuration, dispatch fill -/

open SqlglotModel.Threads.Full

/-- finite table fact, decided completely (ast of dialect.py, the two `__init__.py`, generator.py):
    `_Dialect.__new__` stores into `_classes` as its last statement before `return klass`; `get` and `__getitem__` go to
    `_try_load` also while `_is_initializing(key)`; neither lazy `__getattr__` reads `sys.modules` / `globals()` outside
    `with _import_lock`; `Generator.__init__` stores a table into `_DISPATCH_CACHE` only after `_build_dispatch` returned -/
theorem generated_shape_ok :
    shape = { registerLast := true, lookupsWait := true, dialectsLockFirst := true, optimizerLockFirst := true,
              buildThenStore := true } := by decide

/-- a configuration of the full model that has the orderings the source has -/
structure FullFromSource (cfg : FCfg) : Prop where
  reg : cfg.registerFirst = !shape.registerLast
  wait : cfg.lookupWaits = shape.lookupsWait
  fast : cfg.fastPath = !(shape.dialectsLockFirst && shape.optimizerLockFirst)
  early : cfg.publishEarly = !shape.buildThenStore

theorem FullFromSource.good {cfg : FCfg} (h : FullFromSource cfg) : Good cfg := by
  have := generated_shape_ok
  exact ⟨by rw [h.wait, this], by rw [h.fast, this]; rfl, by rw [h.early, this]; rfl⟩

theorem FullFromSource.registerLast {cfg : FCfg} (h : FullFromSource cfg) : cfg.registerFirst = false := by
  rw [h.reg, generated_shape_ok]; rfl

/-- importlib's lock of a module has one owner: two threads that are past its acquisition are the same thread -/
theorem full_module_lock_exclusive (cfg : FCfg) (progs : Tid → List Full.Op) (s : FState)
    (hr : FReach cfg (finit progs) s) (m : Mod) (t u : Tid) (f g : Full.Frame)
    (hf : f ∈ (s.threads t).stack) (hfm : f.holdsMod = some m)
    (hg : g ∈ (s.threads u).stack) (hgm : g.holdsMod = some m) : t = u :=
  (FInv.reach hr).m.mutex (mheld_pos hf hfm) (mheld_pos hg hgm)

/-- With importlib's module locks in the model a module body starts at most once for ANY mix of the attribute route,
    the string route (`_try_load`, no package lock) and nested imports, any number of threads — and whatever the
    package lock, the registry order or the fast paths look like. -/
theorem full_load_exactly_once (cfg : FCfg) (progs : Tid → List Full.Op) (s : FState)
    (hr : FReach cfg (finit progs) s) (m : Mod) : s.loads m ≤ 1 ∧ (s.loads m = 1 ↔ s.started m = true) :=
  once_of_loads ((FInv.reach hr).flag.loads m)

/-- results so far ++ sequential answers of what is left = the sequential result list, in every reachable state -/
theorem full_results_prefix (cfg : FCfg) (hsrc : FullFromSource cfg) (progs : Tid → List Full.Op) (s : FState)
    (hr : FReach cfg (finit progs) s) (t : Tid) :
    (s.threads t).results ++ (s.threads t).todo.map (fexpected cfg) = fseq cfg (progs t) :=
  ffinal_reach hsrc.good hr t

/-- Every complete schedule of programs mixing lazy attribute accesses, string look-ups and generator
    constructions gives every thread the results of running alone. -/
theorem full_results_schedule_independent (cfg : FCfg) (hsrc : FullFromSource cfg) (progs : Tid → List Full.Op)
    (sched : List Tid) (hc : FComplete (frun cfg (finit progs) sched)) (t : Tid) :
    ((frun cfg (finit progs) sched).threads t).results = fseq cfg (progs t) := by
  have h := ffinal_reach hsrc.good (freach_frun (FReach.init (cfg := cfg) (s0 := finit progs)) sched) t
  have hf := hc t
  simp only [Full.Thread.finished, Bool.and_eq_true, List.isEmpty_iff] at hf
  simpa [ffinal, Th, hf.2] using h

/-- every result any thread has obtained so far is the sequential answer of one of its calls -/
theorem full_every_result_sequential (cfg : FCfg) (hsrc : FullFromSource cfg) (progs : Tid → List Full.Op)
    (s : FState) (hr : FReach cfg (finit progs) s) (t : Tid) (r : Full.Res) (hmem : r ∈ (s.threads t).results) :
    ∃ op, op ∈ progs t ∧ r = fexpected cfg op := by
  have h := full_results_prefix cfg hsrc progs s hr t
  have : r ∈ fseq cfg (progs t) := by rw [← h]; exact List.mem_append_left _ hmem
  simp only [fseq, List.mem_map] at this
  obtain ⟨op, h1, h2⟩ := this
  exact ⟨op, h1, h2.symm⟩

/-- `_classes[...] = klass` is the LAST thing `__new__` does: whatever `Dialect.get` hands out is a fully configured
    class — in every reachable state, for every look-up result (this part needs the store order only). -/
theorem no_half_configured_class_visible (cfg : FCfg) (hreg : cfg.registerFirst = !shape.registerLast)
    (progs : Tid → List Full.Op) (s : FState) (hr : FReach cfg (finit progs) s) (t : Tid)
    (m : Mod) (found configured moduleDone : Bool)
    (hmem : Full.Res.cls m found configured moduleDone ∈ (s.threads t).results) (hf : found = true) :
    configured = true := by
  have hrl : cfg.registerFirst = false := by rw [hreg, generated_shape_ok]; rfl
  exact (resGood_reach hrl hr).cls hmem hf

/-- … and since look-ups also wait while the module is `_initializing`, the class is found, configured and its
    module body has finished. -/
theorem lookups_return_finished_classes (cfg : FCfg) (hsrc : FullFromSource cfg) (progs : Tid → List Full.Op)
    (s : FState) (hr : FReach cfg (finit progs) s) (t : Tid) (m : Mod) (found configured moduleDone : Bool)
    (hmem : Full.Res.cls m found configured moduleDone ∈ (s.threads t).results) :
    found = true ∧ configured = true ∧ moduleDone = true := by
  obtain ⟨op, _, h⟩ := full_every_result_sequential cfg hsrc progs s hr t _ hmem
  cases op <;> simp [fexpected] at h
  exact ⟨h.2.1, h.2.2.1, h.2.2.2⟩

/-- The lazy `__getattr__` takes the lock before it looks at `sys.modules`: it never returns a partially initialised
    module, whoever is importing it at the time. -/
theorem lazy_access_never_partial (cfg : FCfg) (hsrc : FullFromSource cfg) (progs : Tid → List Full.Op)
    (s : FState) (hr : FReach cfg (finit progs) s) (t : Tid) (m : Mod) (moduleDone : Bool)
    (hmem : Full.Res.attr m moduleDone ∈ (s.threads t).results) : moduleDone = true := by
  obtain ⟨op, _, h⟩ := full_every_result_sequential cfg hsrc progs s hr t _ hmem
  cases op <;> simp [fexpected] at h
  exact h.2

/-- `_build_dispatch` runs to the end before the table is stored: no generator ever gets a partial dispatch table. -/
theorem dispatch_never_partial (cfg : FCfg) (hsrc : FullFromSource cfg) (progs : Tid → List Full.Op)
    (s : FState) (hr : FReach cfg (finit progs) s) (t : Tid) (m : Mod) (n : Nat)
    (hmem : Full.Res.disp m n ∈ (s.threads t).results) : n = cfg.tableSize m := by
  obtain ⟨op, _, h⟩ := full_every_result_sequential cfg hsrc progs s hr t _ hmem
  cases op <;> simp [fexpected] at h
  obtain ⟨h1, h2⟩ := h
  subst h1; exact h2

/-! witnesses: each ordering the source does NOT have, in the same model -/

def fbase : FCfg := { body := fun _ => [], cfgSteps := fun _ => 2, tableSize := fun _ => 3, registerFirst := false,
                      lookupWaits := true, fastPath := false, publishEarly := false }

def ftwo (a b : List Full.Op) : Tid → List Full.Op := fun t => if t = 0 then a else if t = 1 then b else []

example : FullFromSource fbase := ⟨by decide, by decide, by decide, by decide⟩

/-- the ordering before ddc0df6 (store first, look-ups do not wait): thread 1's look-up gets the class while thread 0
    is still configuring it -/
theorem register_first_exposes_half_configured_class :
    ((frun { fbase with registerFirst := true, lookupWaits := false } (finit (ftwo [.lookup 0] [.lookup 0]))
        [0, 0, 0, 0, 0, 1]).threads 1).results = [.cls 0 true false false] := by decide +kernel

/-- store last but no waiting: configured, yet the rest of the module body has not run (athena's `_TrinoTokenizer`) -/
theorem no_wait_exposes_unfinished_module :
    ((frun { fbase with lookupWaits := false } (finit (ftwo [.lookup 0] [.lookup 0]))
        [0, 0, 0, 0, 0, 0, 0, 0, 1]).threads 1).results = [.cls 0 true true false] := by decide +kernel

/-- the seeded optimizer variant: a lock-free `sys.modules` fast path returns the module thread 0 is still executing -/
theorem fast_path_returns_partial_module :
    ((frun { fbase with fastPath := true } (finit (ftwo [.access 0] [.access 0]))
        [0, 0, 0, 0, 0, 1]).threads 1).results = [.attr 0 false] := by decide +kernel

/-- the seeded dispatch variant: the table is stored empty and filled in place — thread 1 gets it with 0 of 3 entries -/
theorem publish_early_exposes_partial_table :
    ((frun { fbase with publishEarly := true } (finit (ftwo [.gen 0] [.gen 0])) [0, 1]).threads 1).results
      = [.disp 0 0] := by decide +kernel

/-- non-vacuity: both routes, nested plain imports and generator fills, two threads, complete -/
def fdemoBody : Mod → List Item := fun m => if m = 2 then [.direct 0, .direct 1] else []
def fdemoProgs : Tid → List Full.Op := ftwo [.access 2, .lookup 1, .gen 2] [.lookup 2, .gen 2, .access 0]
def frr : Nat → List Tid
  | 0 => []
  | n + 1 => 0 :: 1 :: 1 :: 0 :: frr n

theorem full_demo_complete : FComplete (frun { fbase with body := fdemoBody } (finit fdemoProgs) (frr 30)) := by
  intro t
  by_cases h0 : t = 0
  · subst h0; decide +kernel
  · by_cases h1 : t = 1
    · subst h1; decide +kernel
    · have hmem : ∀ n, t ∉ frr n := by
        intro n
        induction n with
        | zero => exact List.not_mem_nil
        | succ k ih => simp [frr, h0, h1, ih]
      rw [frun_others _ t _ _ (hmem 30)]
      simp [finit, fdemoProgs, ftwo, h0, h1, Full.Thread.finished]

example : ((frun { fbase with body := fdemoBody } (finit fdemoProgs) (frr 30)).threads 1).results
    = [.cls 2 true true true, .disp 2 3, .attr 0 true] := by decide +kernel


/-! ### worker objects (Tokenizer / Parser / Generator instances) are created per call -/

open SqlglotModel.Threads.Workers

/-- finite table fact, decided completely: every method of a class under sqlglot/dialects that returns a
    Tokenizer / JSONPathTokenizer / Parser / Generator (by name or annotation) constructs it in the call —
    every `return` is a direct `self.<x>_class(...)` / `super().<same>(...)` call and the method neither reads nor
    writes an instance attribute cache — and all four factories of `Dialect` were found -/
theorem dialect_workers_fresh_per_call : workersFreshPerCall = true := by decide

/-- the worker model with the lifetime the source has -/
def WFromSource (cfg : WCfg) : Prop := cfg.cached = !workersFreshPerCall

theorem WFromSource.fresh {cfg : WCfg} (h : WFromSource cfg) : cfg.cached = false := by
  rw [h, dialect_workers_fresh_per_call]; rfl

/-- in every reachable state: names emitted by a call in flight are exactly those below its private counter, and the
    results so far plus the sequential answers of what is left are the sequential result list -/
theorem fresh_workers_results_prefix (cfg : WCfg) (hsrc : WFromSource cfg) (progs : Tid → List Nat) (s : WState)
    (hr : WReach cfg (winit progs) s) (t : Tid) :
    (s.threads t).results ++ (s.threads t).todo.map List.range = wseq (progs t) :=
  (WInv.reach hsrc.fresh hr t).fin

/-- With a fresh worker per call, every complete schedule of any number of threads calling through one shared
    Dialect instance gives every call the names it gets when run alone (`_t0 … _t(k-1)`). -/
theorem fresh_workers_schedule_independent (cfg : WCfg) (hsrc : WFromSource cfg) (progs : Tid → List Nat)
    (sched : List Tid) (hc : WComplete (wrun cfg (winit progs) sched)) (t : Tid) :
    ((wrun cfg (winit progs) sched).threads t).results = wseq (progs t) := by
  have h := (WInv.reach hsrc.fresh (wreach_wrun (WReach.init (cfg := cfg) (s0 := winit progs)) sched) t).fin
  simpa [wfinal, (hc t).2] using h

/-- WHY: one worker cached on the shared Dialect instance — two threads, one call of size 2 each; thread 1's reset
    lands between thread 0's two increments: thread 0 returns `_t0, _t0` (duplicate), thread 1 `_t1, _t2` (skipped) -/
def wtwo : Tid → List Nat := fun t => if t = 0 then [2] else if t = 1 then [2] else []

theorem cached_worker_breaks_results :
    ((wrun { cached := true } (winit wtwo) [0, 0, 1, 0, 1, 1, 0, 1]).threads 0).results = [[0, 0]] ∧
    ((wrun { cached := true } (winit wtwo) [0, 0, 1, 0, 1, 1, 0, 1]).threads 1).results = [[1, 2]] := by
  decide +kernel

/-- the same schedule with per-call workers: both calls return `_t0, _t1` -/
example : ((wrun { cached := false } (winit wtwo) [0, 0, 1, 0, 1, 1, 0, 1]).threads 0).results = [[0, 1]] ∧
    ((wrun { cached := false } (winit wtwo) [0, 0, 1, 0, 1, 1, 0, 1]).threads 1).results = [[0, 1]] := by decide +kernel

example : WFromSource { cached := false } := by unfold WFromSource; decide


/-! ### class construction rebinds, it never mutates an inherited table -/

open SqlglotModel.Threads.ClassTables

/-- finite table fact, decided completely (ast of every metaclass `__new__`/`__init__` and every `__init_subclass__`
    hook in sqlglot): each statement that updates a class attribute is a plain rebinding assignment; there is no
    augmented assignment, no `.update/.add/.pop/.setdefault/.append/…` call and no item store / delete on the value of a
    class attribute (other than on one the same hook has just rebound, and the `_classes` registry); the hooks of
    `_Dialect` and `Tokenizer` were found and do rebind -/
theorem metaclass_rebinds_never_mutates :
    metaclassMutations = [] ∧ 0 < metaclassRebinds ∧ 2 ≤ metaclassHooks.length := by decide

/-- the updates the model metaclass may perform, as the source performs them -/
def UpdsFromSource (us : List Upd) : Prop := metaclassMutations = [] → ∀ u ∈ us, u.isRebind = true

/-- FRAME PROPERTY: creating class `y` (the lazy first load of another dialect) with a metaclass that only rebinds
    changes neither the binding of any attribute of any other class `x` nor the content of the object it is bound to —
    for every store, every base, every list of updates. -/
theorem rebinding_construction_frame (s : Store) (hw : WF s) (y b : Nat) (us : List Upd)
    (hsrc : UpdsFromSource us) (x : Nat) (hx : x ≠ y) (a : Nat) :
    (construct s y b us).bind x a = s.bind x a ∧
    (construct s y b us).heap ((construct s y b us).bind x a) = s.heap (s.bind x a) := by
  have hall := hsrc metaclass_rebinds_never_mutates.1
  have hF : ClassTables.Frame s (construct s y b us) y := Frame.foldl us _ (Frame.inherit hw y b) hall
  have h1 := hF.others x hx a
  exact ⟨h1, by rw [h1]; exact hF.old _ (hw x a)⟩

/-- … and the store stays well formed, so the property carries over to any sequence of later loads -/
theorem rebinding_construction_wf (s : Store) (hw : WF s) (y b : Nat) (us : List Upd) (hsrc : UpdsFromSource us) :
    WF (construct s y b us) :=
  (Frame.foldl us _ (Frame.inherit hw y b) (hsrc metaclass_rebinds_never_mutates.1)).wf

/-- loading any number of further classes one after the other leaves every table of an earlier class alone -/
theorem rebinding_loads_frame (x a : Nat) : ∀ (loads : List (Nat × Nat × List Upd)) (s : Store), WF s →
    (∀ l ∈ loads, l.1 ≠ x ∧ UpdsFromSource l.2.2) →
    let s' := loads.foldl (fun st l => construct st l.1 l.2.1 l.2.2) s
    s'.bind x a = s.bind x a ∧ s'.heap (s'.bind x a) = s.heap (s.bind x a)
  | [], _, _, _ => ⟨rfl, rfl⟩
  | l :: ls, s, hw, hall => by
    have hl := hall l List.mem_cons_self
    have h1 := rebinding_construction_frame s hw l.1 l.2.1 l.2.2 hl.2 x (fun e => hl.1 e.symm) a
    have hw' := rebinding_construction_wf s hw l.1 l.2.1 l.2.2 hl.2
    have ih := rebinding_loads_frame x a ls _ hw' (fun m hm => hall m (List.mem_cons_of_mem _ hm))
    simp only [List.foldl_cons] at ih ⊢
    exact ⟨ih.1.trans h1.1, ih.2.trans h1.2⟩

/-- WHY: the seeded `klass.VALID_INTERVAL_UNITS |= {...}`: class 1 (postgres) inherits attribute 0 from the base class 0;
    creating class 2 (tsql) with an in-place update of the inherited object adds tsql's units to postgres' table -/
def ctStore : Store := { heap := fun o => if o = 0 then [1, 2] else [], bind := fun _ _ => 0, next := 1 }

theorem inplace_update_leaks_into_other_classes :
    (construct ctStore 2 0 [.mutate 0 [77]]).heap ((construct ctStore 2 0 [.mutate 0 [77]]).bind 1 0) = [1, 2, 77] ∧
    (construct ctStore 2 0 [.rebind 0 [77]]).heap ((construct ctStore 2 0 [.rebind 0 [77]]).bind 1 0) = [1, 2] ∧
    (construct ctStore 2 0 [.rebind 0 [77]]).heap ((construct ctStore 2 0 [.rebind 0 [77]]).bind 2 0) = [1, 2, 77] := by
  decide +kernel

example : WF ctStore := by intro c a; simp [ctStore]


/-! ### the per-class dispatch table is shared by all instances and never written through one -/

open SqlglotModel.Threads.SharedTable

/-- finite table fact, decided completely (ast of generator.py, generators/*.py, parser.py, parsers/*.py, tokens.py):
    `_DISPATCH_CACHE[...]` is stored exactly once, in the cache-filling branch of `Generator.__init__`; no method stores
    into, deletes from or calls a mutating method on `self._dispatch`, on an UPPER_CASE class table reached through
    `self`, or on a local alias of one of them -/
theorem shared_dispatch_never_written_per_instance :
    perInstanceCacheWrites = [] ∧ dispatchCacheStores = 1 := by decide

def TFromSource (cfg : TCfg) : Prop := cfg.ctorWrites = !perInstanceCacheWrites.isEmpty

theorem TFromSource.readonly {cfg : TCfg} (h : TFromSource cfg) : cfg.ctorWrites = false := by
  rw [h, shared_dispatch_never_written_per_instance.1]; rfl

/-- the shared table is never written: it has its initial content in every reachable state -/
theorem readonly_table_never_written (cfg : TCfg) (hsrc : TFromSource cfg) (slot0 : Nat)
    (progs : Tid → List (Nat × Nat)) (s : TState) (hr : TReach cfg (tinit slot0 progs) s) : s.slot = slot0 :=
  (TInv.reach hsrc.readonly hr).slot

/-- Fresh workers + a READ-ONLY shared table: every complete schedule of any number of threads whose calls differ in
    their dialect settings gives each call the entries rendered by the handler of its OWN setting. -/
theorem readonly_table_schedule_independent (cfg : TCfg) (hsrc : TFromSource cfg) (slot0 : Nat)
    (progs : Tid → List (Nat × Nat)) (sched : List Tid) (hc : TComplete (trun cfg (tinit slot0 progs) sched)) (t : Tid) :
    ((trun cfg (tinit slot0 progs) sched).threads t).results = tseq (progs t) := by
  have h := ((TInv.reach hsrc.readonly
    (treach_trun (TReach.init (cfg := cfg) (s0 := tinit slot0 progs)) sched)).th t).fin
  simpa [tfinal, (hc t).2] using h

/-- WHY: the constructor stores the handler for ITS setting into the shared slot — thread 0 (setting 3, "version=3.0")
    builds its worker, thread 1 (setting 4) builds its own before thread 0 renders: thread 0 renders with handler 4 -/
def ttwo : Tid → List (Nat × Nat) := fun t => if t = 0 then [(2, 3)] else if t = 1 then [(2, 4)] else []

theorem ctor_write_breaks_results :
    ((trun { ctorWrites := true } (tinit 4 ttwo) [0, 1, 0, 0, 0, 1, 1, 1]).threads 0).results = [[(0, 4), (1, 4)]] ∧
    ((trun { ctorWrites := false } (tinit 4 ttwo) [0, 1, 0, 0, 0, 1, 1, 1]).threads 0).results = [[(0, 3), (1, 3)]] ∧
    ((trun { ctorWrites := false } (tinit 4 ttwo) [0, 1, 0, 0, 0, 1, 1, 1]).threads 1).results = [[(0, 4), (1, 4)]] := by
  decide +kernel


/-! ### no unlocked shared container is written on the look-up hot path -/

open SqlglotModel.Threads.Memo

/-- finite table fact, decided completely (ast of `Dialect.get_or_raise`, `_Dialect.get / __getitem__ / _try_load`,
    `Dialect.__init__` and the `Tokenizer` / `Parser` / `Generator` constructors): the only stores / deletes / mutating calls
    on a module-level or class-level container outside a `with <lock>` are the audited ones (the `_classes` registry under
    importlib's module lock, the idempotent `_DISPATCH_CACHE` fill); at least seven of these eight functions were found
    (the bound that is decided; the translator counts 8) -/
theorem hot_path_shared_containers_locked_or_absent :
    hotPathUnlockedWrites = [] ∧ 7 ≤ hotPathFunctions := by decide

/-- the memo on the hot path as the source has it: none (or, equivalently for the model, one that never evicts) -/
def MFromSource (cfg : MCfg) : Prop :=
  cfg.mode = if hotPathUnlockedWrites.isEmpty then .noEvict else .nonatomic

theorem MFromSource.safe {cfg : MCfg} (h : MFromSource cfg) : cfg.mode ≠ .nonatomic := by
  rw [h, hot_path_shared_containers_locked_or_absent.1]; decide

/-- With no eviction — and likewise with an eviction that picks and deletes in one atomic step (under a lock) — no
    look-up of any thread ever raises, in any reachable state, whatever the keys, the capacity and the interleaving. -/
theorem memo_lookups_never_raise (cfg : MCfg) (hsafe : cfg.mode = .noEvict ∨ cfg.mode = .atomic) (cache0 : List Nat)
    (progs : Tid → List Nat) (s : MState) (hr : MReach cfg (minit cache0 progs) s) (t : Tid) :
    (s.threads t).errors = 0 :=
  (MInvar.reach (by rcases hsafe with h | h <;> simp [h]) hr t).noErr

/-- … and a thread that has nothing left to do has had every one of its look-ups return. -/
theorem memo_all_lookups_return (cfg : MCfg) (hsrc : MFromSource cfg) (cache0 : List Nat) (progs : Tid → List Nat)
    (sched : List Tid) (t : Tid)
    (hdone : ((mrun cfg (minit cache0 progs) sched).threads t).todo = [] ∧
             ((mrun cfg (minit cache0 progs) sched).threads t).pc = .idle) :
    ((mrun cfg (minit cache0 progs) sched).threads t).finished = (progs t).length ∧
    ((mrun cfg (minit cache0 progs) sched).threads t).errors = 0 := by
  have hI := MInvar.reach hsrc.safe (mreach_mrun (MReach.init (cfg := cfg) (s0 := minit cache0 progs)) sched)
  have hc := (hI t).count
  simp only [hdone.1, hdone.2, List.length_nil, if_true] at hc
  exact ⟨by omega, (hI t).noErr⟩

/-- WHY: capacity 1, the cache holds key 7; threads 0 and 1 miss on keys 1 and 2 at the same time, both pick 7 as the
    victim, thread 0 deletes it, thread 1's delete raises -/
def mtwo : Tid → List Nat := fun t => if t = 0 then [1] else if t = 1 then [2] else []

theorem nonatomic_evict_double_delete :
    ((mrun { mode := .nonatomic, cap := 1 } (minit [7] mtwo) [0, 1, 0, 1]).threads 1).errors = 1 ∧
    ((mrun { mode := .atomic, cap := 1 } (minit [7] mtwo) [0, 1, 0, 1]).threads 1).errors = 0 ∧
    ((mrun { mode := .atomic, cap := 1 } (minit [7] mtwo) [0, 1, 0, 1]).threads 1).finished = 1 := by
  decide +kernel

end SqlglotModel.Properties.C19
