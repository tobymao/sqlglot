/-
  C20 — An AST diff accounts for every node once and is empty only for equal trees.
  Only property theorems, non-vacuity examples and counter-example witnesses live here.

  Layer A theorems quantify over an ARBITRARY `Env`: any leaf lists, any index lists without duplicates, any
  similarity oracles (`sameType`, `dice`, `psim`, `innerSim`), any move detector and any Keep/Update decision.
  `PreOk` asks more of caller matchings than the docstring of `diff()` (nodes of the two trees): nodes of the two indexes,
  so no Identifier nodes, and injective on both sides.
-/
import SqlglotModel.Proofs.Diff
import SqlglotModel.Generated.C20

namespace SqlglotModel.Properties.C20
open SqlglotModel.Diff

/-- **the matching is injective on both sides** (no source and no target node is paired twice), for arbitrary oracles -/
theorem matching_injective (E : Env) (pre : List (Id × Id)) (hS : E.srcIndex.Nodup) (hT : E.tgtIndex.Nodup)
    (hp : PreOk E pre) :
    (fsts (matchAll E pre).all).Nodup ∧ (snds (matchAll E pre).all).Nodup :=
  ⟨matchAll_fsts_nodup hS hp, matchAll_snds_nodup hT hp⟩

/-- **matched nodes have the same type**: every pair the algorithm computes passed `_is_same_type`; with same-typed
    caller matchings so does every pair of the final matching -/
theorem matched_same_type (E : Env) (pre : List (Id × Id)) :
    (∀ p ∈ (matchAll E pre).computed, E.sameType p.1 p.2 = true) ∧
    ((∀ p ∈ pre, E.sameType p.1 p.2 = true) → ∀ p ∈ (matchAll E pre).all, E.sameType p.1 p.2 = true) :=
  ⟨matchAll_computed_sameType E pre, matchAll_all_sameType⟩

/-- matched nodes are nodes of the two indexes (non-identifier nodes of the two trees) -/
theorem matched_in_index (E : Env) (pre : List (Id × Id)) (hS : E.srcIndex.Nodup) (hT : E.tgtIndex.Nodup)
    (hp : PreOk E pre) :
    ∀ p ∈ (matchAll E pre).all, p.1 ∈ E.srcIndex ∧ p.2 ∈ E.tgtIndex :=
  fun _ hp' => ⟨matchAll_fst_mem hS hp hp', matchAll_snd_mem hT hp hp'⟩

/-- **caller matchings are respected**: each supplied pair is in the final matching, and its source (target) is
    the source (target) of no other pair -/
theorem prematch_respected (E : Env) (pre : List (Id × Id)) (hS : E.srcIndex.Nodup) (hT : E.tgtIndex.Nodup)
    (hp : PreOk E pre) :
    ∀ p ∈ pre, p ∈ (matchAll E pre).all ∧
      ∀ q ∈ (matchAll E pre).all, (q.1 = p.1 ∨ q.2 = p.2) → q = p := by
  intro p hpp
  have hin : p ∈ (matchAll E pre).all := List.mem_append_right _ hpp
  obtain ⟨h1, h2⟩ := matching_injective E pre hS hT hp
  exact ⟨hin, fun q hq hor => hor.elim (inj_of_nodup_map h1 hq hin) (inj_of_nodup_map h2 hq hin)⟩

/-- **source partition**: every node of the source index (= every non-identifier source node) is, in the full edit
    script, exactly once either removed or the source side of a Keep/Update pair -/
theorem source_partition (E : Env) (pre : List (Id × Id)) (hS : E.srcIndex.Nodup) (hp : PreOk E pre)
    (n : Id) (hn : n ∈ E.srcIndex) :
    (script E (matchAll E pre)).countP (Edit.removes n) + (script E (matchAll E pre)).countP (Edit.pairsSrc n) = 1 := by
  rw [countP_removes_script, countP_pairsSrc_script, ← List.count_append,
    (matchAll_perm_src E pre hS hp).count_eq, hS.count, if_pos hn]

/-- **target partition**: every node of the target index is exactly once either inserted or the target side of a
    Keep/Update pair -/
theorem target_partition (E : Env) (pre : List (Id × Id)) (hT : E.tgtIndex.Nodup) (hp : PreOk E pre)
    (n : Id) (hn : n ∈ E.tgtIndex) :
    (script E (matchAll E pre)).countP (Edit.inserts n) + (script E (matchAll E pre)).countP (Edit.pairsTgt n) = 1 := by
  rw [countP_inserts_script, countP_pairsTgt_script, ← List.count_append,
    (matchAll_perm_tgt E pre hT hp).count_eq, hT.count, if_pos hn]

/-- `delta_only=True` yields the full script minus its Keep edits: nothing else is dropped, no Keep survives -/
theorem delta_only_drops_exactly_keeps (E : Env) (M : Matching) :
    (∀ e ∈ script E M, e ∈ delta E M ∨ e.isKeep = true) ∧ (∀ e ∈ delta E M, e ∈ script E M ∧ e.isKeep = false) :=
  ⟨fun e he => by cases hk : e.isKeep <;> simp [delta, he, hk], fun e he => by simpa [delta] using he⟩

/-! ### the same statements for the tree-level model `diffTrees` (what the driver runs) -/

theorem diffTrees_matching_injective (P : Params) (S T : Tree) (dice : Id → Id → Nat) (pre : List (Id × Id))
    (hS : S.index.Nodup) (hT : T.index.Nodup) (hp : PreOk (envOf P S T dice) pre) (d : Bool) :
    (fsts (diffTrees P S T dice pre d).matching).Nodup ∧ (snds (diffTrees P S T dice pre d).matching).Nodup :=
  matching_injective (envOf P S T dice) pre hS hT hp

theorem diffTrees_source_partition (P : Params) (S T : Tree) (dice : Id → Id → Nat) (pre : List (Id × Id))
    (hS : S.index.Nodup) (hp : PreOk (envOf P S T dice) pre) (n : Id) (hn : n ∈ S.index) :
    (diffTrees P S T dice pre false).edits.countP (Edit.removes n) +
      (diffTrees P S T dice pre false).edits.countP (Edit.pairsSrc n) = 1 :=
  source_partition (envOf P S T dice) pre hS hp n hn

theorem diffTrees_target_partition (P : Params) (S T : Tree) (dice : Id → Id → Nat) (pre : List (Id × Id))
    (hT : T.index.Nodup) (hp : PreOk (envOf P S T dice) pre) (n : Id) (hn : n ∈ T.index) :
    (diffTrees P S T dice pre false).edits.countP (Edit.inserts n) +
      (diffTrees P S T dice pre false).edits.countP (Edit.pairsTgt n) = 1 :=
  target_partition (envOf P S T dice) pre hT hp n hn

/-! ### a tree against its copy -/

/-- **the matching of a tree against its copy is the identity**: under the oracle facts `CopyOk` (twins have the same
    type, `dice x x'` is maximal and passes `f`, no pair beats a twin pair's parent similarity, twins pass the inner
    leaf-similarity test once the leaves are matched) nothing stays unmatched and every node is paired with its twin.
    The proof is the tie-break argument on the heap key `(-dice, -parent_similarity, push index)`. -/
theorem copy_identity_matching (E : Env) (φ : Id → Id) (h : CopyOk E φ) :
    (matchAll E []).unmatchedS = [] ∧ (matchAll E []).unmatchedT = [] ∧
      (∀ p ∈ (matchAll E []).all, p.2 = φ p.1) ∧ (∀ x ∈ E.srcIndex, (x, φ x) ∈ (matchAll E []).all) :=
  matchAll_twins h (.nil E φ)

/-- **the delta of a tree against its copy is empty**: with, in addition, twins `==`-identical with equal
    non-expression leaves (`isUpdate` false) and no Move for a twin pair whose parents are matched as twins -/
theorem copy_delta_empty (E : Env) (φ : Id → Id) (h : CopyOk E φ)
    (hupd : ∀ x ∈ E.srcIndex, E.isUpdate x (φ x) = false)
    (hmov : ∀ m u x, (∀ p ∈ m, p.2 = φ p.1) → (∀ y ∈ E.srcIndex, (y, φ y) ∈ m) → x ∈ E.srcIndex →
      E.moves m u x (φ x) = []) :
    delta E (matchAll E []) = [] :=
  delta_twins h (.nil E φ) hupd hmov

/-- `CopyOk` and the extra oracle facts are satisfiable: two leaves under a root, twins shifted by 10 -/
def copyEnv : Env where
  srcLeaves := [1, 2]
  tgtLeaves := [11, 12]
  srcIndex := [0, 1, 2]
  tgtIndex := [10, 11, 12]
  sameType := fun _ _ => true
  dice := fun _ _ => 1
  psim := fun _ _ => 0
  f := 1
  innerSim := fun _ _ _ => true
  moves := fun _ _ _ _ => []
  isUpdate := fun _ _ => false
  countPre := false

example : CopyOk copyEnv (· + 10) where
  tgtLeaves := rfl
  tgtIndex := rfl
  inj := by intro a b hab; simp at hab; exact hab
  srcNodup := by decide
  leavesNodup := by decide
  twinType := fun _ => rfl
  diceTop := fun _ _ _ => Nat.le_refl _
  fLe := fun _ => Nat.le_refl _
  psimTwin := fun _ _ => ⟨Nat.le_refl _, Nat.le_refl _⟩
  innerTwin := fun _ _ _ _ => rfl

/-! ### empty delta -/

/-- Layer A: an empty delta means nothing is unmatched and every matched pair produced no Move and ended in Keep -/
theorem delta_empty_layerA (E : Env) (M : Matching) (h : delta E M = []) :
    M.unmatchedS = [] ∧ M.unmatchedT = [] ∧
      ∀ p ∈ M.all, E.isUpdate p.1 p.2 = false ∧ E.moves M.all M.unmatchedS p.1 p.2 = [] :=
  (delta_eq_nil_iff E M).mp h

/-- **delta empty ⇒ equal, the part that holds today** (`…_partial`): with an empty delta every non-identifier node of
    both trees is matched (injectively, same type by `matched_same_type`), every matched pair has equal non-expression
    leaves, is `==`-identical whenever its type is updatable, and no child changed parent or order.
    MISSING for full equality: the Identifier children of a non-identical pair of NON-updatable type are compared only
    when `cmpIdents` holds (fix f25f43a), and argument keys are never compared — see the counterexamples below. -/
theorem delta_empty_imp_equal_partial (P : Params) (S T : Tree) (dice : Id → Id → Nat) (pre : List (Id × Id))
    (h : (diffTrees P S T dice pre true).edits = []) :
    let M := matchAll (envOf P S T dice) pre
    M.unmatchedS = [] ∧ M.unmatchedT = [] ∧
      ∀ p ∈ (diffTrees P S T dice pre true).matching,
        S.nel p.1 = T.nel p.2 ∧
        (S.updatable p.1 = true → S.eqc p.1 = T.eqc p.2) ∧
        (P.cmpIdents = true → P.identsAsDict = false → S.eqc p.1 = T.eqc p.2 ∨ S.idk p.1 = T.idk p.2) ∧
        movesOf S T M.all M.unmatchedS p.1 p.2 = [] := by
  intro M
  have hA := delta_empty_layerA (envOf P S T dice) M (diffTrees_delta P S T dice pre ▸ h)
  refine ⟨hA.1, hA.2.1, fun p (hp : p ∈ M.all) => ?_⟩
  obtain ⟨hu, hm⟩ := hA.2.2 p hp
  obtain ⟨h1, h2, h3⟩ := (isUpdateOf_eq_false (P := P) (S := S) (T := T)).mp hu
  exact ⟨h2, h1, fun hci hdict => (h3 hci).imp_right (identsEq_lists hdict S T _ _).mp, hm⟩

/-- the DESIGN §6 instance `SELECT a.b.c.d.e` vs `SELECT a.b.c.d.f`, as model trees: Select(0) → Dot(1) → [Column(2), Identifier(3)]
    against ids 10..13; the two Identifier leaves differ, hence the Dots and the Selects are not `==` -/
def witS : Tree where
  root := 0
  size := 5
  cls := fun i => i
  ty := fun i => i
  parent := fun i => match i with | 1 => some 0 | 2 => some 1 | 3 => some 1 | _ => none
  kids := fun i => match i with | 0 => [1] | 1 => [2, 3] | _ => []
  ignored := fun i => i == 3
  updatable := fun i => i == 2
  nel := fun _ => 0
  eqc := fun i => i
  akey := fun _ => 0
  txt := fun i => i
  lay := fun _ => 0

def witT : Tree where
  root := 10
  size := 5
  cls := fun i => i - 10
  ty := fun i => i - 10
  parent := fun i => match i with | 11 => some 10 | 12 => some 11 | 13 => some 11 | _ => none
  kids := fun i => match i with | 10 => [11] | 11 => [12, 13] | _ => []
  ignored := fun i => i == 13
  updatable := fun i => i == 12
  nel := fun _ => 0
  eqc := fun i => if i == 12 then 2 else i + 100
  akey := fun _ => 0
  txt := fun i => i
  lay := fun _ => 0

def witP (fix : Bool) : Params := ⟨1, (3, 5), (4, 5), (2, 5), 4, fix, false, false⟩
def witDice : Id → Id → Nat := fun _ _ => 2

/-- **`delta_empty_imp_equal` is false for the algorithm before fix f25f43a** (`cmpIdents = false`): the delta is empty,
    the roots are not equal.  With the fix the same pair yields `Update(Dot, Dot)`.  The instance shows the conclusion
    failing; it is not an instance of every other hypothesis (`EqcCongr witS witT` fails at the Identifier pair 3, 13). -/
theorem delta_empty_imp_equal_counterexample :
    (diffTrees (witP false) witS witT witDice [] true).edits = [] ∧
    witS.eqc witS.root ≠ witT.eqc witT.root ∧
    (diffTrees (witP true) witS witT witDice [] true).edits = [.update 1 11] := by
  decide +kernel

/-- the partial theorem's hypothesis is satisfiable (by the very same instance) -/
example : (diffTrees (witP false) witS witT witDice [] true).edits = [] := by decide +kernel

/-! ### equal ⇒ empty delta, on trees -/

/-- **equal ⇒ empty delta, the part that holds** (`…_partial`): for a well-formed tree `S` and a node-for-node copy `T`
    (same classes, same-type keys, non-expression leaves, `==` classes and rendered text, i.e. equality in the
    structural, case-SENSITIVE sense) the delta is empty and the matching is the identity — for every `f ≤ 1`, every `t`,
    assuming only the dice axiomatisation `DiceOk` (validated by the harness on every shipped pair) instead of the
    oracle facts of `copy_identity_matching`.  NOT covered: trees that are merely `==` (`Expr.__eq__` lower-cases
    string arguments) — see the counterexample. -/
theorem equal_imp_delta_empty_partial (P : Params) (S T : Tree) (dice : Id → Id → Nat) (φ : Id → Id) (top : Nat)
    (hc : IsCopy S T φ) (hw : TreeWF S) (hd : DiceOk S T dice top) (hf : P.f ≤ top) (hhi : P.hi.1 ≤ P.hi.2) :
    (diffTrees P S T dice [] true).edits = [] ∧
      (∀ p ∈ (diffTrees P S T dice [] true).matching, p.2 = φ p.1) ∧
      (∀ x ∈ S.index, (x, φ x) ∈ (diffTrees P S T dice [] true).matching) :=
  diffTrees_copy P S T dice φ top hc hw hd hf hhi (.nil _ φ)

/-- `SELECT Foo(x)` vs `SELECT FOO(x)` as model trees: Select(0) → Anonymous(1) → Column(2) → Identifier(3).  Every node is
    `==` its counterpart (same `eqc`), but the Anonymous names differ in case: different `_is_same_type` key, different
    non-expression leaves.  (`caseT` also gives the two upper nodes another text class; the real generator renders both
    statements alike, and nothing below depends on `txt`.) -/
def caseS : Tree where
  root := 0
  size := 5
  cls := fun i => i
  ty := fun i => i
  parent := fun i => match i with | 1 => some 0 | 2 => some 1 | 3 => some 2 | _ => none
  kids := fun i => match i with | 0 => [1] | 1 => [2] | 2 => [3] | _ => []
  ignored := fun i => i == 3
  updatable := fun i => i == 2
  nel := fun i => i
  eqc := fun i => i
  akey := fun _ => 0
  txt := fun i => i
  lay := fun _ => 0

def caseT : Tree where
  root := 10
  size := 5
  cls := fun i => i - 10
  ty := fun i => if i == 11 then 77 else i - 10
  parent := fun i => match i with | 11 => some 10 | 12 => some 11 | 13 => some 12 | _ => none
  kids := fun i => match i with | 10 => [11] | 11 => [12] | 12 => [13] | _ => []
  ignored := fun i => i == 13
  updatable := fun i => i == 12
  nel := fun i => if i == 11 then 77 else i - 10
  eqc := fun i => i - 10
  akey := fun _ => 0
  txt := fun i => if i == 11 || i == 10 then i + 70 else i - 10
  lay := fun _ => 0

/-- **`equal ⇒ empty delta` is false for `==`-equality**: the roots are `==` (same class) yet the delta is
    Remove(Anonymous) + Insert(Anonymous) + Move(Column) -/
theorem equal_imp_delta_empty_counterexample :
    caseS.eqc caseS.root = caseT.eqc caseT.root ∧
    (diffTrees (witP true) caseS caseT witDice [] true).edits = [.remove 1, .insert 11, .move 2 12] := by
  decide +kernel

/-- the hypotheses of `equal_imp_delta_empty_partial` are satisfiable: the witness source tree against its shifted copy -/
def witCopy : Tree where
  root := 10
  size := 5
  cls := fun i => i - 10
  ty := fun i => i - 10
  parent := fun i => match i with | 11 => some 10 | 12 => some 11 | 13 => some 11 | _ => none
  kids := fun i => match i with | 10 => [11] | 11 => [12, 13] | _ => []
  ignored := fun i => i == 13
  updatable := fun i => i == 12
  nel := fun _ => 0
  eqc := fun i => i - 10
  akey := fun _ => 0
  txt := fun i => i - 10
  lay := fun _ => 0

example : TreeWF witS := wf_imp witS (by decide +kernel)

example : IsCopy witS witCopy (· + 10) where
  inj := fun _ _ h => Nat.add_right_cancel h
  root := rfl
  size := rfl
  kids := fun x => match x with | 0 | 1 | 2 | 3 => rfl | _ + 4 => rfl
  parent := fun x => match x with | 0 | 1 | 2 | 3 => rfl | _ + 4 => rfl
  cls := fun x => Nat.add_sub_cancel x 10
  ty := fun x => Nat.add_sub_cancel x 10
  ignored := fun x => match x with | 0 | 1 | 2 | 3 => rfl | _ + 4 => rfl
  nel := fun _ => rfl
  eqc := fun x => Nat.add_sub_cancel x 10
  txt := fun x => Nat.add_sub_cancel x 10

/-- **delta empty ⇒ equal** (tree model, `==` classes as shipped), with the identifier-children comparison of fix f25f43a
    (`cmpIdents`, extracted from the source as `comparesIgnoredLeaves`).  For well-formed trees, same-typed well-formed
    caller matchings and ANY similarity oracle: if the delta is empty then the two roots are `==`.
    Assumed about the real `Expr.__eq__`: the structural congruence `EqcCongr` (validated on every shipped pair) and that
    the same-type key refines the class.
    THE REMAINING GAP, stated as hypothesis `hlay`: kept pairs have the same child layout (argument keys).  diff.py never
    compares argument keys, and without `hlay` the statement is false — `delta_empty_imp_equal_argkey_counterexample`
    (`x IN (y)` vs `x IN y`). -/
theorem delta_empty_imp_equal (P : Params) (S T : Tree) (dice : Id → Id → Nat) (pre : List (Id × Id))
    (hci : P.cmpIdents = true) (hdict : P.identsAsDict = false) (hwS : TreeWF S) (hwT : TreeWF T) (hrS : S.root ∈ S.index)
    (hp : PreOk (envOf P S T dice) pre) (hpty : ∀ p ∈ pre, S.ty p.1 = T.ty p.2)
    (hty : ∀ s t, S.ty s = T.ty t → S.cls s = T.cls t) (hcg : EqcCongr S T)
    (h : (diffTrees P S T dice pre true).edits = [])
    (hlay : ∀ p ∈ (diffTrees P S T dice pre true).matching, S.lay p.1 = T.lay p.2) :
    S.eqc S.root = T.eqc T.root :=
  have ⟨hpairs, hroot⟩ := delta_empty_imp_pairs_equal P S T dice pre hci hdict hwS hwT hp hpty hty hcg h hlay
  hpairs _ (hroot hrS)

/-- `SELECT x IN (y)` (In: this=x, expressions=[y]) vs `SELECT x IN y` (In: this=x, field=y) as model trees:
    Select(0) → In(1) → [Column x (2), Column y (3)]; only the layout class of the In node differs -/
def akS : Tree where
  root := 0
  size := 5
  cls := fun i => i
  ty := fun i => i
  parent := fun i => match i with | 1 => some 0 | 2 => some 1 | 3 => some 1 | _ => none
  kids := fun i => match i with | 0 => [1] | 1 => [2, 3] | _ => []
  ignored := fun _ => false
  updatable := fun i => i == 2 || i == 3
  nel := fun _ => 0
  eqc := fun i => i
  akey := fun _ => 0
  txt := fun i => i
  lay := fun _ => 0

def akT : Tree where
  root := 10
  size := 5
  cls := fun i => i - 10
  ty := fun i => i - 10
  parent := fun i => match i with | 11 => some 10 | 12 => some 11 | 13 => some 11 | _ => none
  kids := fun i => match i with | 10 => [11] | 11 => [12, 13] | _ => []
  ignored := fun _ => false
  updatable := fun i => i == 12 || i == 13
  nel := fun _ => 0
  eqc := fun i => if i == 12 || i == 13 then i - 10 else i + 100
  akey := fun _ => 0
  txt := fun i => i - 10
  lay := fun i => if i == 11 then 9 else 0

def akDice : Id → Id → Nat := fun s t => if s + 10 == t then 2 else 0

/-- **the gap is real**: with the identifier fix in place the delta of this pair is still empty although the roots are
    not `==`; the only difference is the In node's layout class (hypothesis `hlay` of `delta_empty_imp_equal` fails).
    Of the other hypotheses it shows both trees well-formed; `EqcCongr akS akT` fails off the trees (ids 4, 14). -/
theorem delta_empty_imp_equal_argkey_counterexample :
    (diffTrees (witP true) akS akT akDice [] true).edits = [] ∧
    akS.eqc akS.root ≠ akT.eqc akT.root ∧ akS.lay 1 ≠ akT.lay 11 ∧ akS.wf = true ∧ akT.wf = true := by
  decide +kernel

/-! ### Move generation -/

/-- the modelled `_lcs` returns a common subsequence: a subsequence of the first sequence, aligned elementwise
    (`equal(l, r)`) with a subsequence of the second -/
theorem lcs_is_common_subseq (eq : Id → Id → Bool) (as bs : List Id) :
    List.Sublist (lcs eq as bs) as ∧ ∃ bs', List.Sublist bs' bs ∧ Aligned eq (lcs eq as bs) bs' :=
  SqlglotModel.Diff.lcs_is_common_subseq eq as bs

/-- … and a longest one -/
theorem lcs_maximal (eq : Id → Id → Bool) (as bs l l' : List Id)
    (h1 : List.Sublist l as) (h2 : List.Sublist l' bs) (h3 : Aligned eq l l') : l.length ≤ (lcs eq as bs).length :=
  SqlglotModel.Diff.lcs_maximal eq as bs l l' h1 h2 h3

/-- `_generate_move_edits` emits `Move(a, matchings[a])` for a child `a` of the source node exactly when `a` is matched
    and not in the longest common subsequence of the two child lists under the matching -/
theorem move_iff_not_in_lcs (S T : Tree) (m : List (Id × Id)) (u : List Id) (s t a : Id) (b : Option Id) :
    (a, b) ∈ moveEdits S T m u s t ↔
      a ∈ S.exprArgs s ∧ a ∉ lcs (fun l r => lookup m l == some r) (S.exprArgs s) (T.exprArgs t) ∧ a ∉ u ∧
        b = lookup m a :=
  SqlglotModel.Diff.move_iff_not_in_lcs S T m u s t a b

/-! ### `diff()`: copies and hash caches -/
section WrapperProps
open SqlglotModel.Diff.Wrapper

/-- today's `diff()` (after b176b7b) leaves every input node's `_hash` cache exactly as it found it, in both branches,
    whatever the ChangeDistiller hashes meanwhile; objects outside the inputs and the copies are never touched -/
theorem diff_leaves_inputs_untouched (sw tw : Walk) (fs ft : Nat → Id) (hasM : Bool) (touched hash0 : Id → Bool)
    (hfs : ∀ i, fs i ∉ objs sw ++ objs tw) (hft : ∀ i, ft i ∉ objs sw ++ objs tw) :
    (∀ x ∈ objs sw ++ objs tw, (runDiff today sw tw fs ft hasM touched hash0).hashAfter x = hash0 x) ∧
    (∀ y, y ∉ objs sw ++ objs tw →
      y ∉ objs (runDiff today sw tw fs ft hasM touched hash0).seenS ++ objs (runDiff today sw tw fs ft hasM touched hash0).seenT →
      (runDiff today sw tw fs ft hasM touched hash0).hashAfter y = hash0 y) :=
  Wrapper.diff_leaves_inputs_untouched sw tw fs ft hasM touched hash0 hfs hft

/-- the ChangeDistiller never sees an object reachable from both roots (or twice from one), and every object it sees has
    its `.parent` inside the tree it is seen in: in a copy by construction, in an uncopied input by the hypothesis that
    unshared inputs are consistent -/
theorem diff_copies_when_shared (sw tw : Walk) (fs ft : Nat → Id) (hasM : Bool) (touched hash0 : Id → Bool)
    (hfsInj : ∀ i j, fs i = fs j → i = j) (hftInj : ∀ i j, ft i = ft j → i = j) (hdisj : ∀ i j, fs i ≠ ft j) :
    (objs (runDiff today sw tw fs ft hasM touched hash0).seenS ++
      objs (runDiff today sw tw fs ft hasM touched hash0).seenT).Nodup ∧
    (ValidPos sw → ValidPos tw → (needCopy sw tw = false → Consistent sw ∧ Consistent tw) →
      Consistent (runDiff today sw tw fs ft hasM touched hash0).seenS ∧
      Consistent (runDiff today sw tw fs ft hasM touched hash0).seenT) :=
  Wrapper.diff_copies_when_shared sw tw fs ft hasM touched hash0 hfsInj hftInj hdisj

/-- two trees sharing object 2, attached to the source last: its single `.parent` pointer is the source root 0 -/
def graftS : Walk := [⟨0, none, none⟩, ⟨2, some 0, some 0⟩]
def graftT : Walk := [⟨10, none, none⟩, ⟨2, some 0, some 0⟩]

/-- the seeded regression's shape: only the source is copied, hashes cleared unconditionally -/
def onlySourceCopied : Policy := ⟨.whenShared, .whenSelfDup, .always⟩
/-- `diff()` before fix 6c26962 -/
def beforeHashFix : Policy := ⟨.whenShared, .whenShared, .whenNotCopied⟩

/-- **why both trees must be copied**: with only the source copied the distiller receives a target containing an object
    whose parent lies in the other tree (the spurious-Move regression); today's policy hands it two consistent trees -/
theorem only_source_copied_witness :
    consistentB (runDiff onlySourceCopied graftS graftT (· + 100) (· + 200) false (fun _ => false) (fun _ => false)).seenT = false ∧
    consistentB (runDiff today graftS graftT (· + 100) (· + 200) false (fun _ => false) (fun _ => false)).seenT = true ∧
    consistentB (runDiff today graftS graftT (· + 100) (· + 200) false (fun _ => false) (fun _ => false)).seenS = true := by
  decide +kernel

/-- `diff()` between 6c26962 and b176b7b: evicts every input node's hash -/
def evictAllInputs : Policy := ⟨.whenShared, .whenShared, .unlessCopiesHashed⟩

/-- a subtree input of an already hashed tree: object 0 is the outer root (not an input), 1 and 11 are the inputs -/
def subS : Walk := [⟨1, none, some 0⟩]
def subT : Walk := [⟨11, none, none⟩]

/-- **why `finally` may evict only what `diff()` cached itself**: diffing the subtree 1 of the hashed tree 0 → 1 under
    the evict-all policy leaves the ancestor 0 hashed above an unhashed 1 (a later edit below 1 stops invalidating at 1:
    the root keeps a stale hash); today's policy leaves both as they were -/
theorem evict_all_breaks_ancestors_witness :
    (runDiff evictAllInputs subS subT (· + 100) (· + 200) false (fun _ => false) (fun x => x == 0 || x == 1)).hashAfter 1 = false ∧
    (runDiff evictAllInputs subS subT (· + 100) (· + 200) false (fun _ => false) (fun x => x == 0 || x == 1)).hashAfter 0 = true ∧
    (runDiff today subS subT (· + 100) (· + 200) false (fun _ => false) (fun x => x == 0 || x == 1)).hashAfter 1 = true ∧
    (runDiff today subS subT (· + 100) (· + 200) false (fun _ => false) (fun x => x == 0 || x == 1)).hashAfter 11 = false := by
  decide +kernel

/-- **why the `finally` guard is `not (copy and matchings)`** (explicit snapshot of the policy before 6c26962):
    `diff(t, t)` without matchings under the old guard leaves `_hash` cached on the input -/
theorem stale_hash_witness :
    (runDiff beforeHashFix [⟨0, none, none⟩] [⟨0, none, none⟩] (· + 100) (· + 200) false (fun _ => false) (fun _ => false)).hashAfter 0 = true ∧
    (runDiff today [⟨0, none, none⟩] [⟨0, none, none⟩] (· + 100) (· + 200) false (fun _ => false) (fun _ => false)).hashAfter 0 = false := by
  decide +kernel

/-- the freshness hypotheses are satisfiable -/
example : ∀ i : Nat, i + 100 ∉ objs graftS ++ objs graftT := by
  intro i; simp [objs, graftS, graftT]

/-- the copy condition, which trees are copied and the `finally` guard, as extracted from `diff()` on this run, are the
    ones the two theorems are about -/
theorem generated_wrapper_policy_ok : SqlglotModel.Generated.C20.wrapperPolicy = Wrapper.today := by decide +kernel

end WrapperProps

/-- the source compares the Identifier children of a kept, non-identical pair (fix f25f43a): the hypothesis `cmpIdents`
    of `delta_empty_imp_equal` holds for the parameters the driver runs with -/
theorem generated_compares_ignored_leaves : SqlglotModel.Generated.C20.comparesIgnoredLeaves = true := by decide +kernel

/-! ### the parent-link invariant -/

/-- **copy ⇒ empty delta, UNDER the link invariant on both inputs.**  `T` is a structural copy of `S` (same shape and
    payload, fresh objects — no assumption about `.parent` pointers), and both trees satisfy the C08 link invariant
    (`LinkInv`: every `.parent` pointer is the structural owner).  Then the delta is empty and every matched pair is a
    twin pair.  The Move test of `_generate_edit_script` compares `.parent` objects, so this assumption is essential:
    `missing_parent_link_move_witness`. -/
theorem copy_imp_delta_empty_linked (P : Params) (S T : Tree) (dice : Id → Id → Nat) (φ : Id → Id) (top : Nat)
    (hc : IsStructCopy S T φ) (hS : LinkInv S) (hT : LinkInv T) (hw : TreeWF S) (hd : DiceOk S T dice top)
    (hf : P.f ≤ top) (hhi : P.hi.1 ≤ P.hi.2) :
    (diffTrees P S T dice [] true).edits = [] ∧
      (∀ p ∈ (diffTrees P S T dice [] true).matching, p.2 = φ p.1) :=
  let h := equal_imp_delta_empty_partial P S T dice φ top (isCopy_of_struct hc hS hT) hw hd hf hhi
  ⟨h.1, h.2.1⟩

/-- `SELECT {abc: UInt32}` (ClickHouse query parameter): Select(0) → Placeholder(1) → [Var(2), DataType(3)].
    `linked = false` is the tree a constructor builds when Placeholder's children are not wired (`parent = None`),
    `linked = true` the same tree with its links — and what `.copy()` always produces. -/
def phTree (off : Nat) (linked : Bool) : Tree where
  root := off
  size := 5
  cls := fun i => i - off
  ty := fun i => i - off
  parent := fun i =>
    if i == off + 1 then some off
    else if (i == off + 2 || i == off + 3) && linked then some (off + 1) else none
  kids := fun i => if i == off then [off + 1] else if i == off + 1 then [off + 2, off + 3] else []
  ignored := fun _ => false
  updatable := fun i => i == off + 3
  nel := fun i => i - off
  eqc := fun i => i - off
  akey := fun _ => 0
  txt := fun i => i - off
  lay := fun _ => 0

/-- **without the link invariant a Move appears**: a tree whose Placeholder children have no parent pointer, diffed
    against its properly linked copy, yields `Move(Var)` and `Move(DataType)` although the two trees are `==`;
    with the links in place the delta is empty -/
theorem missing_parent_link_move_witness :
    (phTree 0 false).linkedB = false ∧ (phTree 10 true).linkedB = true ∧
    (phTree 0 false).eqc 0 = (phTree 10 true).eqc 10 ∧
    (diffTrees (witP true) (phTree 0 false) (phTree 10 true) witDice [] true).edits = [.move 2 12, .move 3 13] ∧
    (diffTrees (witP true) (phTree 10 true) (phTree 0 false) witDice [] true).edits = [.move 12 2, .move 13 3] ∧
    (diffTrees (witP true) (phTree 0 true) (phTree 10 true) witDice [] true).edits = [] := by
  decide +kernel

/-! ### the leaf predicate shared by diff and `==` (finite decision tables, decided completely) -/

/-- **diff's 'ignored values' are exactly `==`'s 'no value' set** over the nine scalar value classes
    (absent, None, False, [], 0, "", 1, "x", True), for the tables extracted from `_get_non_expression_leaves` and
    `Expr.__hash__` on this run; of `__hash__` the branch for classes without `_hash_raw_args` (`LeafPolicy.eqIgnores`), so
    Literal and Identifier, which hash their raw args, are not spoken of.  Finite table, decided completely. -/
theorem diff_leaf_skip_matches_eq :
    ∀ v ∈ ValClass.all, SqlglotModel.Generated.C20.leafPolicy.diffSkips v = SqlglotModel.Generated.C20.leafPolicy.eqIgnores v := by
  decide +kernel

/-- consequently, for every pair of values of one argument, the Keep-vs-Update test sees a difference exactly when
    `==` does (81 pairs, decided completely) — what `EqcCongr` needs from the leaf dictionaries -/
theorem leaf_difference_seen_iff_eq_sees :
    ∀ a ∈ ValClass.all, ∀ b ∈ ValClass.all,
      sameUnder SqlglotModel.Generated.C20.leafPolicy.diffSkips a b =
        sameUnder SqlglotModel.Generated.C20.leafPolicy.eqIgnores a b := by
  decide +kernel

/-- **the `not value` variant breaks it**: 0 on one side, absent on the other — indistinguishable for the leaf
    dictionaries (Keep), distinguishable for `==` (unequal trees): an empty delta for unequal trees -/
theorem not_value_variant_witness :
    sameUnder (notValuePolicy SqlglotModel.Generated.C20.leafPolicy.eqIgnores).diffSkips .zero .absent = true ∧
    sameUnder (notValuePolicy SqlglotModel.Generated.C20.leafPolicy.eqIgnores).eqIgnores .zero .absent = false ∧
    sameUnder (notValuePolicy SqlglotModel.Generated.C20.leafPolicy.eqIgnores).diffSkips .emptyStr .false_ = true ∧
    sameUnder (notValuePolicy SqlglotModel.Generated.C20.leafPolicy.eqIgnores).eqIgnores .emptyStr .false_ = false := by
  decide +kernel

/-! ### the Keep-vs-Update decision and Move detection, inside the model -/

/-- **`matched_pair_keep_iff_locally_equal`.**  For a matched pair that is not (updatable and changed), the script emits
    `Keep` exactly when the non-expression leaves agree AND (the nodes are `==` or) the ignored leaves — the ordered list of
    (arg key, Identifier) children modelled by `Tree.idk` — agree as LISTS; otherwise it emits `Update`.  With the partition
    theorems (every node is in exactly one kept/updated pair or removed/inserted) this is what makes an empty delta imply
    equal trees (`delta_empty_imp_equal`, which still has to assume equal argument-key layouts). -/
theorem matched_pair_keep_iff_locally_equal (P : Params) (S T : Tree) (dice : Id → Id → Nat) (M : Matching) (s t : Id)
    (hci : P.cmpIdents = true) (hdict : P.identsAsDict = false)
    (hnu : S.updatable s = false ∨ S.eqc s = T.eqc t) :
    (Edit.keep s t ∈ pairEdits (envOf P S T dice) M (s, t) ↔
      (S.nel s = T.nel t ∧ (S.eqc s = T.eqc t ∨ S.idk s = T.idk t))) ∧
    (Edit.update s t ∈ pairEdits (envOf P S T dice) M (s, t) ↔
      ¬(S.nel s = T.nel t ∧ (S.eqc s = T.eqc t ∨ S.idk s = T.idk t))) := by
  have hk : isUpdateOf P S T s t = false ↔ S.nel s = T.nel t ∧ (S.eqc s = T.eqc t ∨ S.idk s = T.idk t) := by
    have h1 : S.updatable s = true → S.eqc s = T.eqc t := fun hu => hnu.elim (fun h => nomatch hu.symm.trans h) id
    simp only [isUpdateOf_eq_false_lists hdict, hci, true_implies]
    exact ⟨fun h => h.2, fun h => ⟨h1, h⟩⟩
  rw [keep_mem_pairEdits, update_mem_pairEdits]
  exact ⟨hk, by rw [← Bool.not_eq_false]; exact not_congr hk⟩

/-- an updatable pair that is not `==` is always an `Update` -/
theorem updatable_changed_pair_is_update (P : Params) (S T : Tree) (dice : Id → Id → Nat) (M : Matching) (s t : Id)
    (hu : S.updatable s = true) (hne : S.eqc s ≠ T.eqc t) :
    pairEdits (envOf P S T dice) M (s, t) = [Edit.update s t] := by
  have h1 : movesOf S T M.all M.unmatchedS s t = [] := by simp [movesOf, hu, identical, hne]
  have h2 : isUpdateOf P S T s t = true := by simp [isUpdateOf, hu, identical, hne]
  simp [pairEdits, envOf, h1, h2]

/-- **what the code guarantees for EVERY class** (`…_partial`): a difference of a matched, non-`==` pair that shows in its
    non-expression leaves or in its Identifier children surfaces as `Update` ON THAT PAIR — whether or not the class is
    in `UPDATABLE_EXPRESSION_TYPES` (updatable classes get it unconditionally).  Hence no class needs an updatable ancestor
    for such a difference.  EXCLUDED (not guaranteed by the code): differences confined to the argument-key layout
    (`delta_empty_imp_equal_argkey_counterexample`), and the ignored classes themselves (Identifier nodes are never
    matched: their difference is exactly what the owner's `idk` comparison surfaces). -/
theorem local_difference_surfaces_partial (P : Params) (S T : Tree) (dice : Id → Id → Nat) (M : Matching) (s t : Id)
    (hci : P.cmpIdents = true) (hdict : P.identsAsDict = false) (hne : S.eqc s ≠ T.eqc t)
    (hdiff : S.nel s ≠ T.nel t ∨ S.idk s ≠ T.idk t) :
    Edit.update s t ∈ pairEdits (envOf P S T dice) M (s, t) := by
  cases hu : S.updatable s with
  | true => rw [updatable_changed_pair_is_update P S T dice M s t hu hne]; simp
  | false =>
    refine ((matched_pair_keep_iff_locally_equal P S T dice M s t hci hdict (Or.inl hu)).2).mpr ?_
    rintro ⟨h1, h2 | h2⟩
    · exact hne h2
    · rcases hdiff with h | h
      · exact h h1
      · exact h h2

/-- **Move detection for `==` pairs**: a matched pair of identical nodes gets `Move(s, t)` exactly when their parents are
    not matched to each other (one has no parent and the other has, or both have and the pair of parents is not in the
    matching); nothing else is emitted as a Move for it.  Tied to the real code by the edit-multiset correspondence. -/
theorem move_iff_parents_not_matched (S T : Tree) (m : List (Id × Id)) (u : List Id) (s t : Id)
    (hN : (fsts m).Nodup) (hid : S.eqc s = T.eqc t) :
    (movesOf S T m u s t = [(s, some t)] ∨ movesOf S T m u s t = []) ∧
    (movesOf S T m u s t = [(s, some t)] ↔
      match S.parent s, T.parent t with
      | some ps, some pt => (ps, pt) ∉ m
      | none, none => False
      | _, _ => True) := by
  rw [movesOf_identical m u hid]
  constructor
  · split <;> simp
  · have : (if parentMoved S T m s t = true then [(s, some t)] else []) = [(s, some t)] ↔
        ¬ parentMoved S T m s t = false := by split <;> simp [*]
    rw [this, parentMoved_eq_false]
    cases S.parent s <;> cases T.parent t <;> simp
    exact ⟨fun h hm => h (lookup_of_mem hN hm), fun h hl => h (lookup_mem hl)⟩

/-- `USING (a, b)` vs `USING (c, b)`: Select(0) → Join-like node(1) whose only children are two Identifiers under the SAME
    list argument; the first identifier differs -/
def usingTree (off first : Nat) : Tree where
  root := off
  size := 5
  cls := fun i => i - off
  ty := fun i => i - off
  parent := fun i => if i == off + 1 then some off else if i == off + 2 || i == off + 3 then some (off + 1) else none
  kids := fun i => if i == off then [off + 1] else if i == off + 1 then [off + 2, off + 3] else []
  ignored := fun i => i == off + 2 || i == off + 3
  updatable := fun _ => false
  nel := fun _ => 0
  eqc := fun i => if i == off + 2 then first else if i == off + 3 then 21 else if i == off + 1 then 50 + first else 80 + first
  akey := fun i => if i == off + 2 || i == off + 3 then 7 else 0
  txt := fun i => i - off
  lay := fun _ => 0

/-- **why the ignored leaves must be compared as a list**: keyed by arg key (a dict) the two identifiers of one list
    argument collapse to the last one, `USING (a, b)` vs `USING (c, b)` ends in Keep and the delta of two unequal trees is
    empty; compared as lists the pair is an Update -/
theorem ident_dict_collapse_witness :
    (usingTree 0 20).idk 1 = [(7, 20), (7, 21)] ∧ (usingTree 10 22).idk 11 = [(7, 22), (7, 21)] ∧
    (usingTree 0 20).eqc 0 ≠ (usingTree 10 22).eqc 10 ∧
    (diffTrees ⟨1, (3, 5), (4, 5), (2, 5), 4, true, false, true⟩ (usingTree 0 20) (usingTree 10 22) witDice [] true).edits = [] ∧
    (diffTrees ⟨1, (3, 5), (4, 5), (2, 5), 4, true, false, false⟩ (usingTree 0 20) (usingTree 10 22) witDice [] true).edits
      = [.update 1 11] := by
  decide +kernel

/-- **decision over the live class tables** (every Expression subclass, `isinstance` semantics, decided completely): no
    class is both updatable and ignored, some class is ignored, some is updatable.  Together with
    `local_difference_surfaces_partial` (which holds for every class, updatable or not) and `updatable_changed_pair_is_update`
    this is the whole interplay: an updatable class surfaces ANY change of a matched pair as Update; every other
    non-ignored class surfaces scalar-argument and Identifier-child changes as Update on the pair itself; an ignored class
    is never diffed and is covered by its owner's `idk` comparison. -/
theorem class_tables_decision :
    (SqlglotModel.Generated.C20.classTable.all fun e => !(e.1 && e.2)) = true ∧
    (SqlglotModel.Generated.C20.classTable.any fun e => e.2) = true ∧
    (SqlglotModel.Generated.C20.classTable.any fun e => e.1) = true := by
  decide +kernel

/-- the source builds the ignored leaves as an ordered list (read off the ast on this run) -/
theorem generated_ignored_leaves_are_lists : SqlglotModel.Generated.C20.ignoredLeavesAsDict = false := by decide +kernel

/-- constants re-extracted from sqlglot/diff.py on this run satisfy what the copy theorems need:
    the high leaf-similarity threshold and the default `f` are at most 1, and Identifier is the only ignored type -/
theorem generated_constants_ok :
    SqlglotModel.Generated.C20.thrHi.1 ≤ SqlglotModel.Generated.C20.thrHi.2 ∧
    0 < SqlglotModel.Generated.C20.thrHi.2 ∧
    SqlglotModel.Generated.C20.defaultF.1 ≤ SqlglotModel.Generated.C20.defaultF.2 ∧
    SqlglotModel.Generated.C20.ignoredLeafTypes = ["Identifier"] := by
  decide +kernel

end SqlglotModel.Properties.C20
