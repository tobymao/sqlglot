/-
  Reference SQL bag semantics used by C11 (DESIGN §3 / §4 C11): values, Kleene three-valued logic,
  joins with NULL padding, GROUP BY, aggregates, set operations as multiplicities, ORDER BY keys.
  Written declaratively and independently of the executor's algorithms (Model/Exec.lean mirrors those).
  No proofs here.  Validated against SQLite and DuckDB by vf/props/c11.py (assumption check A-engine).

  Fragment: NULL / BOOLEAN / INTEGER / TEXT values in type-homogeneous columns.  `Val.cmp` is total (constructor
  tag first) only so that the order is a linear order; comparisons across types are outside the fragment
  (Python raises TypeError there, which execute() turns into ExecuteError).
-/
namespace SqlglotModel.Sem

inductive Val where
  | null
  | bool (b : Bool)
  | int (i : Int)
  | str (s : String)
deriving DecidableEq, Repr, Inhabited

abbrev Row := List Val
abbrev Key := List Val
/-- SQL truth values: `none` is UNKNOWN -/
abbrev Tri := Option Bool

def Val.isNull : Val → Bool
  | .null => true
  | _ => false

/-! ### a stable sort (structurally recursive, so that concrete instances evaluate in the kernel) -/
def insertSorted {α} (le : α → α → Bool) (x : α) : List α → List α
  | [] => [x]
  | y :: ys => if le x y then x :: y :: ys else y :: insertSorted le x ys

/-- insertion sort from the right: stable (an element goes in front of the first later element it is `≤` to) -/
def stableSort {α} (le : α → α → Bool) : List α → List α
  | [] => []
  | x :: xs => insertSorted le x (stableSort le xs)

/-! ### Kleene logic -/
def and3 : Tri → Tri → Tri
  | some false, _ => some false
  | _, some false => some false
  | some true, some true => some true
  | _, _ => none

def or3 : Tri → Tri → Tri
  | some true, _ => some true
  | _, some true => some true
  | some false, some false => some false
  | _, _ => none

def not3 : Tri → Tri
  | some b => some (!b)
  | none => none

/-! ### comparisons -/
def Val.tag : Val → Nat
  | .null => 0
  | .bool _ => 1
  | .int _ => 2
  | .str _ => 3

/-- total comparison: within one type the SQL / Python order (False < True, integers, code-point order of text) -/
def Val.cmp : Val → Val → Ordering
  | .null, .null => .eq
  | .bool a, .bool b => compare a b
  | .int a, .int b => compare a b
  | .str a, .str b => compare a b
  | a, b => compare a.tag b.tag

inductive CmpOp where
  | eq | ne | lt | le | gt | ge
deriving DecidableEq, Repr

def CmpOp.test : CmpOp → Ordering → Bool
  | .eq, o => o == .eq
  | .ne, o => o != .eq
  | .lt, o => o == .lt
  | .le, o => o != .gt
  | .gt, o => o == .gt
  | .ge, o => o != .lt

/-- `a op b` in SQL: UNKNOWN when either side is NULL -/
def cmp3 (op : CmpOp) : Val → Val → Tri
  | .null, _ => none
  | _, .null => none
  | a, b => some (op.test (Val.cmp a b))

/-- `v IN (c₁, …, cₙ)` is `v = c₁ OR … OR v = cₙ` -/
def in3 (v : Val) : List Val → Tri
  | [] => some false
  | c :: cs => or3 (cmp3 .eq v c) (in3 v cs)

/-- `v op ANY (x₁ … xₙ)` = `v op x₁ OR … OR v op xₙ`;  `v op ALL (…)` = the conjunction (empty: FALSE / TRUE) -/
def any3 (op : CmpOp) (v : Val) : List Val → Tri
  | [] => some false
  | x :: xs => or3 (cmp3 op v x) (any3 op v xs)

def all3 (op : CmpOp) (v : Val) : List Val → Tri
  | [] => some true
  | x :: xs => and3 (cmp3 op v x) (all3 op v xs)

/-- `v IN (subquery)` is `v = ANY (…)`; `v NOT IN (subquery)` its negation (= `v <> ALL (…)`, `not_in_is_all_ne`) -/
def inSub (v : Val) (xs : List Val) : Tri := any3 .eq v xs
def notInSub (v : Val) (xs : List Val) : Tri := not3 (any3 .eq v xs)

/-! ### values used as conditions; a small expression language -/
/-- truth of a non-NULL value used as a condition (boolean-typed in the fragment; for other types the Python rule) -/
def truthy : Val → Bool
  | .null => false
  | .bool b => b
  | .int i => i != 0
  | .str s => s != ""

def toTri : Val → Tri
  | .null => none
  | v => some (truthy v)

def triVal : Tri → Val
  | none => .null
  | some b => .bool b

inductive Expr where
  | col (i : Nat)
  | lit (v : Val)
  | cmp (op : CmpOp) (a b : Expr)
  | and (a b : Expr)
  | or (a b : Expr)
  | not (a : Expr)
  | isNull (a : Expr) (negate : Bool)
  | inList (a : Expr) (vs : List Val)
deriving Repr

def getCol (r : Row) (i : Nat) : Val := r.getD i .null

/-- SQL value of an expression on a row (predicates yield TRUE / FALSE / NULL) -/
def eval (row : Row) : Expr → Val
  | .col i => getCol row i
  | .lit v => v
  | .cmp op a b => triVal (cmp3 op (eval row a) (eval row b))
  | .and a b => triVal (and3 (toTri (eval row a)) (toTri (eval row b)))
  | .or a b => triVal (or3 (toTri (eval row a)) (toTri (eval row b)))
  | .not a => triVal (not3 (toTri (eval row a)))
  | .isNull a negate => .bool ((eval row a).isNull != negate)
  | .inList a vs => triVal (in3 (eval row a) vs)

/-- a row pair satisfies ON / a row satisfies WHERE iff the predicate is TRUE -/
def holds (e : Expr) (row : Row) : Bool := eval row e = .bool true

/-! ### joins -/
inductive Side where
  | inner | left | right | full
deriving DecidableEq, Repr

def Side.keepsLeft : Side → Bool
  | .left | .full => true
  | _ => false

def Side.keepsRight : Side → Bool
  | .right | .full => true
  | _ => false

def nulls (n : Nat) : Row := List.replicate n Val.null

/-- `on l r` = "the ON predicate is TRUE for the pair" (UNKNOWN and FALSE both reject) -/
def matchesOf (on : Row → Row → Bool) (L R : List Row) : List Row :=
  L.flatMap fun l => (R.filter (on l)).map (l ++ ·)

def leftUnmatched (on : Row → Row → Bool) (wJ : Nat) (L R : List Row) : List Row :=
  (L.filter fun l => !R.any (on l)).map (· ++ nulls wJ)

def rightUnmatched (on : Row → Row → Bool) (wS : Nat) (L R : List Row) : List Row :=
  (R.filter fun r => !L.any (on · r)).map (nulls wS ++ ·)

/-- L ⋈ R: every matching pair; an outer side additionally keeps each of its rows that matched nothing, NULL-padded
    to the other side's width -/
def join (side : Side) (on : Row → Row → Bool) (wS wJ : Nat) (L R : List Row) : List Row :=
  matchesOf on L R
    ++ (if side.keepsLeft then leftUnmatched on wJ L R else [])
    ++ (if side.keepsRight then rightUnmatched on wS L R else [])

/-! ### GROUP BY -/
/-- first occurrences, in order -/
def dedup {α} [DecidableEq α] : List α → List α
  | [] => []
  | a :: as => a :: (dedup as).filter (· ≠ a)

/-- one output row per distinct key (NULL keys are equal to each other): key ++ aggregates over the rows of the group -/
def groupAgg (keyOf : Row → Key) (agg : List Row → Row) (rows : List Row) : List Row :=
  (dedup (rows.map keyOf)).map fun k => k ++ agg (rows.filter fun r => keyOf r = k)

/-- aggregate without GROUP BY: exactly one row, also over the empty input -/
def globalAgg (agg : List Row → Row) (rows : List Row) : List Row := [agg rows]

/-! ### aggregates: NULLs are ignored; over no non-NULL input COUNT is 0, the others NULL -/
def nonNull (vs : List Val) : List Val := vs.filter (!·.isNull)

def Val.toInt : Val → Int
  | .int i => i
  | .bool true => 1
  | _ => 0

def aggCount (vs : List Val) : Val := .int (nonNull vs).length

def aggSum (vs : List Val) : Val :=
  if nonNull vs = [] then .null else .int ((nonNull vs).map Val.toInt).sum

/-- `m` is a least (`.lt`) / greatest (`.gt`) element of `vs` -/
def IsExtremum (dir : Ordering) (vs : List Val) (m : Val) : Prop :=
  m ∈ vs ∧ ∀ x ∈ vs, Val.cmp x m ≠ dir

/-! ### set operations, as multiplicities -/
def multIntersectAll (l r : Nat) : Nat := min l r
def multExceptAll (l r : Nat) : Nat := l - r
def multUnionAll (l r : Nat) : Nat := l + r
def multIntersect (l r : Nat) : Nat := if l ≠ 0 ∧ r ≠ 0 then 1 else 0
def multExcept (l r : Nat) : Nat := if l ≠ 0 ∧ r = 0 then 1 else 0
def multUnion (l r : Nat) : Nat := if l ≠ 0 ∨ r ≠ 0 then 1 else 0

/-- rows of a set operation from its multiplicity rule -/
def setOpRows (mult : Nat → Nat → Nat) (l r : List Row) : List Row :=
  (dedup (l ++ r)).flatMap fun x => List.replicate (mult (l.count x) (r.count x)) x

/-! ### ORDER BY -/
/-- comparison of two values under one ORDER BY item -/
def cmpKey (desc nullsFirst : Bool) (a b : Val) : Ordering :=
  match a.isNull, b.isNull with
  | true, true => .eq
  | true, false => if nullsFirst then .lt else .gt
  | false, true => if nullsFirst then .gt else .lt
  | false, false => if desc then Val.cmp b a else Val.cmp a b

/-- lexicographic comparison of rows under a list of ORDER BY items `(column value extractor, desc, nullsFirst)` -/
def cmpRows : List ((Row → Val) × Bool × Bool) → Row → Row → Ordering
  | [], _, _ => .eq
  | (f, d, nf) :: ks, a, b =>
    match cmpKey d nf (f a) (f b) with
    | .eq => cmpRows ks a b
    | o => o

/-- LIMIT / OFFSET on an ordered sequence -/
def limitOffset (limit : Option Nat) (offset : Nat) (rows : List Row) : List Row :=
  match limit with
  | none => rows.drop offset
  | some n => (rows.drop offset).take n

/-- SELECT projs FROM rows WHERE cond (a row is kept iff the condition is TRUE; `none` = no WHERE / SELECT *) -/
def keeps (cond : Option (Row → Val)) (r : Row) : Bool :=
  match cond with
  | some c => truthy (c r)
  | none => true

def projRow (projs : Option (Row → Row)) (r : Row) : Row :=
  match projs with
  | some p => p r
  | none => r

def selectWhere (cond : Option (Row → Val)) (projs : Option (Row → Row)) (rows : List Row) : List Row :=
  (rows.filter (keeps cond)).map (projRow projs)

/-- ORDER BY items … LIMIT n OFFSET k: a stable sort by the ORDER BY comparison (ties keep the input order, which is
    one of the orders SQL allows), then the slice -/
def orderBy (items : List ((Row → Val) × Bool × Bool)) (limit : Option Nat) (offset : Nat) (rows : List Row) : List Row :=
  limitOffset limit offset (stableSort (fun a b => cmpRows items a b != .gt) rows)

end SqlglotModel.Sem

/-! ## single-table SELECT (the fragment `single_table_query_spec` is about) -/
namespace SqlglotModel.Sem

inductive AggFn where
  | sum | count | min | max
deriving DecidableEq, Repr

/-- reference value of an aggregate over a column's values: NULLs ignored, COUNT of nothing 0, the others NULL;
    MIN / MAX: the extremum (unique, `Exec.extremum_unique` in Proofs/ExecAgg.lean), computed by a left fold -/
def extremum (dir : Ordering) : List Val → Val
  | [] => .null
  | v :: vs => vs.foldl (fun m x => if Val.cmp x m = dir then x else m) v

def AggFn.apply : AggFn → List Val → Val
  | .sum, vs => aggSum vs
  | .count, vs => aggCount vs
  | .min, vs => extremum .lt (nonNull vs)
  | .max, vs => extremum .gt (nonNull vs)

/-- one output column of the SELECT list -/
inductive Out where
  | col (src : Nat) (alias : String)                 -- a table column (under GROUP BY: one of the keys)
  | agg (fn : AggFn) (src : Nat) (alias : String)    -- AGG(column)
deriving Repr

def Out.alias : Out → String
  | .col _ a => a
  | .agg _ _ a => a

/-- HAVING AGG(column) op literal -/
structure Having where
  fn : AggFn
  src : Nat
  op : CmpOp
  lit : Val
deriving Repr

/-- SELECT [DISTINCT] outs FROM t [WHERE w] [GROUP BY keys [HAVING h]] [ORDER BY output positions] [LIMIT n OFFSET k].
    `group = none`: no aggregation (every `Out` is `.col`); `some keys`: aggregation (keys = [] for a global aggregate). -/
structure Query where
  cols : List String
  where_ : Option Expr
  group : Option (List Nat)
  outs : List Out
  having : Option Having
  distinct : Bool
  order : List (Nat × Bool × Bool)
  limit : Option Nat
  offset : Nat
deriving Repr

def colVals (rows : List Row) (c : Nat) : List Val := rows.map fun r => getCol r c

/-- value of an output column for a group (`rep` = any row of the group; all agree on the keys) -/
def Out.eval (rep : Row) (grp : List Row) : Out → Val
  | .col c _ => getCol rep c
  | .agg f c _ => f.apply (colVals grp c)

def havingHolds (h : Option Having) (grp : List Row) : Bool :=
  match h with
  | none => true
  | some h => cmp3 h.op (h.fn.apply (colVals grp h.src)) h.lit = some true

/-- the groups of a GROUP BY: one per distinct key, in order of first occurrence; without keys one group, also when empty -/
def groupsOf (keys : List Nat) (rows : List Row) : List (List Row) :=
  if keys = [] then [rows]
  else (dedup (rows.map fun r => keys.map (getCol r))).map fun k => rows.filter fun r => keys.map (getCol r) = k

def whereHolds (w : Option Expr) (r : Row) : Bool :=
  match w with
  | none => true
  | some e => truthy (eval r e)

/-- rows before DISTINCT / ORDER BY / LIMIT -/
def Query.body (q : Query) (rows : List Row) : List Row :=
  let kept := rows.filter (whereHolds q.where_)
  match q.group with
  | none => kept.map fun r => q.outs.map (Out.eval r [r])
  | some keys =>
    ((groupsOf keys kept).filter (havingHolds q.having)).map fun g => q.outs.map (Out.eval (g.headD []) g)

def orderItems (order : List (Nat × Bool × Bool)) : List ((Row → Val) × Bool × Bool) :=
  order.map fun (c, d, nf) => ((fun r => getCol r c), d, nf)

/-- the answer of the query: a bag when there is no ORDER BY, a sequence under a total one -/
def Query.eval (q : Query) (rows : List Row) : List Row :=
  let b := q.body rows
  let d := if q.distinct then dedup b else b
  orderBy (orderItems q.order) q.limit q.offset d

end SqlglotModel.Sem
